import Pyxv.Model.Base
import Pyxv.Model.Xml
import Pyxv.Model.Json
import Pyxv.Model.OpsXml
import Pyxv.Generated.Tables
import Pyxv.Model.Form
import Pyxv.Model.Rows
import Pyxv.Model.OpsForm
import Pyxv.Model.Settings
import Pyxv.Model.SettingsSpec
import Pyxv.Model.SettingsRows
import Pyxv.Model.OpsSettings
import Pyxv.Model.Itext
import Pyxv.Model.OpsItext
import Pyxv.Proofs.Literals
import Pyxv.Proofs.ListLemmas
import Pyxv.Proofs.DictLemmas
import Pyxv.Proofs.BaseLemmas
import Pyxv.Proofs.Replay
import Pyxv.Proofs.FormHeads
import Pyxv.Proofs.FormLemmas
import Pyxv.Proofs.RowsLemmas
import Pyxv.Proofs.C02
import Pyxv.Proofs.C04
import Pyxv.Proofs.C17
import Pyxv.Proofs.XmlSpec
import Pyxv.Proofs.XmlLemmas
import Pyxv.Proofs.XmlRoundTrip
import Pyxv.Proofs.XmlView
import Pyxv.Model.Validator
import Pyxv.Model.ExtChoices
import Pyxv.Model.OpsValidator
import Pyxv.Proofs.ValidatorLemmas
import Pyxv.Proofs.ValidatorLines
import Pyxv.Proofs.ExtChoicesLemmas
import Pyxv.Proofs.C18
import Pyxv.Proofs.C18Lines
import Pyxv.Model.Channel
import Pyxv.Model.OpsChannel
import Pyxv.Proofs.ChannelSpec
import Pyxv.Proofs.ChannelLemmas
import Pyxv.Proofs.C06
import Pyxv.Model.Headers
import Pyxv.Model.Texts
import Pyxv.Model.TextsRepeat
import Pyxv.Model.TextSpec
import Pyxv.Model.OpsTexts
import Pyxv.Proofs.HeadersLemmas
import Pyxv.Proofs.C08
import Pyxv.Model.Process
import Pyxv.Model.OpsProcess
import Pyxv.Proofs.ProcessLemmas
import Pyxv.Proofs.C14
import Pyxv.Model.Binds
import Pyxv.Model.OpsBinds
import Pyxv.Proofs.BindsLemmas
import Pyxv.Proofs.C05
import Pyxv.Model.Choices
import Pyxv.Model.ChoicesSpec
import Pyxv.Model.OpsChoices
import Pyxv.Proofs.ChoicesLemmas
import Pyxv.Proofs.C09
import Pyxv.Model.ChoicesInline
import Pyxv.Proofs.C09Inline
import Pyxv.Model.Entities
import Pyxv.Model.EntitiesSpec
import Pyxv.Model.EntitiesHeaders
import Pyxv.Model.OpsEntities
import Pyxv.Proofs.EntitiesLemmas
import Pyxv.Proofs.C19
import Pyxv.Proofs.SettingsLemmas
import Pyxv.Proofs.C11
import Pyxv.Model.Refs
import Pyxv.Model.OpsRefs
import Pyxv.Proofs.RefsLemmas
import Pyxv.Proofs.ScanLemmas
import Pyxv.Proofs.C03
import Pyxv.Proofs.C03Rel
import Pyxv.Model.Warnings
import Pyxv.Model.WarningsExt
import Pyxv.Model.OpsWarnings
import Pyxv.Proofs.WarningsLemmas
import Pyxv.Proofs.C20
import Pyxv.Proofs.C20Ext
import Pyxv.Model.Lexer
import Pyxv.Model.OpsLexer
import Pyxv.Model.Defaults
import Pyxv.Model.OpsDefaults
import Pyxv.Proofs.LexerLemmas
import Pyxv.Proofs.DefaultsLemmas
import Pyxv.Proofs.C10
import Pyxv.Model.Backends
import Pyxv.Model.OpsBackends
import Pyxv.Proofs.BackendsLemmas
import Pyxv.Proofs.C12
import Pyxv.Model.BackendsGuards
import Pyxv.Proofs.CsvReader
import Pyxv.Proofs.BackendsCsv
import Pyxv.Proofs.BackendsMd
import Pyxv.Proofs.ItextLemmas
import Pyxv.Proofs.C07
import Pyxv.Model.JVal
import Pyxv.Model.OpsJVal
import Pyxv.Model.ToJson
import Pyxv.Model.FromJson
import Pyxv.Model.OpsToJson
import Pyxv.Model.FromJsonChoices
import Pyxv.Model.FromJsonSelects
import Pyxv.Model.OpsFromJsonChoices
import Pyxv.Proofs.JValLemmas
import Pyxv.Proofs.ToJsonLemmas
import Pyxv.Proofs.C16
import Pyxv.Proofs.C17Rows
import Pyxv.Model.Assemble
import Pyxv.Model.OpsAssemble
import Pyxv.Proofs.NcNameLemmas
import Pyxv.Proofs.AssembleLemmas
import Pyxv.Proofs.C01
import Pyxv.Proofs.C01Guard
import Pyxv.Proofs.C01Valid
import Pyxv.Model.Spell
import Pyxv.Model.SpellRow
import Pyxv.Model.OpsSpell
import Pyxv.Proofs.SpellLemmas
import Pyxv.Proofs.SpellHeaderLemmas
import Pyxv.Proofs.SpellCleanLemmas
import Pyxv.Proofs.SpellRowLemmas
import Pyxv.Proofs.C13
import Pyxv.Model.Rows17
import Pyxv.Model.OpsC17
import Pyxv.Proofs.Rows17Lemmas
import Pyxv.Proofs.C17Fixed
import Pyxv.Proofs.C17More
import Pyxv.Model.Controls
import Pyxv.Model.OpsControls
import Pyxv.Proofs.ControlsLemmas
import Pyxv.Proofs.C04Controls
import Pyxv.Proofs.C14Itext
import Pyxv.Proofs.C14Input
import Pyxv.Model.DefaultsRefs
import Pyxv.Proofs.C10Form
import Pyxv.Proofs.C10Refs
import Pyxv.Proofs.FromJsonLemmas
import Pyxv.Proofs.TextsLemmas
import Pyxv.Proofs.C08Text
import Pyxv.Proofs.C08Repeat
import Pyxv.Proofs.BackendsExcel
import Pyxv.Model.BackendsTyped
import Pyxv.Model.OpsBackendsTyped
import Pyxv.Proofs.C12Typed
import Pyxv.Model.EntitiesRefs
import Pyxv.Proofs.C19Compose
import Pyxv.Proofs.C19Headers
import Pyxv.Proofs.C03Tree
import Pyxv.Proofs.C03Hole
import Pyxv.Proofs.C07Rows
import Pyxv.Proofs.ItextIds
import Pyxv.Proofs.ItextSlots
import Pyxv.Proofs.ItextValues
import Pyxv.Model.TableList
import Pyxv.Proofs.C02Setvalues
import Pyxv.Proofs.C11Itext
import Pyxv.Model.RowLoop
import Pyxv.Model.RowLoopEnv
import Pyxv.Proofs.C17NoInternal
import Pyxv.Proofs.C17Catalogue
import Pyxv.Proofs.C01Complete
import Pyxv.Proofs.C01NameTree
import Pyxv.Proofs.C01Form
import Pyxv.Model.Convert
import Pyxv.Model.OpsConvert
import Pyxv.Proofs.ConvertHeads
import Pyxv.Proofs.Convert
import Pyxv.Proofs.ConvertText
import Pyxv.Proofs.ConvertC10
import Pyxv.Proofs.ConvertNames
import Pyxv.Proofs.ConvertC10Repeats
import Pyxv.Proofs.ConvertC10Doc
import Pyxv.Proofs.ConvertC10Defaults
import Pyxv.Proofs.ConvertC10DefaultsText
import Pyxv.Proofs.ConvertC10DefaultsFull
import Pyxv.Proofs.ConvertC10DefaultsLeaves
import Pyxv.Proofs.C05Xml
import Pyxv.Proofs.C05Headers
import Pyxv.Model.WarningsItext
import Pyxv.Proofs.QStableLemmas
import Pyxv.Proofs.QStable
import Pyxv.Proofs.ConvertC09
import Pyxv.Proofs.C11Backends
import Pyxv.Proofs.C07Sheets
import Pyxv.Proofs.C07Text
import Pyxv.Proofs.C03Flags
import Pyxv.Proofs.C03Text
import Pyxv.Model.RefsText
import Pyxv.Model.RefsSites
import Pyxv.Model.OpsRefsSites
import Pyxv.Proofs.C03Sites
import Pyxv.Proofs.C06Witness
import Pyxv.Model.PreLoop
import Pyxv.Proofs.C17Params
import Pyxv.Proofs.C17PreLoop
import Pyxv.Proofs.ConvertControls
import Pyxv.Proofs.C01NoBr
import Pyxv.Proofs.C17Choices
import Pyxv.Proofs.C01Tables
import Pyxv.Proofs.C05Rows
import Pyxv.Proofs.C07Paths
import Pyxv.Proofs.C11Headers
import Pyxv.Proofs.UniqueKeysDump
import Pyxv.Proofs.C06Instance
import Pyxv.Proofs.C08Headers
import Pyxv.Model.ReservedAttrs
import Pyxv.Proofs.C17Reserved
import Pyxv.Model.HeaderRules
import Pyxv.Model.OpsC17Headers
import Pyxv.Model.PreRules
import Pyxv.Model.OpsC17PreRules
import Pyxv.Proofs.C17PreRules
import Pyxv.Proofs.C17Headers
import Pyxv.Proofs.C17HeadersClosed
import Pyxv.Proofs.C13Types
import Pyxv.Proofs.C13Depth
import Pyxv.Proofs.C13Binds
import Pyxv.Proofs.ConvertPrep
import Pyxv.Proofs.OptionStable
import Pyxv.Proofs.C01Names
import Pyxv.Proofs.C16Choices
import Pyxv.Proofs.C16Selects
import Pyxv.Model.BindsRefs
import Pyxv.Model.OpsBindsRefs
import Pyxv.Proofs.C05Refs
import Pyxv.Model.ItextOutput
import Pyxv.Model.OpsItextOutput
import Pyxv.Proofs.C07Output
import Pyxv.Model.ItextOutputRepeat
import Pyxv.Model.OpsItextOutputRepeat
import Pyxv.Proofs.C07OutputRep
import Pyxv.Proofs.C01Tree
import Pyxv.Proofs.C01Binds
import Pyxv.Proofs.C01BindsCells
import Pyxv.Model.FormFlat
import Pyxv.Proofs.FormFlatLemmas
import Pyxv.Proofs.C02Flat
import Pyxv.Model.FormFlatInst
import Pyxv.Model.FormAttrs
import Pyxv.Proofs.C02FlatInst
import Pyxv.Proofs.C02Attrs
