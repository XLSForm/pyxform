import Pyxv.Proofs.ChannelSpec
import Pyxv.Proofs.XmlView
import Pyxv.Proofs.LexerLemmas
import Pyxv.Proofs.BaseLemmas
import Pyxv.Proofs.ScanLemmas
/-!
# Lemmas for the text channels (C06)

The reader's view keeps `shape`; on a cell-shaped text the two `re.sub` loops put one replacement per reference and copy the
rest (`subTo_tail`, `subRTo_tail`); the re-parse of what `insert_output_values` returns yields the prescribed children
(`nodeParsed_items`); `replace_with_output` is the identity when no `instance(` token occurs.
-/
namespace Pyxv.Chan
open Pyxv.Xml Pyxv.Asm

theorem expectedLax_nodeText (tag s : Str) :
    expectedLax (nodeText tag s) = .elem tag [] (chunk false (normEol s)) := by
  have hw : withSpaces (normAttrs (nodeText tag s)) = .elem tag [] [.text false s] := by
    simp [nodeText, normAttrs, normAttrList, normAttrsKids, withSpaces, withSpacesKids, isText, leadSp, trailSp,
      textIfNonempty]
  have h := normTextKids_textIf s []
  simp only [List.append_nil, normTextKids] at h
  rw [expectedLax, expected, hw, normNode_elem]
  simp only [normKids, normNode_text, mergeText_text, mergeText, prepend_nil_list, normText, h]
  rfl

/-! ## `shape` (tags + attribute names) does not look at text, so the reader's view keeps it -/

theorem shapes_text (b : Bool) (s : Str) (L : List Node) : shapes (.text b s :: L) = shapes L := by
  simp [shapes, shape]

theorem shapes_append (L1 L2 : List Node) : shapes (L1 ++ L2) = shapes L1 ++ shapes L2 :=
  append_of_eqns rfl (fun _ _ => rfl) L1 L2

mutual
theorem shape_eproj : ∀ (n : Node), shape (eproj n) = shape n
  | .text _ _ => by simp [eproj, shape]
  | .elem t a ks => by simp only [eproj, shape, shapes_eprojKids ks]
theorem shapes_eprojKids : ∀ (ks : List Node), shapes (eprojKids ks) = shapes ks
  | [] => by simp [eprojKids]
  | .text b s :: ks => by rw [eprojKids_text, shapes_text, shapes_eprojKids ks]
  | .elem t a ks' :: ks => by
    rw [eprojKids_elem, ← eproj_elem, shapes, shapes, shape_eproj, shapes_eprojKids ks]
end

theorem shapes_normKids : ∀ (ks : List Node), shapes (normKids ks) = shapes ks :=
  fun ks => by rw [← shapes_eprojKids, eprojKids_normKids, shapes_eprojKids]

theorem shapes_layoutKids : ∀ (ks : List Node) (ind add nl : Str), shapes (layoutKids ind add nl ks) = shapes ks :=
  fun ks ind add nl => by rw [← shapes_eprojKids, eprojKids_layoutKids, shapes_eprojKids]

theorem shapes_normTextKids : ∀ (ks : List Node), shapes (normTextKids ks) = shapes ks :=
  fun ks => by rw [← shapes_eprojKids, eprojKids_normTextKids, shapes_eprojKids]

mutual
theorem shape_normAttrs : ∀ (n : Node), shape (normAttrs n) = shape n
  | .text _ _ => by simp [normAttrs]
  | .elem t a ks => by
    simp only [normAttrs, shape, shapes_normAttrsKids ks]
    simp [normAttrList, Function.comp_def]
theorem shapes_normAttrsKids : ∀ (ks : List Node), shapes (normAttrsKids ks) = shapes ks
  | [] => by simp [normAttrsKids]
  | k :: ks => by simp [normAttrsKids, shapes, shape_normAttrs k, shapes_normAttrsKids ks]
end

theorem shape_view (pretty : Bool) (t : Node) : shape (view pretty t) = shape t := by
  rw [view_eq_of_eproj shape shape_eproj, shape_normAttrs]

/-! ## the `re.sub` loops `subOutputs` (of `insert_output_values`) and `subRefs` (of `insert_xpaths`) are
`Refs.substRefs`; they differ only in what replaces a reference -/

open Pyxv.Scan

/-- what `subOutputs` puts for a reference -/
abbrev replOut (refs : List (Str × Str)) : Str → Str → Bool → Str → Option Str :=
  fun _ _ ls n => (varRepl refs ls n).map outputMarkup

/-- what `subRefs` puts for a reference -/
abbrev replRef (refs : List (Str × Str)) : Str → Str → Bool → Str → Option Str :=
  fun _ _ ls n => varRepl refs ls n

theorem hasDollarBrace_cons {c : Char} {t : Str} (h : hasDollarBrace (c :: t) = false) :
    hasDollarBrace t = false ∧ (c = '$' → t.head? ≠ some '{') := by
  constructor
  · unfold hasDollarBrace at h
    split at h <;> simp_all
  · rintro rfl
    cases t with
    | nil => simp
    | cons d t => intro e; simp at e; subst e; simp [hasDollarBrace] at h

theorem _root_.Pyxv.Scan.Scans.text {repl : Str → Str → Bool → Str → Option Str} {X out : Str} (h : Scans repl X out)
    (hX : X.head? ≠ some '{') (t : Str) (ht : hasDollarBrace t = false) : Scans repl (t ++ X) (t ++ out) := by
  induction t with
  | nil => simpa using h
  | cons c t ih =>
    obtain ⟨ht', hb⟩ := hasDollarBrace_cons ht
    refine (ih ht').lit ?_
    by_cases hc : c = '$'
    · cases t with
      | nil => exact .inr hX
      | cons d t => exact .inr (by simpa using hb hc)
    · exact .inl hc

/-- `Scans (replOut refs) e out`, spelt with `subOutputs` -/
def SubTo (refs : List (Str × Str)) (e out : Str) : Prop :=
  ∀ fuel, e.length < fuel → subOutputs refs fuel e = some out

theorem subTo_iff {refs : List (Str × Str)} {e out : Str} : SubTo refs e out ↔ Scans (replOut refs) e out := by
  simp only [SubTo, Scans, subOutputs_eq]

theorem SubTo.prefix {refs : List (Str × Str)} {X out : Str} (h : SubTo refs X out) (p : Str)
    (hp : ∀ c ∈ p, c ≠ '$') : SubTo refs (p ++ X) (p ++ out) :=
  subTo_iff.mpr ((subTo_iff.mp h).plain p fun m => hp _ m rfl)

theorem escTextChar_no_dollar {c : Char} (h : c ≠ '$') : ∀ d ∈ escTextChar c, d ≠ '$' := by
  unfold escTextChar
  split <;> simp_all <;> decide

theorem escText_head_brace (t X : Str) (ht : t.head? ≠ some '{') (hX : X.head? ≠ some '{') :
    (escText t ++ X).head? ≠ some '{' := by
  cases t with
  | nil => simpa using hX
  | cons d t =>
    rw [escText_cons]
    have hd : d ≠ '{' := by simpa using ht
    unfold escTextChar
    split <;> simp_all

/-- the mixed channel escapes before it substitutes -/
theorem _root_.Pyxv.Scan.Scans.escText {repl : Str → Str → Bool → Str → Option Str} {X out : Str} (h : Scans repl X out)
    (hX : X.head? ≠ some '{') (t : Str) (ht : hasDollarBrace t = false) :
    Scans repl (escText t ++ X) (escText t ++ out) := by
  induction t with
  | nil => simpa using h
  | cons c t ih =>
    obtain ⟨ht', hb⟩ := hasDollarBrace_cons ht
    have := ih ht'
    rw [escText_cons, List.append_assoc, List.append_assoc]
    by_cases hc : c = '$'
    · subst hc
      exact this.lit (.inr (escText_head_brace t X (hb rfl) hX))
    · exact this.plain _ fun m => escTextChar_no_dollar hc _ m rfl

theorem escText_refMarkup (n : Str) (hn : NameOk n) : escText (refMarkup n) = refMarkup n := by
  apply escText_plain
  intro c hc
  simp only [refMarkup, List.mem_cons, List.mem_append, List.mem_nil_iff, or_false] at hc
  rcases hc with (rfl | rfl | hc) | rfl
  · decide
  · decide
  · exact ⟨(hn c hc).2.2.1, (hn c hc).2.2.2.1, (hn c hc).2.2.2.2⟩
  · decide

def TailOk : List (Str × Str) → Prop
  | [] => True
  | (n, t) :: rest => NameOk n ∧ hasDollarBrace t = false ∧ TailOk rest

theorem tailText_head (tail : List (Str × Str)) : (Cell.tailText tail).head? ≠ some '{' := by
  cases tail with
  | nil => simp [Cell.tailText]
  | cons nt rest => obtain ⟨n, t⟩ := nt; simp [Cell.tailText, refMarkup]

theorem escText_tailText_head (tail : List (Str × Str)) : (escText (Cell.tailText tail)).head? ≠ some '{' := by
  simpa using escText_head_brace (Cell.tailText tail) [] (tailText_head tail) (by simp)

/-- `varReplName` tests the `last-saved#` marker the way `matchRef` splits it off -/
theorem varRepl_of_name {refs : List (Str × Str)} {n v : Str} (hv : varReplName refs n = some v) :
    varRepl refs (splitLs n).1 (splitLs n).2 = some v := by
  unfold varReplName at hv
  unfold splitLs
  cases hs : startsWith n lastSavedTag <;> simp_all

theorem NameOk.body {n : Str} (hn : NameOk n) : ∀ c ∈ n, c ≠ '}' ∧ c ≠ '\n' :=
  fun c hc => ⟨(hn c hc).1, (hn c hc).2.1⟩

/-- what `BRACKETED_TAG_REGEX` extracts from `${n}…`: the `last-saved#` marker (if `n` starts with it) and the name -/
theorem matchRef_name (n rest : Str) (hn : NameOk n) :
    matchRef (n ++ '}' :: rest) =
      some (startsWith n lastSavedTag, (if startsWith n lastSavedTag then n.drop lastSavedTag.length else n), rest) :=
  matchRef_body n rest hn.body

theorem resolve_cons {refs : List (Str × Str)} {n t : Str} {rest items : List (Str × Str)}
    (h : resolve refs ((n, t) :: rest) = some items) :
    ∃ v items', varReplName refs n = some v ∧ resolve refs rest = some items' ∧ items = (v, t) :: items' := by
  simp only [resolve] at h
  split at h
  · next v items' hv hres => exact ⟨v, items', hv, hres, (Option.some.inj h).symm⟩
  · cases h

theorem subTo_tail (refs : List (Str × Str)) : ∀ (tail items : List (Str × Str)), TailOk tail →
    resolve refs tail = some items →
    Scans (replOut refs) (escText (Cell.tailText tail)) (itemsMarkup items)
  | [], items, _, hr => by
    cases hr
    exact Scans.nil
  | (n, t) :: rest, items, ⟨hn, ht, hrest⟩, hr => by
    obtain ⟨v, items', hv, hres, rfl⟩ := resolve_cons hr
    have h1 := (subTo_tail refs rest items' hrest hres).escText (escText_tailText_head rest) t ht
    simp only [Cell.tailText, escText_append, escText_refMarkup n hn, itemsMarkup]
    simp only [refMarkup, List.cons_append, List.append_assoc]
    exact Scans.ref (v := outputMarkup v) hn.body (by simp [varRepl_of_name hv]) h1

theorem subRTo_tail (refs : List (Str × Str)) : ∀ (tail items : List (Str × Str)), TailOk tail →
    resolve refs tail = some items → Scans (replRef refs) (Cell.tailText tail) (itemsAttr items)
  | [], items, _, hr => by
    cases hr
    exact Scans.nil
  | (n, t) :: rest, items, ⟨hn, ht, hrest⟩, hr => by
    obtain ⟨v, items', hv, hres, rfl⟩ := resolve_cons hr
    have h1 := (subRTo_tail refs rest items' hrest hres).text (tailText_head rest) t ht
    simp only [Cell.tailText, itemsAttr, refMarkup, List.cons_append, List.append_assoc]
    exact Scans.ref hn.body (by simp [varRepl_of_name hv]) h1

theorem chunk_false (s : Str) : chunk false s = textIfNonempty s := rfl

theorem ValOk.esc {v : Str} (h : ValOk v) : escAttr v = v :=
  escAttr_plain v fun c hc => (h c hc).2

theorem ValOk.attrOk {v : Str} (h : ValOk v) : v.all attrCharOk = true :=
  List.all_eq_true.mpr fun c hc => (h c hc).1

-- character-list forms of the literals of `outputNode` and `fragmentDoc`, so that proofs meet no `String.toList`
def tagOutput : Str := ['o','u','t','p','u','t']
def attrValue : Str := ['v','a','l','u','e']
def declSpaced : Str := ['<','?','x','m','l',' ','v','e','r','s','i','o','n','=','"','1','.','0','"',' ','?','>']

theorem outputMarkup_eq (v X : Str) : outputMarkup v ++ X =
    '<' :: (tagOutput ++ ' ' :: (attrValue ++ '=' :: '"' :: (v ++ '"' :: ' ' :: '/' :: '>' :: X))) := by
  have h1 : "<output value=\"".toList = '<' :: (tagOutput ++ ' ' :: (attrValue ++ ['=', '"'])) := by decide
  have h2 : "\" />".toList = ['"', ' ', '/', '>'] := by decide
  unfold outputMarkup
  rw [h1, h2]
  simp

theorem outputNode_eq (v : Str) : outputNode v = .elem tagOutput [(attrValue, v)] [] := by
  have h1 : "output".toList = tagOutput := by decide
  have h2 : "value".toList = attrValue := by decide
  unfold outputNode
  rw [h1, h2]

theorem fragmentDoc_eq (tag inner : Str) : fragmentDoc tag inner =
    declSpaced ++ ('<' :: (tag ++ '>' :: (inner ++ ('<' :: '/' :: (tag ++ ['>']))))) := by
  have h1 : "<?xml version=\"1.0\" ?>".toList = declSpaced := by decide
  unfold fragmentDoc
  rw [h1]
  simp

/-- `<output value="v" />` is what `renderAttrs` writes for the one attribute, then a space and `/>` -/
theorem pNode_output (f : Nat) (v X : Str) (hv : ValOk v) :
    pNode (f + 1) (outputMarkup v ++ X) = some (some (outputNode v), X) := by
  have ha : [(attrValue, v)].all (fun kv => isName kv.1 && kv.2.all isXmlChar) = true := by
    simp [show isName attrValue = true by decide, attrCharOk_xml hv.attrOk]
  have := pNode_leaf f (t := tagOutput) [' '] X (by decide) ha (by simp [attrKeysNodup]) (by decide)
  rw [outputMarkup_eq, outputNode_eq]
  simpa [renderAttrs, hv.esc, normAttrList, normAttrVal_ok v hv.attrOk] using this

def ItemsOk : List (Str × Str) → Prop
  | [] => True
  | (v, t) :: rest => ValOk v ∧ (∀ c ∈ t, isXmlChar c = true) ∧ ItemsOk rest

/-- the reader on `text <output …/> text <output …/> … text </tag>` -/
theorem pNodes_cell : ∀ (items : List (Str × Str)), ItemsOk items →
    ∀ (head : Str), (∀ c ∈ head, isXmlChar c = true) → ∀ (cl : Str), closes cl → ∀ fuel, 2 * items.length + 2 ≤ fuel →
      pNodes fuel (escText head ++ (itemsMarkup items ++ cl)) = some (cellKids false head items, cl)
  | [], _, head, hh, cl, hcl, fuel, hf => by
    simpa [itemsMarkup, cellKids, itemsKids, chunk_false] using
      pNodes_text_then 1 (Enc.escText (List.all_eq_true.mpr hh)) (closes_startsLt hcl) (pNodes_closes hcl) fuel hf
  | (v, t) :: rest, ⟨hv, ht, hrest⟩, head, hh, cl, hcl, fuel, hf => by
    simp only [itemsMarkup, List.append_assoc]
    rw [outputMarkup_eq]
    refine pNodes_text_then (L := outputNode v :: cellKids false t rest) _ (Enc.escText (List.all_eq_true.mpr hh))
      (by simp [startsLt])
      (pNodes_cons (2 * rest.length + 2) (by intro r'' h; simp [tagOutput] at h) (fun f hf => ?_)
        (pNodes_cell rest hrest t ht cl hcl)) fuel (by simp at hf; omega)
    obtain ⟨g, rfl⟩ : ∃ g, f = g + 1 := ⟨f - 1, by omega⟩
    rw [← outputMarkup_eq]
    exact pNode_output g v _ hv

theorem itemsMarkup_length (items : List (Str × Str)) : 2 * items.length ≤ (itemsMarkup items).length := by
  induction items with
  | nil => simp
  | cons vt rest ih =>
    obtain ⟨v, t⟩ := vt
    simp only [itemsMarkup]
    rw [outputMarkup_eq]
    simp [tagOutput, attrValue]
    omega

theorem isNorm_chunk_items (s : Str) (items : List (Str × Str)) :
    isNormKids (chunk false s ++ itemsKids false items) = true ∧ headIsText (itemsKids false items) = false := by
  induction items generalizing s with
  | nil =>
    refine ⟨?_, by simp [itemsKids, headIsText]⟩
    cases s <;> simp [chunk, itemsKids, isNormKids, isNormNode, headIsText, isText]
  | cons vt rest ih =>
    obtain ⟨v, t⟩ := vt
    have h1 := (ih (normEol t)).1
    simp [chunk] at h1
    refine ⟨?_, by simp [itemsKids, headIsText, isText, outputNode_eq]⟩
    cases s <;>
      simp [chunk, itemsKids, isNormKids, isNormNode, headIsText, isText, outputNode_eq, h1]

theorem skipDecl_spaced (Y : Str) : skipDecl (declSpaced ++ Y) = some Y := by
  simp [declSpaced, skipDecl, skipPI, isWs, isXmlChar]

theorem map_shallow_kids (s : Str) (items : List (Str × Str)) :
    (chunk false s ++ itemsKids false items).map shallow = chunk true s ++ itemsKids true items := by
  induction items generalizing s with
  | nil => cases s <;> simp [chunk, itemsKids, shallow]
  | cons vt rest ih =>
    obtain ⟨v, t⟩ := vt
    have := ih (normEol t)
    cases s <;> simp_all [chunk, itemsKids, shallow, outputNode_eq]

/-- **the re-parse**: `parseString('<?xml version="1.0" ?><tag>' + escaped text and output markup + '</tag>')`
    yields exactly the text chunks and the outputs -/
theorem nodeParsed_items (tag head : Str) (items : List (Str × Str)) (htag : isName tag = true)
    (hhead : ∀ c ∈ head, isXmlChar c = true) (hok : ItemsOk items) :
    nodeParsed tag (escText head ++ itemsMarkup items) = some (.elem tag [] (cellKids true head items)) := by
  obtain ⟨c, cs, rfl, hc, _⟩ := isName_cons htag
  let inner := escText head ++ itemsMarkup items
  let cl : Str := '<' :: '/' :: ((c :: cs) ++ '>' :: [])
  have hcl : closes cl := by simp [cl, closes]
  have hdoc : fragmentDoc (c :: cs) inner = declSpaced ++ ('<' :: ((c :: cs) ++ '>' :: (inner ++ cl))) :=
    fragmentDoc_eq _ _
  have hlen : 2 * items.length + 20 ≤ (fragmentDoc (c :: cs) inner).length := by
    have := itemsMarkup_length items
    rw [hdoc]
    simp [inner, declSpaced]
    omega
  have hnode := pNode_block ((fragmentDoc (c :: cs) inner).length + 1) (a := []) [] [] htag rfl rfl rfl inner _
    (by simpa [inner, cl] using
      pNodes_cell items hok head hhead cl hcl ((fragmentDoc (c :: cs) inner).length + 1) (by omega))
  have hnorm : normNode (.elem (c :: cs) [] (cellKids false head items)) =
      .elem (c :: cs) [] (cellKids false head items) :=
    normNode_of_isNorm _ (by simpa [isNormNode, cellKids] using (isNorm_chunk_items (normEol head) items).1)
  have hparse : parseDoc (fragmentDoc (c :: cs) inner) = some (.elem (c :: cs) [] (cellKids false head items)) := by
    rw [← hnorm]
    refine parseDoc_root _ [] [] c _ _ (by rw [hdoc]; exact skipDecl_spaced _) rfl rfl (ne_of_nsc hc nsc_bang)
      (ne_of_nsc hc nsc_qm) rfl ?_
    simpa [renderAttrs, normAttrList, cl] using hnode
  unfold nodeParsed
  rw [hparse]
  simp only [cellKids, map_shallow_kids]

/-! ## instance() expressions: when `replace_with_output` is the identity -/

/-- a token of `parse_expression(s)` has a value that occurs in `s` -/
theorem token_value_infix (rules : Lexer.Rules) (s : Str) (t : Lexer.Token)
    (ht : t ∈ (Lexer.parseWith rules s).1) : isInfix t.value s = true := by
  have h := (Lexer.withPos_slices s (Lexer.scanWith rules s).2 (Lexer.scanWith rules s).1 []
    (Lexer.scanAux_consumes rules (s.length + 1) s) t ht).2
  rw [← List.take_append_drop t.start s, ← List.take_append_drop t.value.length (s.drop t.start), h, ← List.append_assoc]
  exact _root_.Pyxv.isInfix_append _ _ _

theorem fbStep_idle (st : FB) (t : Lexer.Token) (h1 : st.instanceEnter = false) (h2 : isInstanceCall t = false) :
    fbStep st t = st := by
  simp [fbStep, h1, h2]

theorem foldl_fbStep_idle (tokens : List Lexer.Token) (h : ∀ t ∈ tokens, isInstanceCall t = false) :
    ∀ (st : FB), st.instanceEnter = false → tokens.foldl fbStep st = st :=
  fun st hst => List.foldlRecOn (motive := (· = st)) tokens _ rfl fun _ hb t ht => by
    rw [hb, fbStep_idle st t hst (h t ht)]

theorem findBoundaries_none (tokens : List Lexer.Token) (h : ∀ t ∈ tokens, isInstanceCall t = false) :
    findBoundaries tokens = [] := by
  simp [findBoundaries, foldl_fbStep_idle tokens h {} rfl, pairUp]

/-- the lexicon of the current source is the one the matchers were written for -/
theorem activeRules_pinned : Lexer.activeRules = some Lexer.pinnedRules := Lexer.activeRules_eq

theorem activeRules_some : ∃ rules, Lexer.activeRules = some rules := ⟨_, activeRules_pinned⟩

/-- **`replace_with_output` is the identity on a string that does not contain `instance(`** (or is short):
    `find_boundaries` starts an expression only at a FUNC_CALL token whose value is `instance(` -/
theorem replaceWithOutput_noInstance (refs : List (Str × Str)) (x : Str)
    (h : (9 < x.length && isInfix "instance(".toList x) = false) : replaceWithOutput refs x = .ok x := by
  unfold replaceWithOutput replaceWithOutputWith
  by_cases hl : x.length ≤ 9
  · simp [hl]
  · obtain ⟨rules, hr⟩ := activeRules_some
    have hinf : isInfix "instance(".toList x = false := by
      have : 9 < x.length := by omega
      simpa [this] using h
    have hb : findBoundaries (Lexer.parseWith rules x).1 = [] := by
      apply findBoundaries_none
      intro t ht
      cases hc : isInstanceCall t with
      | false => rfl
      | true =>
        have hv : t.value = "instance(".toList := by
          simp only [isInstanceCall, Bool.and_eq_true, beq_iff_eq] at hc
          exact hc.2
        have := token_value_infix rules x t ht
        rw [hv, hinf] at this
        exact absurd this (by simp)
    simp only [hl, if_false, hr, Option.map_some, hb, List.mapM_nil]
    simp [spliceAll]

theorem mixedChannel_unfold (refs : List (Str × Str)) (tag text : Str) :
    mixedChannel refs tag text =
      match insertOutputValues refs text with
      | .ok (x, true) =>
        if !validChars x then .pyxformError else
        match nodeParsed tag x with
        | some n => .ok n
        | none => .reparseError
      | .ok (x, false) => .ok (nodeText tag x)
      | .pyxformError => .pyxformError
      | .reparseError => .reparseError
      | .unsupported w => .unsupported w := rfl

theorem mixedChannel_tag {refs : List (Str × Str)} {tag s : Str} {n : Node} (h : mixedChannel refs tag s = .ok n) :
    ∃ a ks, n = .elem tag a ks := by
  rw [mixedChannel_unfold] at h
  split at h
  · split at h
    · cases h
    · rename_i x _ _
      unfold nodeParsed at h
      cases hp : parseDoc (fragmentDoc tag x) with
      | none => rw [hp] at h; cases h
      | some r =>
        rw [hp] at h
        cases r with
        | text _ _ => cases h
        | elem _ _ ks => cases h; exact ⟨_, _, rfl⟩
  · cases h; exact ⟨_, _, rfl⟩
  · cases h
  · cases h
  · cases h

theorem mixedChannel_pinned (refs : List (Str × Str)) (tag s : Str) :
    mixedChannel refs tag s = mixedChannelWith (some Lexer.pinnedRules) refs tag s := by
  unfold mixedChannel
  rw [activeRules_pinned]

end Pyxv.Chan
