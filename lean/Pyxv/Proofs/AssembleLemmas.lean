import Pyxv.Proofs.XmlView
import Pyxv.Proofs.BaseLemmas
import Pyxv.Proofs.SpellLemmas
/-!
# Lemmas for C01: `Asm.pySplit` is `Spell.splitWs`; attribute-value normalisation on lookups and on the skeleton;
`Element.setAttribute` (its invariant, the last writer wins); `prefixesBound` one element at a time.
-/
namespace Pyxv.Asm
open Pyxv.Xml

/-! ## `str.split()` as `get_nsmap` uses it -/

/-- the first field of `splitWsAll` is the word in progress; the others are complete -/
theorem splitWsAll_eq : ∀ (s : Str), ∃ f fs, splitWsAll s = f :: fs ∧
    Spell.splitWs s = (f :: fs).filter (fun x => !x.isEmpty) ∧ (f = [] ↔ ∀ c, s.head? = some c → pyIsSpace c = true)
  | [] => ⟨[], [], rfl, rfl, by simp⟩
  | c :: cs => by
    obtain ⟨f, fs, e, hs, hf⟩ := splitWsAll_eq cs
    rw [splitWsAll, e]
    by_cases hc : pyIsSpace c = true
    · refine ⟨[], f :: fs, by simp [hc], ?_, by simp [hc]⟩
      rw [Spell.splitWs_space c cs hc, hs]; rfl
    · have hc' : pyIsSpace c = false := by simpa using hc
      refine ⟨c :: f, fs, by simp [hc'], ?_, by simp [hc']⟩
      cases cs with
      | nil =>
        simp only [splitWsAll, List.cons.injEq] at e
        rw [← e.1, ← e.2]; simp [Spell.splitWs, hc']
      | cons d ds =>
        rw [Spell.splitWs]
        by_cases hd : pyIsSpace d = true
        · have : f = [] := hf.mpr (by simp [hd])
          subst this
          simp only [hc', hd, if_true, Bool.false_eq_true, if_false, hs]
          rfl
        · have hne : f ≠ [] := fun h => hd (hf.mp h d rfl)
          obtain ⟨x, r, rfl⟩ := List.exists_cons_of_ne_nil hne
          simp only [hc', hd, Bool.false_eq_true, if_false, hs]
          rfl

theorem pySplit_eq (s : Str) : pySplit s = Spell.splitWs s := by
  obtain ⟨f, fs, e, hs, -⟩ := splitWsAll_eq s
  rw [pySplit, e, hs]

theorem nsPairs_append_space (a : Str) (s : Char) (b : Str) (hs : pyIsSpace s = true) :
    nsPairs (a ++ s :: b) = nsPairs a ++ nsPairs b := by
  unfold nsPairs
  rw [pySplit_eq, pySplit_eq, pySplit_eq, Spell.splitWs_append_space a s b hs, List.filterMap_append]

theorem normAttrList_append (a b : List (Str × Str)) :
    normAttrList (a ++ b) = normAttrList a ++ normAttrList b := by
  simp [normAttrList]

theorem expandTag_normAttrList (sc : List (Str × Str)) (tag : Str) :
    expandTag (normAttrList sc) tag = ((expandTag sc tag).1.map normAttrVal, (expandTag sc tag).2) := by
  unfold expandTag
  split <;> simp only [lookup_normAttrList]

theorem hasName_normAttrList {sc : List (Str × Str)} {tag ns loc : Str}
    (h : hasName sc tag ns loc = true) (hns : normAttrVal ns = ns) :
    hasName (normAttrList sc) tag ns loc = true := by
  rw [hasName, beq_iff_eq] at h ⊢
  rw [expandTag_normAttrList, h, Option.map_some, hns]

theorem isInstanceTag_normAttrs (k : Node) : isInstanceTag (normAttrs k) = isInstanceTag k := by
  cases k <;> simp [normAttrs, isInstanceTag]

theorem find_normAttrsKids (mk : List Node) :
    (normAttrsKids mk).find? isInstanceTag = (mk.find? isInstanceTag).map normAttrs := by
  induction mk with
  | nil => simp [normAttrsKids]
  | cons k r ih =>
    simp only [normAttrsKids, List.find?_cons, isInstanceTag_normAttrs]
    split <;> simp [ih]

theorem normAttrVal_xhtml : normAttrVal xhtmlNs = xhtmlNs := by decide
theorem normAttrVal_xforms : normAttrVal xformsNs = xformsNs := by decide

theorem instOk_normAttrs {fid : Str} {sc : List (Str × Str)} {o : Option Node}
    (h : instOk fid sc o = true) :
    instOk (normAttrVal fid) (normAttrList sc) (o.map normAttrs) = true := by
  unfold instOk at h
  split at h
  · rename_i it ia x ra y
    simp only [Bool.and_eq_true, beq_iff_eq] at h
    simp only [Option.map_some, normAttrs, normAttrsKids, instOk, Bool.and_eq_true, beq_iff_eq,
      ← normAttrList_append, lookup_normAttrList, h.2, Option.map_some, and_true]
    exact hasName_normAttrList h.1 normAttrVal_xforms
  · cases h

/-- the skeleton survives attribute-value normalisation (the form id is normalised with it) -/
theorem skelE_normAttrs {fid : Str} {n : Node} (h : skelE fid n = true) :
    skelE (normAttrVal fid) (normAttrs n) = true := by
  unfold skelE at h
  split at h
  · simp only [Bool.and_eq_true] at h
    obtain ⟨⟨⟨⟨⟨h1, h2⟩, h3⟩, h4⟩, h5⟩, h6⟩ := h
    simp only [normAttrs, normAttrsKids, skelE, Bool.and_eq_true, ← normAttrList_append, find_normAttrsKids]
    exact ⟨⟨⟨⟨⟨hasName_normAttrList h1 normAttrVal_xhtml, hasName_normAttrList h2 normAttrVal_xhtml⟩,
      hasName_normAttrList h3 normAttrVal_xhtml⟩, hasName_normAttrList h4 normAttrVal_xforms⟩,
      hasName_normAttrList h5 normAttrVal_xhtml⟩, instOk_normAttrs h6⟩
  · cases h

/-- the equations of `AList.set`, with the key test written `k' = k` -/
theorem dictSet_eq (d : List (Str × Str)) (k v : Str) : dictSet d k v = AList.set k v d :=
  AList.set_of_eqns (s := fun d => dictSet d k v) rfl
    (fun _ _ _ => ite_congr (propext eq_comm) (fun _ => rfl) fun _ => rfl) d

theorem dictUpdate_eq (d e : List (Str × Str)) : dictUpdate d e = AList.update d e := by
  simp only [dictUpdate, AList.update, dictSet_eq]

theorem any_key_iff (k : Str) (d : List (Str × Str)) : d.any (fun kv => kv.1 == k) = true ↔ k ∈ d.map (·.1) := by
  simp only [List.any_eq_true, beq_iff_eq, List.mem_map]

theorem setAttr_map_fst (k v : Str) (p : Str × Str) : (if p.1 = k then (p.1, v) else p).1 = p.1 := by
  split <;> rfl

theorem lookup_setAttr_self (d : List (Str × Str)) (k v : Str) : lookup k (setAttr d k v) = some v := by
  unfold setAttr
  split
  · rename_i h
    obtain ⟨w, hw⟩ := exists_lookup_of_mem_keys ((any_key_iff k d).1 h)
    rw [lookup_map_entry _ (setAttr_map_fst k v), hw, Option.map_some, if_pos rfl]
  · -- the filter drops every name with the local name of `k`, `k` among them
    rw [lookup_append, lookup_filter (fun a => attrLocal a != attrLocal k), if_neg (by simp)]
    simp [lookup]

theorem lookup_setAttr_other (d : List (Str × Str)) (k k' v' : Str) (hk : k' ≠ k)
    (hl : attrLocal k ≠ attrLocal k') : lookup k (setAttr d k' v') = lookup k d := by
  unfold setAttr
  split
  · rw [lookup_map_entry _ (setAttr_map_fst k' v')]
    cases lookup k d with
    | none => rfl
    | some w => rw [Option.map_some, if_neg (Ne.symm hk)]
  · rw [lookup_append, lookup_filter (fun a => attrLocal a != attrLocal k'), if_pos (bne_iff_ne.2 hl)]
    have : ¬ k = k' := fun e => hk e.symm
    cases lookup k d <;> simp [lookup, this]

theorem locals_map_update (d : List (Str × Str)) (k v : Str) :
    (d.map fun kv => if kv.1 = k then (kv.1, v) else kv).map (fun kv => attrLocal kv.1) =
      d.map (fun kv => attrLocal kv.1) := by
  rw [List.map_map]
  exact List.map_congr_left fun p _ => congrArg attrLocal (setAttr_map_fst k v p)

/-- the invariant of `setAttribute`: the local names (`Attr.localName`) of the attributes stay pairwise distinct -/
theorem locals_nodup_setAttr (d : List (Str × Str)) (k v : Str) (h : (d.map fun kv => attrLocal kv.1).Nodup) :
    ((setAttr d k v).map fun kv => attrLocal kv.1).Nodup := by
  unfold setAttr
  split
  · rw [locals_map_update]; exact h
  · rw [List.map_append, List.nodup_append]
    refine ⟨List.Nodup.sublist (List.Sublist.map _ List.filter_sublist) h, by simp, ?_⟩
    intro a ha b hb
    simp only [List.map_cons, List.map_nil, List.mem_singleton] at hb
    subst hb
    rw [List.mem_map] at ha
    obtain ⟨x, hx, hxa⟩ := ha
    have hx2 := (List.mem_filter.mp hx).2
    simp only [bne_iff_ne] at hx2
    intro e
    exact hx2 (hxa.trans e)

theorem locals_nodup_setAttrs (upd d : List (Str × Str)) (h : (d.map fun kv => attrLocal kv.1).Nodup) :
    ((setAttrs d upd).map fun kv => attrLocal kv.1).Nodup := by
  unfold setAttrs
  induction upd generalizing d with
  | nil => exact h
  | cons kv r ih => exact ih _ (locals_nodup_setAttr d kv.1 kv.2 h)

theorem attrKeysNodup_of_locals (d : List (Str × Str)) (h : (d.map fun kv => attrLocal kv.1).Nodup) :
    attrKeysNodup d = true := by
  rw [attrKeysNodup_iff]
  rw [show (d.map fun kv => attrLocal kv.1) = (d.map Prod.fst).map attrLocal from by rw [List.map_map]; rfl] at h
  exact nodup_of_map _ _ h

theorem attrKeysNodup_setAttrs (l : List (Str × Str)) : attrKeysNodup (setAttrs [] l) = true :=
  attrKeysNodup_of_locals _ (locals_nodup_setAttrs l [] List.nodup_nil)

theorem all_setAttr (p : Str × Str → Bool) (d : List (Str × Str)) (k v : Str)
    (hd : d.all p = true) (hkv : p (k, v) = true) : (setAttr d k v).all p = true := by
  unfold setAttr
  split
  · rw [List.all_eq_true] at hd ⊢
    intro x hx
    rw [List.mem_map] at hx
    obtain ⟨y, hy, rfl⟩ := hx
    split
    · rename_i e; rw [e]; exact hkv
    · exact hd y hy
  · rw [List.all_append, Bool.and_eq_true]
    refine ⟨?_, by simp [hkv]⟩
    rw [List.all_eq_true] at hd ⊢
    intro x hx
    exact hd x (List.mem_filter.mp hx).1

theorem all_setAttrs (p : Str × Str → Bool) (upd d : List (Str × Str))
    (hd : d.all p = true) (hu : upd.all p = true) : (setAttrs d upd).all p = true := by
  induction upd generalizing d with
  | nil => exact hd
  | cons kv r ih =>
    rw [List.all_cons, Bool.and_eq_true] at hu
    exact ih _ (all_setAttr p d kv.1 kv.2 hd hu.1) hu.2

theorem setAttrs_append (d u w : List (Str × Str)) : setAttrs d (u ++ w) = setAttrs (setAttrs d u) w :=
  List.foldl_append ..

theorem setAttrs_cons (d : List (Str × Str)) (kv : Str × Str) (w : List (Str × Str)) :
    setAttrs d (kv :: w) = setAttrs (setAttr d kv.1 kv.2) w := rfl

theorem lookup_setAttrs_frame (k : Str) : ∀ (w d : List (Str × Str)),
    w.all (fun x => attrLocal x.1 != attrLocal k) = true → lookup k (setAttrs d w) = lookup k d
  | [], _, _ => rfl
  | x :: w, d, h => by
    simp only [List.all_cons, Bool.and_eq_true, bne_iff_ne] at h
    rw [setAttrs_cons, lookup_setAttrs_frame k w _ h.2,
      lookup_setAttr_other d k x.1 x.2 (fun e => h.1 (congrArg attrLocal e)) (fun e => h.1 e.symm)]

/-- **the last writer wins**: after `setAttribute(k, v)`, `k` keeps `v` as long as no later call uses its local name -/
theorem lookup_setAttrs_last (d u : List (Str × Str)) (k v : Str) (w : List (Str × Str))
    (h : w.all (fun x => attrLocal x.1 != attrLocal k) = true) :
    lookup k (setAttrs d (u ++ (k, v) :: w)) = some v := by
  rw [setAttrs_append, setAttrs_cons, lookup_setAttrs_frame k w _ h, lookup_setAttr_self]

/-- in a list of distinct names, an entry whose local name no other entry has is a last writer -/
theorem lookup_setAttrs_nodup (k v : Str) (d l : List (Str × Str)) (hn : attrKeysNodup l = true)
    (hl : l.all (fun x => x.1 == k || attrLocal x.1 != attrLocal k) = true) (hk : lookup k l = some v) :
    lookup k (setAttrs d l) = some v := by
  obtain ⟨u, w, rfl⟩ := List.append_of_mem (lookup_mem hk)
  rw [attrKeysNodup_iff, List.map_append, List.map_cons, List.nodup_append] at hn
  refine lookup_setAttrs_last d u k v w (List.all_eq_true.mpr fun x hx => ?_)
  have := List.all_eq_true.mp hl x (List.mem_append_right _ (List.mem_cons_of_mem _ hx))
  rw [Bool.or_eq_true, beq_iff_eq] at this
  exact this.resolve_left fun e => (List.nodup_cons.mp hn.2.1).1 (List.mem_map.mpr ⟨x, hx, e⟩)

/-- among writers with pairwise distinct local names, placed last, every one is a last writer -/
theorem lookup_setAttrs_mem (d u l : List (Str × Str)) (hl : (l.map fun kv => attrLocal kv.1).Nodup) (kv : Str × Str)
    (h : kv ∈ l) : lookup kv.1 (setAttrs d (u ++ l)) = some kv.2 := by
  obtain ⟨a, b, rfl⟩ := List.append_of_mem h
  rw [← List.append_assoc]
  refine lookup_setAttrs_last d _ kv.1 kv.2 b (List.all_eq_true.mpr fun x hx => bne_iff_ne.mpr fun e => ?_)
  rw [List.map_append, List.map_cons, List.nodup_append] at hl
  exact (List.nodup_cons.mp hl.2.1).1 (e ▸ List.mem_map_of_mem hx)

theorem all_optAttr (p : Str × Str → Bool) (k : String) (v : Str) (h : p (k.toList, v) = true) :
    (optAttr k v).all p = true := by
  unfold optAttr; split
  · rfl
  · rw [List.all_cons, h]; rfl

theorem mem_optAttr (k : String) (v : Str) (h : v.isEmpty = false) : (k.toList, v) ∈ optAttr k v := by
  simp [optAttr, h]

theorem optAttr_sublist (k : String) (v : Str) : (optAttr k v).Sublist [(k.toList, v)] := by
  unfold optAttr; split
  · exact List.nil_sublist _
  · exact List.Sublist.refl _

theorem setAttrs_optAttr (a : List (Str × Str)) (k : String) (v : Str) :
    (if v.isEmpty then a else setAttr a k.toList v) = setAttrs a (optAttr k v) := by
  unfold optAttr; split <;> rfl

/-- the attributes `Survey.xml_instance` itself writes, after the user's columns -/
def genAttrs (f : Fields) : List (Str × Str) :=
  ("id".toList, f.idString) :: (optAttr "xmlns" f.instanceXmlns ++ (optAttr "version" f.version ++
    (optAttr "odk:prefix" f.pfx ++ optAttr "odk:delimiter" f.delimiter)))

/-- the `setAttribute` calls of `Section.xml_instance` and `Survey.xml_instance`, in order -/
def rootUpd (f : Fields) : List (Str × Str) := f.instAttrs ++ (f.attrib ++ genAttrs f)

theorem rootAttrs_eq (f : Fields) : rootAttrs f = setAttrs [] (rootUpd f) := by
  simp only [rootAttrs, rootUpd, genAttrs, setAttrs_optAttr, setAttrs_append, setAttrs_cons]

theorem genAttrs_locals (f : Fields) : ((genAttrs f).map fun kv => attrLocal kv.1).Nodup := by
  have hs : (genAttrs f).Sublist [("id".toList, f.idString), ("xmlns".toList, f.instanceXmlns),
      ("version".toList, f.version), ("odk:prefix".toList, f.pfx), ("odk:delimiter".toList, f.delimiter)] :=
    .cons_cons _ (.append (optAttr_sublist ..) (.append (optAttr_sublist ..) (.append (optAttr_sublist ..) (optAttr_sublist ..))))
  exact List.Nodup.sublist (hs.map _) (by simp only [List.map]; decide)

/-- **every attribute the converter itself puts on the primary instance root is there, with its value**: the user's
    columns are written first, and the generated names have pairwise distinct local names -/
theorem genAttrs_survive (f : Fields) (kv : Str × Str) (h : kv ∈ genAttrs f) : lookup kv.1 (rootAttrs f) = some kv.2 := by
  rw [rootAttrs_eq, rootUpd, ← List.append_assoc]
  exact lookup_setAttrs_mem [] _ _ (genAttrs_locals f) kv h

/-- the local test `ok` of `Xml.prefixesBound`, as a definition -/
def qnameOk (scope : List Str) (q : Str) : Bool :=
  isQName q &&
  match splitQName q with
  | (some p, _) => p = "xml".toList || p = "xmlns".toList || scope.contains p
  | (none, _) => true

theorem pb_elem_eq (sc : List Str) (t : Str) (a : List (Str × Str)) (ks : List Node) :
    prefixesBound sc (.elem t a ks) =
      (qnameOk (declaredPrefixes a ++ sc) t && a.all (fun kv => qnameOk (declaredPrefixes a ++ sc) kv.1) &&
        prefixesBoundKids (declaredPrefixes a ++ sc) ks) := by
  simp only [prefixesBound, qnameOk]
  rfl

/-- a prefix that is reserved or in scope stays so in a larger scope -/
theorem prefixOk_mono (X S : List Str) (p : Str)
    (h : (decide (p = "xml".toList) || decide (p = "xmlns".toList) || S.contains p) = true) :
    (decide (p = "xml".toList) || decide (p = "xmlns".toList) || (X ++ S).contains p) = true := by
  simp only [Bool.or_eq_true, decide_eq_true_eq, List.contains_eq_mem, List.mem_append] at h ⊢
  exact h.imp_right Or.inr

theorem qnameOk_mono (X sc : List Str) (q : Str) (h : qnameOk sc q = true) : qnameOk (X ++ sc) q = true := by
  unfold qnameOk at *
  rw [Bool.and_eq_true] at h ⊢
  refine ⟨h.1, ?_⟩
  have h2 := h.2
  split at h2
  · exact prefixOk_mono X sc _ h2
  · rfl

theorem declaredPrefixes_nil : declaredPrefixes [] = [] := rfl

theorem setAttrs_nil : setAttrs [] [] = [] := rfl

theorem find_single_not (t : Str) (a : List (Str × Str)) (ks : List Node)
    (h : (localName t == "instance".toList) = false) :
    (eprojKids [pyNode t a ks]).find? isInstanceTag = none := by
  rw [pyNode, eprojKids_elem, List.find?_cons]
  have : isInstanceTag (.elem t (setAttrs [] a) (eprojKids ks)) = false := h
  rw [this, eprojKids_nil]; rfl

theorem find_submission (f : Fields) : (eprojKids (submissionNode f)).find? isInstanceTag = none := by
  unfold submissionNode
  split
  · rw [eprojKids_nil]; rfl
  · exact find_single_not _ _ _ (by decide)

/-- the first `instance` child of `<model>` (what `Skeleton` inspects) is the primary instance: only `submission` and
    `itext` can precede it -/
theorem find_modelKids (f : Fields) (itext : Option (List Node)) (rk rest : List Node) :
    (eprojKids (modelKids f itext rk rest)).find? isInstanceTag =
      some (.elem "instance".toList [] [.elem f.name (rootAttrs f) (eprojKids rk)]) := by
  have hinst : isInstanceTag (.elem "instance".toList [] [.elem f.name (rootAttrs f) (eprojKids rk)]) = true := by
    show (localName "instance".toList == "instance".toList) = true
    decide
  have hrest : (eprojKids (pyNode "instance".toList [] [.elem f.name (rootAttrs f) rk] :: rest)).find? isInstanceTag =
      some (.elem "instance".toList [] [.elem f.name (rootAttrs f) (eprojKids rk)]) := by
    rw [pyNode, eprojKids_elem, setAttrs_nil, eprojKids_elem, List.find?_cons]
    rw [eprojKids_nil, hinst]
  unfold modelKids
  rw [eprojKids_append, eprojKids_append, List.find?_append, List.find?_append, find_submission, hrest]
  cases itext with
  | none => simp only [itextPart, eprojKids_nil]; rfl
  | some ks => simp only [itextPart, find_single_not _ _ _ (show (localName "itext".toList == "instance".toList) = false by decide)]; rfl

end Pyxv.Asm
