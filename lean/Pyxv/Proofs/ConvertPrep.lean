import Pyxv.Model.Convert
import Pyxv.Proofs.C04Controls
import Pyxv.Proofs.ConvertControls
import Pyxv.Proofs.BaseLemmas
/-!
# On Convert's fragment the row preparation is the identity

`Controls.prep` (take the `parameters` cell out, de-alias the type, read a `save_to` cell as a plain bind cell)
changes nothing on a row that `Convert.rowOutside` admits: such a row has no `parameters` / `save_to` column and its
type is none of the aliases of `aliases._type_alias_map`.  So what `decorate_controls` (ConvertControls) says about the
prepared row is said about the row itself, and its two classifications coincide (`decorate_controls_fragment`).
-/
namespace Pyxv.C04
open Pyxv Pyxv.Form Pyxv.Rows Pyxv.Controls

/-- the types the fragment admits (the type branch of `Convert.rowOutside`) -/
def typeOk (t : Str) : Bool :=
  Convert.plainTypes.contains t || t = k!"audit" || (matchSelect t).isSome ||
  (matchControl "begin" true t).isSome || (matchControl "end" false t).isSome

/-- evaluated on the regenerated `aliases._type_alias_map` -/
theorem aliases_outside_fragment : Pyxv.Gen.typeAliasMap.all (fun p => !typeOk p.1.toList) = true := by
  decide +kernel

theorem fragment_keys_plain :
    Convert.fragmentKeys.all (fun k => k != k!"parameters" && k != "bind::entities:saveto".toList) = true := by
  decide +kernel

theorem dealias_typeOk (t : Str) (h : typeOk t = true) : dealias t = t := by
  unfold dealias
  cases hf : Pyxv.Gen.typeAliasMap.find? (fun p => p.1.toList = t) with
  | none => rfl
  | some p =>
    exfalso
    have hm := List.mem_of_find?_eq_some hf
    have hp := List.find?_some hf
    have := List.all_eq_true.mp aliases_outside_fragment p hm
    simp only [decide_eq_true_eq] at hp
    rw [hp, h] at this
    cases this

theorem rowOutside_none (r : Cells) (h : Convert.rowOutside r = none) :
    (r.all fun kv => Convert.fragmentKeys.contains kv.1) = true ∧ Convert.keysNodup r = true ∧
    match get r "type" with
    | some t => typeOk t = true
    | none => True := by
  obtain ⟨h1, h⟩ := ite_eq_right h nofun
  obtain ⟨h2, h⟩ := ite_eq_right h nofun
  obtain ⟨-, h⟩ := ite_eq_right h nofun
  refine ⟨by simpa using h1, by simpa using h2, ?_⟩
  cases hg : get r "type" with
  | none => trivial
  | some t =>
    rw [hg] at h
    simp only [typeOk, Bool.or_eq_true, decide_eq_true_eq]
    by_cases hp : Convert.plainTypes.contains t = true
    · simp only [hp, true_or]
    by_cases ha : t = k!"audit"
    · simp only [ha, true_or, or_true]
    simp only [hp, ha, if_false, Bool.false_eq_true] at h
    cases hm : matchSelect t with
    | some x => simp only [Option.isSome_some, true_or, or_true]
    | none =>
      rw [hm] at h
      by_cases hb : (matchControl "begin" true t).isSome = true
      · simp only [hb, true_or, or_true]
      by_cases he : (matchControl "end" false t).isSome = true
      · simp only [he, or_true]
      simp only [hb, he, if_false, Bool.false_eq_true] at h
      cases h

theorem keysNodup_eq : ∀ r : Cells, Convert.keysNodup r = keysNodupB r
  | [] => rfl
  | (k, v) :: rest => by rw [Convert.keysNodup, keysNodupB, keysNodup_eq rest]

theorem keysNodup_iff (r : Cells) : Convert.keysNodup r = true ↔ (r.map (·.1)).Nodup :=
  keysNodup_eq r ▸ keysNodupB_iff r

/-- **On Convert's fragment `prep` is the identity.** -/
theorem prep_id_on_fragment (r : Cells) (h : Convert.rowOutside r = none) :
    (prep r).1 = r ∧ (prep r).2 = none := by
  obtain ⟨hkeys, hnodup, htype⟩ := rowOutside_none r h
  have hk : ∀ kv ∈ r, kv.1 ≠ k!"parameters" ∧ kv.1 ≠ "bind::entities:saveto".toList := fun kv hm => by
    have h2 := List.all_eq_true.mp fragment_keys_plain kv.1 (by simpa using List.all_eq_true.mp hkeys kv hm)
    simpa using h2
  have ht : ∀ kv ∈ r, kv.1 = k!"type" → dealias kv.2 = kv.2 := fun kv hm e => by
    -- the keys are distinct, so this `type` cell is the one `rowOutside` looked at
    have hg : get r "type" = some kv.2 :=
      lookup_of_mem ((keysNodup_iff r).1 hnodup)
        (show ("type".toList, kv.2) ∈ r from (by decide : "type".toList = k!"type") ▸ e ▸ hm)
    rw [hg] at htype
    exact dealias_typeOk kv.2 htype
  rw [prep_eq_self (fun kv hm => (hk kv hm).1) (fun kv hm => (hk kv hm).2) ht]
  exact ⟨rfl, rfl⟩

/-- **Convert's decoration and the structural walk classify the same row**: whenever `Convert.decorate` accepts a row
    that is not a row-level error, `Controls.rowControls` answers for it with exactly `emitOut` of the classification `k`
    that Convert's stack machine consumes, its element names are `rowTags k`, and the decoration's attributes are
    `ownAttrs k` of that answer. -/
theorem decorate_controls_fragment (lists : List Str) (n : Nat) (r : Cells) (k : RowK) (p : Convert.Pay)
    (h : Convert.decorate lists n r = .ok (k, p)) :
    (∃ e, k = .bad e) ∨
    ∃ cs ps, rowControls lists n r = .ok cs ∧ classify lists n r = .row k ∧ cs = emitOut k r ps ∧
      cs.map (·.1) = rowTags k ∧ p.attrs = Convert.ownAttrs k cs := by
  have hid := (prep_id_on_fragment r (ConvertP.decorate_inv h).1).1
  rcases decorate_controls lists n r k p h with hb | ⟨cs, k', ps, h1, h2, _, h4, h5, h6, h7⟩
  · exact Or.inl hb
  · rw [hid] at h5 h6
    rw [h4] at h5; injection h5 with h5; subst h5
    exact Or.inr ⟨cs, ps, h1, h4, h6, h7, h2⟩

-- non-vacuity: rows of the fragment (a select, a begin repeat with a count, a text row with an appearance)
example : Convert.rowOutside [(k!"type", k!"select_one yn"), (k!"name", k!"s"), (k!"label", k!"S")] = none ∧
    Convert.rowOutside [(k!"type", k!"begin repeat"), (k!"name", k!"r"), (k!"control::jr:count", k!"3")] = none ∧
    (prep [(k!"type", k!"text"), (k!"name", k!"a"), (k!"control::appearance", k!"multiline")]).1 =
      [(k!"type", k!"text"), (k!"name", k!"a"), (k!"control::appearance", k!"multiline")] := by decide +kernel
-- … while outside the fragment `prep` does change rows (an aliased type, a parameters cell)
example : (prep [(k!"type", k!"image"), (k!"name", k!"a"), (k!"parameters", k!"max-pixels=3")]).1 =
    [(k!"type", k!"photo"), (k!"name", k!"a")] := by decide +kernel

end Pyxv.C04
