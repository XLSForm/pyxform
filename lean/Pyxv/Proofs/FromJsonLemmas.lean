import Pyxv.Model.FromJsonSelects
import Pyxv.Proofs.ToJsonLemmas
import Pyxv.Proofs.JValLemmas
import Pyxv.Proofs.BaseLemmas
/-!
# dump / load / dump on whole element trees: helper lemmas

The three loaders `fromJson`, `fromJsonC`, `fromJsonS` are, at an object and with fuel left, one step function
`elemBuild`; they differ in how the survey's own `choices` are read, in the builder handed to the children and in
the question reader.  That one builds what another builds is monotonicity of the step (`elemBuild_mono`); dump
stability is proved for one step (`elemBuild_stable`) and any way of reading the own choices that finds again what
it dumped (`OwnOk`).
-/
namespace Pyxv.ToJson
open Pyxv Pyxv.JV

theorem lookup_append_none (k : Str) (a b : Dict) (h : lookup k a = none) : lookup k (a ++ b) = lookup k b := by
  rw [lookup_append, h]; rfl

theorem lookup_append_some (k : Str) (a b : Dict) (v : J) (h : lookup k a = some v) : lookup k (a ++ b) = some v := by
  rw [lookup_append, h]; rfl

theorem overrideSlot_map (k : Str) (v : J) (names : List Str) (f : Str → J) :
    overrideSlot k v (names.map fun n => (n, f n)) = names.map fun n => (n, if n = k then v else f n) := by
  simp only [overrideSlot, List.map_map]
  apply List.map_congr_left
  intro n _
  by_cases e : n = k <;> simp [e]

theorem ownDump_extra (cls : Cls) (names qk x : List Str) (slots : Dict) (hs : slots.map Prod.fst = names)
    (hx : ∀ k ∈ x, k ∉ names) :
    ownDump (allDelete cls names qk x) slots = ownDump (allDelete cls names qk []) slots := by
  rw [ownDump_eq_filter, ownDump_eq_filter]
  apply List.filter_congr
  intro kv hkv
  have hin : kv.1 ∈ names := by rw [← hs]; exact List.mem_map.mpr ⟨kv, hkv, rfl⟩
  have : kv.1 ∉ x := fun hc => hx _ hc hin
  simp [keeps, allDelete, this]

/-- a falsy value was dropped and comes back as `null`, which is dropped again -/
theorem filter_truthy_getD (v : J) :
    (some (((some v).filter truthy).getD .null)).filter truthy = (some v).filter truthy := by
  have tn : truthy J.null = false := rfl
  cases ht : truthy v <;> simp only [Option.filter_some, ht, tn, if_true, Bool.false_eq_true, if_false,
    Option.getD_some, Option.getD_none]

theorem lookup_own_append (del names : List Str) (f : Str → J) (C : Dict) (n : Str) (hC : lookup n C = none) :
    lookup n (ownDump del (names.map fun m => (m, f m)) ++ C) =
      if n ∈ names ∧ n ∉ del then (some (f n)).filter truthy else none := by
  rw [lookup_append, hC, ownDump_eq_listing, lookup_listing]
  simp only [List.mem_filter, Bool.not_eq_true', List.contains_eq_mem, decide_eq_false_iff_not]
  split <;> simp

/-- slots rebuilt from a dump `own ++ T` dump like the original (`T`: the tree part, or what a class puts back) -/
theorem ownDump_reload (del names : List Str) (f g : Str → J) (T : Dict)
    (h : ∀ n ∈ names, n ∉ del → g n = f n ∨
      (lookup n T = none ∧ g n = (lookup n (ownDump del (names.map fun m => (m, f m)) ++ T)).getD .null)) :
    ownDump del (names.map fun n => (n, g n)) = ownDump del (names.map fun n => (n, f n)) := by
  rw [ownDump_eq_listing, ownDump_eq_listing]
  refine listing_congr fun n hn => ?_
  obtain ⟨hm, hd⟩ := List.mem_filter.mp hn
  have hd : n ∉ del := by simpa using hd
  rcases h n hm hd with e | ⟨hT, e⟩
  · rw [e]
  · rw [e, lookup_own_append del names f T n hT, if_pos ⟨hm, hd⟩]
    exact filter_truthy_getD (f n)

theorem toJsonL_eq_map (kids : List El) : toJsonL kids = kids.map (toJson · [k!"parent"]) :=
  eq_map_of_eqns rfl (fun _ _ => rfl) kids

theorem toJsonL_isEmpty (kids : List El) : (toJsonL kids).isEmpty = kids.isEmpty := by
  cases kids <;> simp [toJsonL]

/-- the tree part of a section's dump -/
def childPart (kids : List El) : Dict :=
  if kids.isEmpty then [] else [(k!"children", .arr (toJsonL kids))]

def choicesJson (choices : List (Str × List Opt)) : J :=
  .obj (choices.map fun c => (c.1, .arr (c.2.map optionToJson)))

/-- the part of a survey's dump that holds its own choices -/
def choicesPart (mine : List (Str × List Opt)) : Dict :=
  if mine.isEmpty then [] else [(k!"choices", choicesJson mine)]

theorem choicesPart_nil : choicesPart [] = [] := rfl

theorem dropFalsy_append (a b : Dict) : dropFalsy (a ++ b) = dropFalsy a ++ dropFalsy b := List.filter_append ..

theorem dropFalsy_childPart (kids : List El) : dropFalsy (childPart kids) = childPart kids := by
  cases kids with
  | nil => rfl
  | cons k ks => simp [childPart, dropFalsy, toJsonL, truthy]

theorem dropFalsy_choicesPart (mine : List (Str × List Opt)) : dropFalsy (choicesPart mine) = choicesPart mine := by
  cases mine with
  | nil => rfl
  | cons c cs => simp [choicesPart, choicesJson, dropFalsy, truthy]

theorem toJson_section (cls : Cls) (hc : cls ≠ .question) (slots : Dict) (kids : List El)
    (mine : List (Str × List Opt)) (x : List Str) :
    toJson (.mk cls slots [] [] [] kids none mine) x =
      .obj ((if cls = .group then setKey k!"type" (.str k!"group") else id)
        (ownDump (allDelete cls (slots.map Prod.fst) [] x) slots ++ childPart kids ++ choicesPart mine)) := by
  -- `toJson` appends the two tree parts to the slots left after deletion, then drops the falsy values
  have hk : ∀ r : Dict, (if kids.isEmpty then r else r ++ [(k!"children", J.arr (toJsonL kids))]) = r ++ childPart kids :=
    fun r => by unfold childPart; split <;> simp
  have hm : ∀ r : Dict, (if mine.isEmpty then r else r ++ [(k!"choices", J.obj (mine.map fun (ln, os) =>
      (ln, J.arr (os.map optionToJson))))]) = r ++ choicesPart mine :=
    fun r => by unfold choicesPart choicesJson; split <;> simp
  rw [toJson]
  simp only [hk, hm, hc, if_false]
  rw [dropFalsy_append, dropFalsy_append, dropFalsy_childPart, dropFalsy_choicesPart]
  split <;> rfl

theorem mem_keys_childPart {kids : List El} {k : Str} (h : k ∈ (childPart kids).map Prod.fst) : k = k!"children" := by
  unfold childPart at h
  split at h
  · cases h
  · simpa using h

theorem lookup_childPart_ne (kids : List El) (k : Str) (h : k ≠ k!"children") :
    lookup k (childPart kids) = none :=
  (lookup_eq_none_iff _ _).2 fun hk => h (mem_keys_childPart hk)

theorem lookup_own_append_some (del names : List Str) (f : Str → J) (C : Dict) (k : Str)
    (hC : lookup k C = none) (v : J)
    (hl : lookup k (ownDump del (names.map fun m => (m, f m)) ++ C) = some v) : truthy v = true ∧ v = f k := by
  rw [lookup_own_append del names f C k hC] at hl
  split at hl
  · obtain ⟨e, t⟩ := Option.filter_eq_some_iff.mp hl
    exact ⟨t, (Option.some.inj e).symm⟩
  · cases hl

theorem lookup_own_append_kept (del names : List Str) (f : Str → J) (C : Dict) (k : Str)
    (hC : lookup k C = none) (hin : k ∈ names) (hd : k ∉ del) (ht : truthy (f k) = true) :
    lookup k (ownDump del (names.map fun m => (m, f m)) ++ C) = some (f k) := by
  rw [lookup_own_append del names f C k hC, if_pos ⟨hin, hd⟩, Option.filter_some, if_pos ht]

theorem isTruthyAt_eq (k : Str) (kvs : Dict) : isTruthyAt k kvs = truthy ((lookup k kvs).getD .null) := by
  unfold isTruthyAt
  cases lookup k kvs <;> rfl

theorem nameOk_eq_true {kvs : Dict} :
    nameOk kvs = true ↔ ∃ s, lookup k!"name" kvs = some (.str s) ∧ s.isEmpty = false := by
  unfold nameOk
  cases lookup k!"name" kvs with
  | none => simp
  | some v => cases v <;> simp

/-- what the section proofs use of the slot tuples of `Survey` and `Section`; for the regenerated tables:
    `C16.genCfg_secOk` -/
structure SecOk (cfg : Cfg) : Prop where
  sN : cfg.surveyNames.Nodup
  gN : cfg.sectionNames.Nodup
  sType : k!"type" ∈ cfg.surveyNames
  sName : k!"name" ∈ cfg.surveyNames
  sTitle : k!"title" ∈ cfg.surveyNames
  gType : k!"type" ∈ cfg.sectionNames
  gName : k!"name" ∈ cfg.sectionNames
  sChildren : k!"children" ∉ cfg.surveyNames
  gChildren : k!"children" ∉ cfg.sectionNames
  sChoices : k!"choices" ∉ cfg.surveyNames
  gChoices : k!"choices" ∉ cfg.sectionNames
  sParent : k!"parent" ∉ cfg.surveyNames
  gParent : k!"parent" ∉ cfg.sectionNames
  sKeepType : k!"type" ∉ allDelete .survey cfg.surveyNames [] []
  sKeepName : k!"name" ∉ allDelete .survey cfg.surveyNames [] []
  sKeepTitle : k!"title" ∉ allDelete .survey cfg.surveyNames [] []
  sGeo : k!"setgeopoint_by_triggering_ref" ≠ k!"setvalues_by_triggering_ref"

/-- as one conjunction, for `decide` -/
theorem SecOk.of_all (cfg : Cfg)
    (h : cfg.surveyNames.Nodup ∧ cfg.sectionNames.Nodup ∧ k!"type" ∈ cfg.surveyNames ∧
      k!"name" ∈ cfg.surveyNames ∧ k!"title" ∈ cfg.surveyNames ∧ k!"type" ∈ cfg.sectionNames ∧
      k!"name" ∈ cfg.sectionNames ∧ k!"children" ∉ cfg.surveyNames ∧ k!"children" ∉ cfg.sectionNames ∧
      k!"choices" ∉ cfg.surveyNames ∧ k!"choices" ∉ cfg.sectionNames ∧ k!"parent" ∉ cfg.surveyNames ∧
      k!"parent" ∉ cfg.sectionNames ∧ k!"type" ∉ allDelete .survey cfg.surveyNames [] [] ∧
      k!"name" ∉ allDelete .survey cfg.surveyNames [] [] ∧ k!"title" ∉ allDelete .survey cfg.surveyNames [] [] ∧
      k!"setgeopoint_by_triggering_ref" ≠ k!"setvalues_by_triggering_ref") : SecOk cfg :=
  let ⟨a, b, c, d, e, f, g, h, i, j, k, l, m, n, o, p, q⟩ := h
  ⟨a, b, c, d, e, f, g, h, i, j, k, l, m, n, o, p, q⟩

theorem mapOpt_cons_eq_some {α β} {f : α → Option β} {x : α} {xs : List α} {r : List β} :
    mapOpt f (x :: xs) = some r ↔ ∃ y ys, f x = some y ∧ mapOpt f xs = some ys ∧ r = y :: ys := by
  simp only [mapOpt]
  cases f x with
  | none => simp
  | some y =>
    cases mapOpt f xs with
    | none => simp
    | some ys => simp [eq_comm]

theorem mapOpt_eq_some {α β} {f : α → Option β} {l : List α} {r : List β} :
    mapOpt f l = some r ↔ l.map f = r.map some := by
  induction l generalizing r with
  | nil => cases r <;> simp [mapOpt]
  | cons x xs ih =>
    rw [mapOpt_cons_eq_some, List.map_cons]
    constructor
    · rintro ⟨y, ys, hy, hys, rfl⟩
      rw [hy, ih.mp hys, List.map_cons]
    · intro h
      cases r with
      | nil => cases h
      | cons y ys =>
        rw [List.map_cons, List.cons.injEq] at h
        exact ⟨y, ys, h.1, ih.mpr h.2, rfl⟩

theorem mapOpt_map {α β γ} (f : α → Option β) (g : γ → α) (g' : γ → β) (l : List γ)
    (h : ∀ x ∈ l, f (g x) = some (g' x)) : mapOpt f (l.map g) = some (l.map g') :=
  mapOpt_eq_some.mpr (by rw [List.map_map, List.map_map]; exact List.map_congr_left h)

theorem mapOpt_mem {α β} (f : α → Option β) (l : List α) (r : List β) (h : mapOpt f l = some r) :
    ∀ y ∈ r, ∃ x ∈ l, f x = some y := fun _ hy =>
  List.mem_map.mp (mapOpt_eq_some.mp h ▸ List.mem_map_of_mem hy)

theorem mapOpt_nil {α β} (f : α → Option β) (l : List α) (h : mapOpt f l = some []) : l = [] :=
  List.map_eq_nil_iff.mp (mapOpt_eq_some.mp h)

/-- what a child builder must do for the level above to be stable (`to_json_dict` deletes `parent` from a child) -/
def KidsStable (s : J → Option El) : Prop :=
  ∀ c k, s c = some k → ∃ k', s (toJson k [k!"parent"]) = some k' ∧ toJson k' [k!"parent"] = toJson k [k!"parent"]

theorem mapOpt_stable {s : J → Option El} (hs : KidsStable s) :
    ∀ cs kids, mapOpt s cs = some kids →
      ∃ kids', mapOpt s (toJsonL kids) = some kids' ∧ toJsonL kids' = toJsonL kids := by
  intro cs
  induction cs with
  | nil => intro kids h; simp [mapOpt] at h; subst h; exact ⟨[], by simp [toJsonL, mapOpt], rfl⟩
  | cons c cs ihc =>
    intro kids h
    obtain ⟨e, es, hc, hcs, rfl⟩ := mapOpt_cons_eq_some.mp h
    obtain ⟨e', he', heq⟩ := hs c e hc
    obtain ⟨es', hes', heqs⟩ := ihc es hcs
    exact ⟨e' :: es', mapOpt_cons_eq_some.mpr ⟨e', es', he', hes', rfl⟩, by simp [toJsonL, heq, heqs]⟩

/-- own-level stability of questions (`Question.__init__`'s type-table merge); proved by `question_stable` -/
def QStable (cfg : Cfg) : Prop :=
  ∀ t kvs e, lookup k!"type" kvs = some (.str t) → questionFromJson cfg t kvs = some e →
    ∀ x, (∀ k ∈ x, k = k!"parent") →
    ∃ kvs' e', toJson e x = .obj kvs' ∧ lookup k!"type" kvs' = some (.str t) ∧
      questionFromJson cfg t kvs' = some e' ∧ ∀ y, (∀ k ∈ y, k = k!"parent") → toJson e' y = toJson e y

/-- the slot values of a survey built from `kvs'`: the builder assigns the two trigger tables after construction
    (empty on this fragment) -/
def surveyFn (kvs' : Dict) : Str → J := fun n =>
  if n = k!"setgeopoint_by_triggering_ref" then .obj []
  else if n = k!"setvalues_by_triggering_ref" then .obj []
  else (lookup n kvs').getD .null

theorem surveySlots_eq (names : List Str) (kvs' : Dict) :
    overrideSlot k!"setgeopoint_by_triggering_ref" (.obj [])
      (overrideSlot k!"setvalues_by_triggering_ref" (.obj []) (reloadSlots names kvs')) =
    names.map fun n => (n, surveyFn kvs' n) := by
  simp only [reloadSlots, overrideSlot_map]
  apply List.map_congr_left
  intro n _
  simp [surveyFn]

theorem surveyFn_plain (kvs' : Dict) {n : Str} (h1 : n ≠ k!"setgeopoint_by_triggering_ref")
    (h2 : n ≠ k!"setvalues_by_triggering_ref") : surveyFn kvs' n = (lookup n kvs').getD .null := by
  simp only [surveyFn, h1, h2, if_false]

theorem surveyFn_cases (D : Dict) (n : Str) :
    (∀ D', surveyFn D' n = .obj []) ∨ surveyFn D n = (lookup n D).getD .null := by
  unfold surveyFn
  split
  · exact Or.inl fun _ => rfl
  · split
    · exact Or.inl fun _ => rfl
    · exact Or.inr rfl

/-! ## one level of the builder

What the loaders share: `secBuild` (a survey / group / repeat once `choices` has been dealt with) and around it the
step `elemBuild`. -/

/-- the dicts of the children (`d.get("children")`: a list, absent, or falsy) -/
def kidsOf (kvs : Dict) : Option (List J) :=
  match lookup k!"children" kvs with
  | none => some []
  | some (.arr cs) => some cs
  | some v => if truthy v then none else some []

/-- what `section_class(**d)` builds, the children and the survey's own choices given -/
def secEl (cfg : Cfg) (t : Str) (kvs : Dict) (kids : List El) (mine : List (Str × List Opt)) : Option El :=
  if t = k!"survey" then
    match lookup k!"name" kvs with
    | none => none
    | some nm =>
      let kvs' := if hasKey k!"title" kvs then kvs else kvs ++ [(k!"title", nm)]
      let slots := overrideSlot k!"setgeopoint_by_triggering_ref" (.obj [])
        (overrideSlot k!"setvalues_by_triggering_ref" (.obj []) (reloadSlots cfg.surveyNames kvs'))
      some (.mk .survey slots [] [] [] kids none mine)
  else
    some (.mk (if t = k!"group" then .group else .repeat) (reloadSlots cfg.sectionNames kvs)
      [] [] [] kids none [])

/-- `_create_section_from_dict` on a dict without `choices` -/
def secBuild (cfg : Cfg) (sub : J → Option El) (t : Str) (kvs : Dict) (mine : List (Str × List Opt)) : Option El :=
  if isTruthyAt k!"add_none_option" kvs ∨ !nameOk kvs
      ∨ (hasKey k!"title" kvs ∧ !isTruthyAt k!"title" kvs) then none
  else
    match kidsOf kvs with
    | none => none
    | some cs =>
      match mapOpt sub cs with
      | none => none
      | some kids => secEl cfg t kvs kids mine

theorem secBuild_eq_some {cfg : Cfg} {sub : J → Option El} {t : Str} {kvs : Dict} {mine : List (Str × List Opt)}
    {e : El} :
    secBuild cfg sub t kvs mine = some e ↔
      (isTruthyAt k!"add_none_option" kvs = false ∧ nameOk kvs = true ∧
        ¬ (hasKey k!"title" kvs = true ∧ (!isTruthyAt k!"title" kvs) = true)) ∧
      ∃ cs kids, kidsOf kvs = some cs ∧ mapOpt sub cs = some kids ∧ secEl cfg t kvs kids mine = some e := by
  unfold secBuild
  by_cases hg : isTruthyAt k!"add_none_option" kvs = true ∨ (!nameOk kvs) = true
      ∨ (hasKey k!"title" kvs = true ∧ (!isTruthyAt k!"title" kvs) = true)
  · rw [if_pos hg]
    refine ⟨nofun, fun ⟨⟨h1, h2, h3⟩, _⟩ => ?_⟩
    rcases hg with hg | hg | hg
    · rw [h1] at hg; cases hg
    · rw [h2] at hg; cases hg
    · exact absurd hg h3
  · rw [if_neg hg]
    have h1 : isTruthyAt k!"add_none_option" kvs = false := eq_false_of_ne_true fun h => hg (Or.inl h)
    have h2 : nameOk kvs = true := eq_true_of_ne_false fun h => hg (Or.inr (Or.inl (by rw [h]; rfl)))
    have hg' := And.intro h1 (And.intro h2 fun h3 => hg (Or.inr (Or.inr h3)))
    cases hk : kidsOf kvs with
    | none => exact ⟨nofun, fun ⟨_, _, _, h, _⟩ => nomatch h⟩
    | some cs =>
      dsimp only
      cases hm : mapOpt sub cs with
      | none =>
        refine ⟨nofun, fun ⟨_, cs', _, h1, h2, _⟩ => ?_⟩
        cases h1; rw [hm] at h2; cases h2
      | some kids =>
        refine ⟨fun h => ⟨hg', cs, kids, rfl, hm, h⟩, fun ⟨_, cs', kids', h1, h2, h3⟩ => ?_⟩
        cases h1; rw [hm] at h2; cases h2; exact h3

theorem mapOpt_mono {α β} (g g' : α → Option β) (l : List α) (r : List β)
    (h : ∀ x ∈ l, ∀ y, g x = some y → g' x = some y) (hm : mapOpt g l = some r) : mapOpt g' l = some r := by
  induction l generalizing r with
  | nil => simpa [mapOpt] using hm
  | cons x xs ih =>
    obtain ⟨y, ys, hy, hys, rfl⟩ := mapOpt_cons_eq_some.mp hm
    exact mapOpt_cons_eq_some.mpr ⟨y, ys, h x (by simp) y hy, ih ys (fun x' hx' => h x' (by simp [hx'])) hys, rfl⟩

theorem secBuild_mono {cfg : Cfg} {sub sub' : J → Option El} {t : Str} {kvs : Dict} {mine : List (Str × List Opt)}
    {e : El} (hs : ∀ x y, sub x = some y → sub' x = some y) (h : secBuild cfg sub t kvs mine = some e) :
    secBuild cfg sub' t kvs mine = some e := by
  obtain ⟨hg, cs, kids, hcs, hkids, he⟩ := secBuild_eq_some.mp h
  exact secBuild_eq_some.mpr ⟨hg, cs, kids, hcs, mapOpt_mono _ _ cs kids (fun x _ => hs x) hkids, he⟩

theorem kidsOf_eq_some {kvs : Dict} {cs : List J} (h : kidsOf kvs = some cs) :
    cs = [] ∨ lookup k!"children" kvs = some (.arr cs) := by
  unfold kidsOf at h
  split at h
  · cases h; exact Or.inl rfl
  · next hl => cases h; exact Or.inr hl
  · split at h
    · cases h
    · cases h; exact Or.inl rfl

theorem secEl_survey {cfg : Cfg} {kvs : Dict} {kids : List El} {mine : List (Str × List Opt)} {e : El} :
    secEl cfg k!"survey" kvs kids mine = some e ↔ ∃ nm, lookup k!"name" kvs = some nm ∧
      e = .mk .survey (cfg.surveyNames.map fun n =>
        (n, surveyFn (if hasKey k!"title" kvs then kvs else kvs ++ [(k!"title", nm)]) n)) [] [] [] kids none mine := by
  simp only [secEl, if_true, surveySlots_eq]
  cases lookup k!"name" kvs with
  | none => exact ⟨nofun, fun ⟨_, h, _⟩ => nomatch h⟩
  | some nm => exact ⟨fun h => ⟨nm, rfl, (Option.some.inj h).symm⟩, fun ⟨_, h1, h2⟩ => by cases h1; rw [h2]⟩

theorem secEl_section {cfg : Cfg} {t : Str} {kvs : Dict} {kids : List El} {mine : List (Str × List Opt)}
    (ht : t ≠ k!"survey") :
    secEl cfg t kvs kids mine = some (.mk (if t = k!"group" then .group else .repeat)
      (reloadSlots cfg.sectionNames kvs) [] [] [] kids none []) := by
  rw [secEl, if_neg ht]

theorem lookup_none_of_hasKey {k : Str} {d : Dict} (h : ¬ hasKey k d = true) : lookup k d = none :=
  Option.not_isSome_iff_eq_none.1 h

theorem kidsOf_dumpD (del names : List Str) (f : Str → J) (kids : List El) (hc : k!"children" ∉ names) :
    kidsOf (ownDump del (names.map fun m => (m, f m)) ++ childPart kids) = some (toJsonL kids) := by
  have h0 : lookup k!"children" (ownDump del (names.map fun m => (m, f m))) = none := by
    rw [ownDump_eq_listing, lookup_listing, if_neg fun h => hc (List.mem_filter.mp h).1]
  rw [kidsOf, lookup_append_none _ _ _ h0]
  cases kids <;> rfl

/-- `stripChoices` in the form the shared lookup lemmas read -/
theorem stripChoices_eq (kvs : Dict) : stripChoices kvs = kvs.filter fun kv => kv.1 ≠ k!"choices" := by
  unfold stripChoices
  congr 1
  funext kv
  by_cases e : kv.1 = k!"choices" <;> simp [e]

theorem stripChoices_id (kvs : Dict) (h : lookup k!"choices" kvs = none) : stripChoices kvs = kvs :=
  (stripChoices_eq kvs).trans (filter_ne_of_lookup_none h)

theorem stripChoices_choicesPart (D : Dict) (mine : List (Str × List Opt)) (h : lookup k!"choices" D = none) :
    stripChoices (D ++ choicesPart mine) = D := by
  have h1 := stripChoices_id D h
  unfold choicesPart
  simp only [stripChoices, List.filter_append] at h1 ⊢
  rw [h1]
  split <;> simp [List.filter]

theorem lookup_stripChoices (k : Str) (kvs : Dict) (h : k ≠ k!"choices") :
    lookup k (stripChoices kvs) = lookup k kvs := by
  rw [stripChoices_eq]
  exact lookup_filter_ne h kvs

theorem lookup_stripChoices_self (kvs : Dict) : lookup k!"choices" (stripChoices kvs) = none := by
  rw [stripChoices_eq]
  exact lookup_filter_self _ kvs

/-- `Survey.__init__`'s reading of the `choices` keyword -/
def ownChoices (ctor : List Str) (t : Str) (kvs : Dict) : Option (List (Str × List Opt)) :=
  match lookup k!"choices" kvs with
  | none => some []
  | some (.obj cj) => if t = k!"survey" ∧ !cj.isEmpty then mapOpt (listFromJson ctor) cj else none
  | some _ => none

/-- `fromJson`'s fragment: no `choices` key at all -/
def noChoices (_ : Str) (kvs : Dict) : Option (List (Str × List Opt)) :=
  if hasKey k!"choices" kvs then none else some []

theorem noChoices_eq_some {t : Str} {kvs : Dict} {m : List (Str × List Opt)} :
    noChoices t kvs = some m ↔ lookup k!"choices" kvs = none ∧ m = [] := by
  unfold noChoices hasKey
  cases lookup k!"choices" kvs with
  | none => simp [eq_comm]
  | some v => simp

/-- one level of `create_survey_element_from_dict`: `own` reads the survey's own choices, `sub` builds the children,
    `q` a question -/
def elemBuild (cfg : Cfg) (own : Str → Dict → Option (List (Str × List Opt)))
    (sub : Str → List (Str × List Opt) → J → Option El) (q : Str → Dict → Option El) (kvs : Dict) : Option El :=
  match lookup k!"type" kvs with
  | some (.str t) =>
    if t = k!"survey" ∨ t = k!"group" ∨ t = k!"repeat" then
      match own t kvs with
      | none => none
      | some mine => secBuild cfg (sub t mine) t (stripChoices kvs) mine
    else q t kvs
  | _ => none

theorem elemBuild_eq_some {cfg : Cfg} {own : Str → Dict → Option (List (Str × List Opt))}
    {sub : Str → List (Str × List Opt) → J → Option El} {q : Str → Dict → Option El} {kvs : Dict} {e : El} :
    elemBuild cfg own sub q kvs = some e ↔ ∃ t, lookup k!"type" kvs = some (.str t) ∧
      ((t = k!"survey" ∨ t = k!"group" ∨ t = k!"repeat") ∧
          (∃ mine, own t kvs = some mine ∧ secBuild cfg (sub t mine) t (stripChoices kvs) mine = some e) ∨
        ¬ (t = k!"survey" ∨ t = k!"group" ∨ t = k!"repeat") ∧ q t kvs = some e) := by
  unfold elemBuild
  split
  · next t hty =>
    refine ⟨fun h => ⟨t, hty, ?_⟩, fun ⟨t', ht', h⟩ => ?_⟩
    · by_cases hsec : t = k!"survey" ∨ t = k!"group" ∨ t = k!"repeat"
      · rw [if_pos hsec] at h
        cases ho : own t kvs with
        | none => rw [ho] at h; cases h
        | some mine => rw [ho] at h; exact Or.inl ⟨hsec, mine, rfl, h⟩
      · rw [if_neg hsec] at h; exact Or.inr ⟨hsec, h⟩
    · cases hty.symm.trans ht'
      rcases h with ⟨hsec, mine, ho, h⟩ | ⟨hsec, h⟩
      · rw [if_pos hsec, ho]; exact h
      · rw [if_neg hsec]; exact h
  · next hn => exact ⟨nofun, fun ⟨t, ht, _⟩ => absurd ht (hn t)⟩

theorem elemBuild_mono {cfg : Cfg} {own own' : Str → Dict → Option (List (Str × List Opt))}
    {sub sub' : Str → List (Str × List Opt) → J → Option El} {q q' : Str → Dict → Option El} {kvs : Dict} {e : El}
    (hown : ∀ t m, own t kvs = some m → own' t kvs = some m)
    (hsub : ∀ t m x y, sub t m x = some y → sub' t m x = some y)
    (hq : ∀ t e, q t kvs = some e → q' t kvs = some e)
    (h : elemBuild cfg own sub q kvs = some e) : elemBuild cfg own' sub' q' kvs = some e := by
  obtain ⟨t, hty, ⟨hsec, mine, ho, h⟩ | ⟨hsec, h⟩⟩ := elemBuild_eq_some.mp h
  · exact elemBuild_eq_some.mpr ⟨t, hty, Or.inl ⟨hsec, mine, hown t mine ho, secBuild_mono (hsub t mine) h⟩⟩
  · exact elemBuild_eq_some.mpr ⟨t, hty, Or.inr ⟨hsec, hq t e h⟩⟩

theorem fromJson_step (cfg : Cfg) (f : Nat) (kvs : Dict) :
    fromJson cfg (f + 1) (.obj kvs) =
      elemBuild cfg noChoices (fun _ _ => fromJson cfg f) (questionFromJson cfg) kvs := by
  rw [fromJson, elemBuild]
  cases lookup k!"type" kvs with
  | none => rfl
  | some v =>
    cases v with
    | str t =>
      by_cases hsec : t = k!"survey" ∨ t = k!"group" ∨ t = k!"repeat"
      · by_cases hc : hasKey k!"choices" kvs = true
        · simp only [hsec, hc, true_or, if_true, noChoices]
        · simp only [hsec, hc, Bool.false_eq_true, false_or, if_true, if_false, noChoices, secBuild, kidsOf, secEl,
            stripChoices_id kvs (lookup_none_of_hasKey hc)]
          rfl
      · simp only [hsec, if_false]
    | _ => rfl

theorem fromJson_some {cfg : Cfg} {f : Nat} {d : J} {e : El} (h : fromJson cfg f d = some e) :
    ∃ f' kvs, f = f' + 1 ∧ d = .obj kvs ∧
      elemBuild cfg noChoices (fun _ _ => fromJson cfg f') (questionFromJson cfg) kvs = some e := by
  cases f with
  | zero => simp [fromJson] at h
  | succ f =>
    cases d with
    | obj kvs => exact ⟨f, kvs, rfl, rfl, fromJson_step cfg f kvs ▸ h⟩
    | _ => simp [fromJson] at h

/-- `D` is the dump (without the survey's own choices) of a section element with slots `names ↦ fn`: what the builder
    reads in it, and that an element whose slots are `fn`'s values or read from `D`, with children that dump alike,
    dumps to `D` again. -/
structure SectionDump (cls : Cls) (names : List Str) (fn : Str → J) (t s : Str) (kids : List El) (D : Dict) : Prop where
  type : lookup k!"type" D = some (.str t)
  name : lookup k!"name" D = some (.str s)
  noChoices : lookup k!"choices" D = none
  guards : isTruthyAt k!"add_none_option" D = false ∧ nameOk D = true ∧
    ¬ (hasKey k!"title" D = true ∧ (!isTruthyAt k!"title" D) = true)
  children : kidsOf D = some (toJsonL kids)
  redump : ∀ (g : Str → J) kids' m y, toJsonL kids' = toJsonL kids →
    (∀ n ∈ names, g n = fn n ∨ g n = (lookup n D).getD .null) → (∀ k ∈ y, k = k!"parent") →
    toJson (.mk cls (names.map fun n => (n, g n)) [] [] [] kids' none m) y = .obj (D ++ choicesPart m)

theorem section_stable (cls : Cls) (hc : cls ≠ .question) (names : List Str)
    (hch : k!"children" ∉ names) (hco : k!"choices" ∉ names) (hp : k!"parent" ∉ names)
    (htm : k!"type" ∈ names) (htd : k!"type" ∉ allDelete cls names [] [])
    (hnm : k!"name" ∈ names) (hnd : k!"name" ∉ allDelete cls names [] [])
    (fn : Str → J) (t : Str) (hft : fn k!"type" = .str t) (hte : t.isEmpty = false) (hgrp : cls = .group → t = k!"group")
    (s : Str) (hfn : fn k!"name" = .str s) (hs : s.isEmpty = false)
    (hnone : truthy (fn k!"add_none_option") = false) (kids : List El) :
    SectionDump cls names fn t s kids
      (ownDump (allDelete cls names [] []) (names.map fun n => (n, fn n)) ++ childPart kids) := by
  let D := ownDump (allDelete cls names [] []) (names.map fun n => (n, fn n)) ++ childPart kids
  show SectionDump cls names fn t s kids D
  let del := allDelete cls names [] []
  -- the keys the builder looks at are not `children`
  have lsome := fun k v (hk : k ≠ k!"children") hl =>
    lookup_own_append_some del names fn _ k (lookup_childPart_ne kids k hk) v hl
  have kept := fun k (hk : k ≠ k!"children") hin hd ht =>
    lookup_own_append_kept del names fn _ k (lookup_childPart_ne kids k hk) hin hd ht
  have lty : lookup k!"type" D = some (.str t) :=
    hft ▸ kept _ (by decide) htm htd (by rw [hft]; simp [truthy, hte])
  have lnm : lookup k!"name" D = some (.str s) :=
    hfn ▸ kept _ (by decide) hnm hnd (by rw [hfn]; simp [truthy, hs])
  -- `GroupedSection.to_json_dict` sets `type = "group"`: no change, the dump already has it
  have hdump : ∀ (g : Str → J) kids' m z, (∀ k ∈ z, k = k!"parent") →
      ownDump del (names.map fun n => (n, g n)) ++ childPart kids' = D →
      toJson (.mk cls (names.map fun n => (n, g n)) [] [] [] kids' none m) z = .obj (D ++ choicesPart m) := by
    intro g kids' m z hz hD
    rw [toJson_section cls hc, keys_slots, ownDump_extra cls _ [] z _ (keys_slots names g)
      (fun k hk => by rw [hz k hk]; exact hp), hD]
    by_cases h : cls = .group
    · rw [if_pos h, setKey, dictInsert_same _ _ _ (lookup_append_some _ _ _ _ (hgrp h ▸ lty))]
    · rw [if_neg h]; rfl
  refine ⟨lty, lnm, ?_, ⟨?_, nameOk_eq_true.mpr ⟨s, lnm, hs⟩, ?_⟩, kidsOf_dumpD del names fn kids hch,
    fun g kids' m y hk2 hg hy => hdump g kids' m y hy ?_⟩
  · rw [lookup_own_append del names fn _ _ (lookup_childPart_ne kids _ (by decide)), if_neg fun h => hco h.1]
  · unfold isTruthyAt
    cases hl : lookup k!"add_none_option" D with
    | none => rfl
    | some v =>
      obtain ⟨tv, ev⟩ := lsome _ v (by decide) hl
      rw [ev, hnone] at tv; cases tv
  · intro ⟨h1, h2⟩
    unfold hasKey at h1; unfold isTruthyAt at h2
    cases hl : lookup k!"title" D with
    | none => simp [hl] at h1
    | some v => simp [hl, (lsome _ v (by decide) hl).1] at h2
  · have hcp : childPart kids' = childPart kids := by
      unfold childPart; rw [← toJsonL_isEmpty kids', ← toJsonL_isEmpty kids, hk2]
    rw [hcp, ownDump_reload del names fn g (childPart kids) fun n hn _ =>
      (hg n hn).imp_right fun e => ⟨lookup_childPart_ne kids n (fun e => hch (e ▸ hn)), e⟩]

/-- a group / repeat level, its children stable -/
theorem group_stable (cfg : Cfg) (ok : SecOk cfg) (s : J → Option El) (t : Str)
    (ht : t = k!"group" ∨ t = k!"repeat") (kvs : Dict) (kids kids' : List El)
    (hty : lookup k!"type" kvs = some (.str t))
    (hname : nameOk kvs = true) (hnone : isTruthyAt k!"add_none_option" kvs = false)
    (hk : mapOpt s (toJsonL kids) = some kids') (hk2 : toJsonL kids' = toJsonL kids) :
    ∃ D, lookup k!"type" D = some (.str t) ∧ lookup k!"choices" D = none ∧
      (∀ z, (∀ k ∈ z, k = k!"parent") → toJson (.mk (if t = k!"group" then .group else .repeat)
        (reloadSlots cfg.sectionNames kvs) [] [] [] kids none []) z = .obj (D ++ choicesPart [])) ∧
      ∀ mine', ∃ e', secBuild cfg s t D mine' = some e' ∧
        ∀ y, (∀ k ∈ y, k = k!"parent") → toJson e' y = .obj (D ++ choicesPart []) := by
  have hcq : (if t = k!"group" then Cls.group else Cls.repeat) ≠ .question := by split <;> simp
  have hdel : ∀ k, k ≠ k!"_survey_element_xpath" → k ≠ k!"extra_data" →
      k ∉ allDelete (if t = k!"group" then Cls.group else Cls.repeat) cfg.sectionNames [] [] := by
    intro k h1 h2
    split <;> simp [allDelete, clsDelete, h1, h2]
  obtain ⟨s', hls, hs⟩ := nameOk_eq_true.mp hname
  have sd :=
    section_stable _ hcq _ ok.gChildren ok.gChoices ok.gParent ok.gType (hdel _ (by decide) (by decide))
      ok.gName (hdel _ (by decide) (by decide)) (fun n => (lookup n kvs).getD .null) t (by simp [hty])
      (by rcases ht with h | h <;> subst h <;> rfl) (fun h => by split at h; assumption; cases h)
      s' (by simp [hls]) hs (by rw [← isTruthyAt_eq]; exact hnone) kids
  have hnsurvey : t ≠ k!"survey" := by rcases ht with h | h <;> subst h <;> decide
  exact ⟨_, sd.type, sd.noChoices, fun z hz => sd.redump _ kids [] z rfl (fun _ _ => Or.inl rfl) hz, fun mine' => ⟨_,
    secBuild_eq_some.mpr ⟨sd.guards, _, kids', sd.children, hk, secEl_section hnsurvey⟩,
    fun y hy => sd.redump _ kids' [] y hk2 (fun _ _ => Or.inr rfl) hy⟩⟩

/-- the same for a survey: the title rule has fired (`title` is in the dump); the own choices follow the rest -/
theorem survey_stable (cfg : Cfg) (ok : SecOk cfg) (s : J → Option El) (kvs : Dict) (kids kids' : List El) (nm : J)
    (hty : lookup k!"type" kvs = some (.str k!"survey"))
    (hname : nameOk kvs = true) (hnm : lookup k!"name" kvs = some nm)
    (hnone : isTruthyAt k!"add_none_option" kvs = false)
    (htitle : ¬ (hasKey k!"title" kvs = true ∧ (!isTruthyAt k!"title" kvs) = true))
    (hk : mapOpt s (toJsonL kids) = some kids') (hk2 : toJsonL kids' = toJsonL kids)
    (mine : List (Str × List Opt)) :
    ∃ D, lookup k!"type" D = some (.str k!"survey") ∧ lookup k!"choices" D = none ∧
      (∀ z, (∀ k ∈ z, k = k!"parent") → toJson (.mk .survey (cfg.surveyNames.map fun n =>
        (n, surveyFn (if hasKey k!"title" kvs then kvs else kvs ++ [(k!"title", nm)]) n))
        [] [] [] kids none mine) z = .obj (D ++ choicesPart mine)) ∧
      ∀ mine', ∃ e', secBuild cfg s k!"survey" D mine' = some e' ∧
        ∀ y, (∀ k ∈ y, k = k!"parent") → toJson e' y = .obj (D ++ choicesPart mine') := by
  generalize hkvs' : (if hasKey k!"title" kvs then kvs else kvs ++ [(k!"title", nm)]) = kvs'
  obtain ⟨ns, hns, hnsne⟩ := nameOk_eq_true.mp hname
  obtain rfl : nm = .str ns := Option.some.inj (hnm.symm.trans hns)
  -- `kvs'` differs from `kvs` at `title` only, where it holds a truthy value
  have lk' : ∀ k, k ≠ k!"title" → lookup k kvs' = lookup k kvs := by
    intro k hk
    rw [← hkvs']
    split
    · rfl
    · rw [lookup_append_single, if_neg hk, Option.or_none]
  have fnAt : ∀ k, k ≠ k!"setgeopoint_by_triggering_ref" → k ≠ k!"setvalues_by_triggering_ref" → k ≠ k!"title" →
      surveyFn kvs' k = (lookup k kvs).getD .null := fun k h1 h2 h3 => by rw [surveyFn_plain _ h1 h2, lk' k h3]
  have fnNone : truthy (surveyFn kvs' k!"add_none_option") = false := by
    rw [fnAt _ (by decide) (by decide) (by decide), ← isTruthyAt_eq]; exact hnone
  have sd :=
    section_stable .survey (by decide) _ ok.sChildren ok.sChoices ok.sParent ok.sType ok.sKeepType
      ok.sName ok.sKeepName (surveyFn kvs') k!"survey"
      (by rw [fnAt _ (by decide) (by decide) (by decide), hty]; rfl) rfl nofun
      ns (by rw [fnAt _ (by decide) (by decide) (by decide), hns]; rfl) hnsne fnNone kids
  have lhasT : hasKey k!"title" (ownDump (allDelete .survey cfg.surveyNames [] [])
      (cfg.surveyNames.map fun n => (n, surveyFn kvs' n)) ++ childPart kids) = true := by
    have hv : truthy (surveyFn kvs' k!"title") = true := by
      rw [surveyFn_plain _ (by decide) (by decide), ← hkvs']
      cases hl : lookup k!"title" kvs with
      | none =>
        rw [if_neg (by simp [hasKey, hl]), lookup_append_none _ _ _ hl]
        simp [lookup, truthy, hnsne]
      | some v =>
        rw [if_pos (by simp [hasKey, hl]), hl]
        cases hv : truthy v with
        | true => exact hv
        | false => exact absurd ⟨by simp [hasKey, hl], by simp [isTruthyAt, hl, hv]⟩ htitle
    rw [hasKey, lookup_own_append_kept _ cfg.surveyNames _ _ _ (lookup_childPart_ne kids _ (by decide))
      ok.sTitle ok.sKeepTitle hv]; rfl
  exact ⟨_, sd.type, sd.noChoices, fun z hz => sd.redump _ kids mine z rfl (fun _ _ => Or.inl rfl) hz, fun mine' => ⟨_,
    secBuild_eq_some.mpr ⟨sd.guards, _, kids', sd.children, hk, secEl_survey.mpr ⟨_, sd.name, by rw [if_pos lhasT]⟩⟩,
    fun y hy => sd.redump _ kids' mine' y hk2 (fun n _ => (surveyFn_cases _ n).imp_left fun h => (h _).trans (h kvs').symm) hy⟩⟩

/-- a section level is stable when its children's builder is (a group / repeat ignores the own choices it is
    handed: hence the `if`) -/
theorem secBuild_stable (cfg : Cfg) (ok : SecOk cfg) {s : J → Option El} (hs : KidsStable s) {t : Str}
    (ht : t = k!"survey" ∨ t = k!"group" ∨ t = k!"repeat") {kvs : Dict} {mine : List (Str × List Opt)} {e : El}
    (hty : lookup k!"type" kvs = some (.str t)) (h : secBuild cfg s t kvs mine = some e) :
    ∃ D, lookup k!"type" D = some (.str t) ∧ lookup k!"choices" D = none ∧
      (∀ z, (∀ k ∈ z, k = k!"parent") → toJson e z = .obj (D ++ choicesPart (if t = k!"survey" then mine else []))) ∧
      ∀ mine', ∃ e', secBuild cfg s t D mine' = some e' ∧ ∀ y, (∀ k ∈ y, k = k!"parent") →
        toJson e' y = .obj (D ++ choicesPart (if t = k!"survey" then mine' else [])) := by
  obtain ⟨⟨hnone, hname, htitle⟩, cs, kids, _, hkids, he⟩ := secBuild_eq_some.mp h
  obtain ⟨kids', hk1, hk2⟩ := mapOpt_stable hs cs kids hkids
  by_cases hsv : t = k!"survey"
  · subst hsv
    obtain ⟨nm, hnm, rfl⟩ := secEl_survey.mp he
    exact survey_stable cfg ok s kvs kids kids' nm hty hname hnm hnone htitle hk1 hk2 mine
  · cases (secEl_section hsv).symm.trans he
    simp only [hsv, if_false]
    exact group_stable cfg ok s t (ht.resolve_left hsv) kvs kids kids' hty hname hnone hk1 hk2

/-- a way of reading the survey's own choices that finds in a dump what it dumped -/
structure OwnOk (own : Str → Dict → Option (List (Str × List Opt))) : Prop where
  nil : ∀ {t kvs m}, own t kvs = some m → t ≠ k!"survey" → m = []
  again : ∀ {t kvs m} (D : Dict), own t kvs = some m → lookup k!"choices" D = none →
    ∃ m', own t (D ++ choicesPart m) = some m' ∧ choicesPart m' = choicesPart m

theorem noChoices_ok : OwnOk noChoices where
  nil h _ := (noChoices_eq_some.mp h).2
  again D h hD := by
    cases (noChoices_eq_some.mp h).2
    exact ⟨[], noChoices_eq_some.mpr ⟨by rw [choicesPart_nil, List.append_nil]; exact hD, rfl⟩, rfl⟩

/-- for a children's builder that ignores the choices context (`fun _ _ => s`: `fromJson`, `fromJsonC`); the step of
    `fromJsonS` is not of this shape -/
theorem elemBuild_stable (cfg : Cfg) (ok : SecOk cfg) (hq : QStable cfg)
    {own : Str → Dict → Option (List (Str × List Opt))} (ho : OwnOk own) {s : J → Option El} (hs : KidsStable s)
    {kvs : Dict} {e : El} (h : elemBuild cfg own (fun _ _ => s) (questionFromJson cfg) kvs = some e)
    (x : List Str) (hx : ∀ k ∈ x, k = k!"parent") :
    ∃ D e', toJson e x = .obj D ∧ elemBuild cfg own (fun _ _ => s) (questionFromJson cfg) D = some e' ∧
      ∀ y, (∀ k ∈ y, k = k!"parent") → toJson e' y = toJson e y := by
  obtain ⟨t, hty, ⟨hsec, mine, hown, h⟩ | ⟨hsec, h⟩⟩ := elemBuild_eq_some.mp h
  · obtain ⟨D, lty, lch, hdump, hre⟩ := secBuild_stable cfg ok hs hsec
      ((lookup_stripChoices _ kvs (by decide)).trans hty) h
    -- off a survey there are no own choices, before or after
    have hif : ∀ {kvs m}, own t kvs = some m → (if t = k!"survey" then m else []) = m := fun ho' => by
      split
      · rfl
      · next hsv => exact (ho.nil ho' hsv).symm
    rw [hif hown] at hdump
    obtain ⟨mine', hown', hcp⟩ := ho.again D hown lch
    obtain ⟨e', he', hdump'⟩ := hre mine'
    rw [hif hown'] at hdump'
    refine ⟨_, e', hdump x hx, elemBuild_eq_some.mpr ⟨t, lookup_append_some _ _ _ _ lty, Or.inl ⟨hsec, mine', hown', ?_⟩⟩,
      fun y hy => by rw [hdump' y hy, hdump y hy, hcp]⟩
    rw [stripChoices_choicesPart D mine lch]; exact he'
  · obtain ⟨kvs', e', hd, hty', hq', heq⟩ := hq t kvs e hty h x hx
    exact ⟨kvs', e', hd, elemBuild_eq_some.mpr ⟨t, hty', Or.inr ⟨hsec, hq'⟩⟩, heq⟩

theorem questionFromJson_eq_some {cfg : Cfg} {t : Str} {kvs : Dict} {e : El} :
    questionFromJson cfg t kvs = some e ↔
      ¬ (unsupportedTypes.contains t = true ∨ t.isEmpty = true ∨ (!nameOk kvs) = true) ∧
      ¬ (hasKey k!"trigger" kvs = true ∨ hasKey k!"children" kvs = true ∨ hasKey k!"choices" kvs = true) ∧
      ∃ entry tag, lookup t cfg.qtd = some entry ∧ mergeOk entry kvs = true ∧ tagOf entry = some tag ∧
        cfg.knownTags.contains tag = true ∧
        ¬ (cfg.selectTags.contains tag = true ∧
          (!decide (isTruthyAt k!"itemset" kvs = true ∨ isTruthyAt k!"list_name" kvs = true)) = true) ∧
        e = .mk .question (reloadSlots (if cfg.selectTags.contains tag = true then cfg.selectNames
            else cfg.questionNames) (mergeQtd entry kvs))
          (entry.map Prod.fst) (kwOf entry kvs) (scalarsOf entry) [] none [] := by
  rw [questionFromJson]
  by_cases g1 : unsupportedTypes.contains t = true ∨ t.isEmpty = true ∨ (!nameOk kvs) = true
  · rw [if_pos g1]; exact ⟨nofun, fun h => absurd g1 h.1⟩
  rw [if_neg g1]
  by_cases g2 : hasKey k!"trigger" kvs = true ∨ hasKey k!"children" kvs = true ∨ hasKey k!"choices" kvs = true
  · rw [if_pos g2]; exact ⟨nofun, fun h => absurd g2 h.2.1⟩
  rw [if_neg g2]
  cases hentry : lookup t cfg.qtd with
  | none => exact ⟨nofun, fun ⟨_, _, _, _, h, _⟩ => nomatch h⟩
  | some entry =>
    dsimp only
    cases hm : mergeOk entry kvs with
    | false =>
      simp only [Bool.not_false, if_true]
      exact ⟨nofun, fun ⟨_, _, _, _, h1, h2, _⟩ => by cases h1; rw [hm] at h2; cases h2⟩
    | true =>
      simp only [Bool.not_true, Bool.false_eq_true, if_false]
      cases htag : tagOf entry with
      | none => exact ⟨nofun, fun ⟨_, _, _, _, h1, _, h3, _⟩ => by cases h1; rw [htag] at h3; cases h3⟩
      | some tag =>
        dsimp only
        cases hk : cfg.knownTags.contains tag with
        | false =>
          simp only [Bool.not_false, if_true]
          exact ⟨nofun, fun ⟨_, _, _, _, h1, _, h3, h4, _⟩ => by
            cases h1; rw [htag] at h3; cases h3; rw [hk] at h4; cases h4⟩
        | true =>
          simp only [Bool.not_true, Bool.false_eq_true, if_false]
          by_cases g5 : cfg.selectTags.contains tag = true ∧
              (!decide (isTruthyAt k!"itemset" kvs = true ∨ isTruthyAt k!"list_name" kvs = true)) = true
          · rw [if_pos g5]
            exact ⟨nofun, fun ⟨_, _, _, _, h1, _, h3, _, h5, _⟩ => by
              cases h1; rw [htag] at h3; cases h3; exact absurd g5 h5⟩
          · rw [if_neg g5]
            exact ⟨fun h => ⟨g1, g2, entry, tag, rfl, hm, htag, hk, g5, (Option.some.inj h).symm⟩,
              fun ⟨_, _, _, _, h1, _, h3, _, _, he⟩ => by cases h1; rw [htag] at h3; cases h3; rw [he]⟩

theorem questionFromJson_no_tree (cfg : Cfg) (t : Str) (kvs : Dict) (e : El)
    (h : questionFromJson cfg t kvs = some e) :
    lookup k!"children" kvs = none ∧ lookup k!"choices" kvs = none :=
  have ⟨_, g2, _⟩ := questionFromJson_eq_some.mp h
  ⟨lookup_none_of_hasKey fun h => g2 (Or.inr (Or.inl h)), lookup_none_of_hasKey fun h => g2 (Or.inr (Or.inr h))⟩

/-- the tree statement at fuel `f` (the caller may delete `parent`, as `to_json_dict` does for children) -/
def StableAt (cfg : Cfg) (f : Nat) : Prop :=
  ∀ d e, fromJson cfg f d = some e → ∀ x, (∀ k ∈ x, k = k!"parent") →
    ∃ e', fromJson cfg f (toJson e x) = some e' ∧ ∀ y, (∀ k ∈ y, k = k!"parent") → toJson e' y = toJson e y

theorem StableAt.kids {cfg : Cfg} {f : Nat} (h : StableAt cfg f) : KidsStable (fromJson cfg f) :=
  fun c k hc => (h c k hc _ (by simp)).imp fun _ hk' => ⟨hk'.1, hk'.2 _ (by simp)⟩

/-- C16 tree induction: dump, load, dump is stable at every fuel -/
theorem stable_all (cfg : Cfg) (ok : SecOk cfg) (hq : QStable cfg) : ∀ f, StableAt cfg f := by
  intro f
  induction f with
  | zero => intro d e h; simp [fromJson] at h
  | succ f ih =>
    intro d e h x hx
    obtain ⟨_, kvs, hf, rfl, h⟩ := fromJson_some h
    cases hf
    obtain ⟨D, e', hd, he', heq⟩ := elemBuild_stable cfg ok hq noChoices_ok ih.kids h x hx
    exact ⟨e', by rw [hd, fromJson_step]; exact he', heq⟩

end Pyxv.ToJson
