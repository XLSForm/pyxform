import Pyxv.Proofs.XmlRoundTrip
import Pyxv.Model.Assemble
/-!
# The reader's view of a written tree

`view pretty t` is what an XML reader reports for `renderDoc pretty t`.  It keeps the elements of `t`, their order and
nesting, tags and attribute names, and normalises attribute values (`eproj_view`); everything else a reader does (layout
text, boundary spaces, merging of text, line ends) happens in text nodes.  So a statement about the elements of the
document read needs one lemma saying that it does not look at text (`view_eq_of_eproj`).
-/
namespace Pyxv.Asm
open Pyxv.Xml

/-! ## `eproj` forgets text -/

theorem eprojKids_nil : eprojKids [] = [] := by simp [eprojKids]

theorem eprojKids_append (L1 L2 : List Node) : eprojKids (L1 ++ L2) = eprojKids L1 ++ eprojKids L2 :=
  append_of_eqns (g := fun k => if isText k then [] else [eproj k]) rfl (fun k _ => by cases k <;> rfl) L1 L2

theorem eprojKids_text (b : Bool) (s : Str) (L : List Node) : eprojKids (.text b s :: L) = eprojKids L := by
  simp [eprojKids, isText]

theorem eprojKids_elem (t : Str) (a : List (Str × Str)) (ks L : List Node) :
    eprojKids (.elem t a ks :: L) = .elem t a (eprojKids ks) :: eprojKids L := by
  simp [eprojKids, isText, eproj]

theorem eproj_elem (t : Str) (a : List (Str × Str)) (ks : List Node) :
    eproj (.elem t a ks) = .elem t a (eprojKids ks) := by
  simp [eproj]

theorem eprojKids_prepend (a : Str) (L : List Node) : eprojKids (prepend a L) = eprojKids L := by
  cases a with
  | nil => rfl
  | cons c a =>
    cases L with
    | nil => simp [prepend, eprojKids, isText]
    | cons n r => cases n <;> simp [prepend, eprojKids, isText, eproj]

theorem eprojKids_mergeText (L : List Node) : eprojKids (mergeText L) = eprojKids L := by
  induction L with
  | nil => simp [mergeText]
  | cons n r ih =>
    cases n with
    | text b s => simp [mergeText_text, eprojKids_prepend, ih, eprojKids, isText]
    | elem t a ks => simp [mergeText_elem, eprojKids, isText, eproj, ih]

theorem eprojKids_textIfNonempty (s : Str) : eprojKids (textIfNonempty s) = [] := by
  unfold textIfNonempty; split <;> simp [eprojKids, isText]

theorem eprojKids_cons_congr {n m : Node} {L M : List Node} (h : eproj n = eproj m) (ht : isText n = isText m)
    (hL : eprojKids L = eprojKids M) : eprojKids (n :: L) = eprojKids (m :: M) := by
  simp only [eprojKids, h, ht, hL]

mutual
theorem eproj_normNode : ∀ (n : Node), eproj (normNode n) = eproj n
  | .text _ _ => by simp [normNode_text, eproj]
  | .elem t a ks => by
    rw [normNode_elem, eproj_elem, eproj_elem, eprojKids_mergeText, eprojKids_normKids ks]
theorem eprojKids_normKids : ∀ (ks : List Node), eprojKids (normKids ks) = eprojKids ks
  | [] => by simp [normKids]
  | k :: ks => by
    simp only [normKids]
    exact eprojKids_cons_congr (eproj_normNode k) (by cases k <;> simp [normNode, isText]) (eprojKids_normKids ks)
end

mutual
theorem eproj_withSpaces : ∀ (n : Node), eproj (withSpaces n) = eproj n
  | .text _ _ => by simp [withSpaces, eproj]
  | .elem t a ks => by
    simp only [withSpaces]
    split <;> simp [eproj_elem, eprojKids_append, eprojKids_textIfNonempty, eprojKids_withSpacesKids ks]
theorem eprojKids_withSpacesKids : ∀ (ks : List Node), eprojKids (withSpacesKids ks) = eprojKids ks
  | [] => by simp [withSpacesKids]
  | k :: ks => by
    simp only [withSpacesKids]
    refine eprojKids_cons_congr (eproj_withSpaces k) ?_ (eprojKids_withSpacesKids ks)
    cases k with
    | text _ _ => simp [withSpaces, isText]
    | elem _ _ _ => simp only [withSpaces]; split <;> simp [isText]
end

mutual
theorem eproj_layout : ∀ (n : Node) (ind add nl : Str), eproj (layout ind add nl n) = eproj n
  | .text _ _, _, _, _ => by simp [layout, eproj]
  | .elem t a [], _, _, _ => by simp [layout]
  | .elem t a (k :: ks), ind, add, nl => by
    simp only [layout]
    split <;> simp [eprojKids_append, eprojKids_text, eprojKids_layoutKids (k :: ks), eprojKids, isText, eproj]
theorem eprojKids_layoutKids : ∀ (ks : List Node) (ind add nl : Str),
    eprojKids (layoutKids ind add nl ks) = eprojKids ks
  | [], _, _, _ => by simp [layoutKids]
  | k :: ks, ind, add, nl => by
    simp only [layoutKids, eprojKids_text]
    refine eprojKids_cons_congr (eproj_layout k ind add nl) ?_
      ((eprojKids_text _ _ _).trans (eprojKids_layoutKids ks ind add nl))
    cases k with
    | text b s => simp [layout, isText]
    | elem t a ks' => cases ks' <;> simp [layout, isText]
end

mutual
theorem eproj_normText : ∀ (n : Node), eproj (normText n) = eproj n
  | .text _ _ => by simp [normText, eproj]
  | .elem t a ks => by simp [normText, eproj_elem, eprojKids_normTextKids ks]
theorem eprojKids_normTextKids : ∀ (ks : List Node), eprojKids (normTextKids ks) = eprojKids ks
  | [] => by simp [normTextKids]
  | k :: ks => by
    simp only [normTextKids]
    exact eprojKids_cons_congr (eproj_normText k) (isText_normText k) (eprojKids_normTextKids ks)
end

mutual
theorem eproj_normAttrs : ∀ (n : Node), eproj (normAttrs n) = normAttrs (eproj n)
  | .text _ _ => by simp [normAttrs, eproj]
  | .elem t a ks => by simp [normAttrs, eproj_elem, eprojKids_normAttrsKids ks]
theorem eprojKids_normAttrsKids : ∀ (ks : List Node), eprojKids (normAttrsKids ks) = normAttrsKids (eprojKids ks)
  | [] => by simp [normAttrsKids, eprojKids]
  | .text b s :: ks => by simp [normAttrsKids, normAttrs, eprojKids, isText, eprojKids_normAttrsKids ks]
  | .elem t a ks' :: ks => by
    simp [normAttrsKids, normAttrs, eprojKids, isText, eproj, eprojKids_normAttrsKids ks, eprojKids_normAttrsKids ks']
end

end Pyxv.Asm

namespace Pyxv.Xml
open Pyxv.Asm

/-- what an XML reader reports for `renderDoc pretty t` -/
def view (pretty : Bool) (t : Node) : Node := if pretty then expectedPrettyLax t else expectedLax t

theorem renderDoc_parses (t : Node) (hwf : t.WFLax = true) (helem : isElem t = true) (pretty : Bool) :
    parseDoc (renderDoc pretty t) = some (view pretty t) := by
  cases pretty
  · exact render_parses_compact_lax t hwf helem
  · exact render_parses_pretty_lax t hwf helem

theorem eproj_view (pretty : Bool) (t : Node) : eproj (view pretty t) = normAttrs (eproj t) := by
  cases pretty
  · rw [view, if_neg (by decide), expectedLax, eproj_normText, expected, eproj_normNode, eproj_withSpaces, eproj_normAttrs]
  · rw [view, if_pos rfl, expectedPrettyLax, eproj_normText, expectedPretty, eproj_normNode, eproj_layout, eproj_normAttrs]

theorem view_eq_of_eproj {α : Type} (f : Node → α) (hf : ∀ n, f (eproj n) = f n) (pretty : Bool) (t : Node) :
    f (view pretty t) = f (normAttrs t) := by
  rw [← hf, eproj_view, ← eproj_normAttrs, hf]

/-! ## `prefixesBound` only looks at tags and attribute names -/

theorem pb_text (sc : List Str) (b : Bool) (s : Str) : prefixesBound sc (.text b s) = true := by
  simp [prefixesBound]

theorem pbKids_nil (sc : List Str) : prefixesBoundKids sc [] = true := by simp [prefixesBoundKids]

theorem pbKids_cons (sc : List Str) (k : Node) (ks : List Node) :
    prefixesBoundKids sc (k :: ks) = (prefixesBound sc k && prefixesBoundKids sc ks) := by
  simp [prefixesBoundKids]

mutual
theorem pb_eproj : ∀ (n : Node) (sc : List Str), prefixesBound sc (eproj n) = prefixesBound sc n
  | .text _ _, sc => by simp [eproj, pb_text]
  | .elem t a ks, sc => by simp only [eproj, prefixesBound, pbKids_eprojKids ks]
theorem pbKids_eprojKids : ∀ (ks : List Node) (sc : List Str),
    prefixesBoundKids sc (eprojKids ks) = prefixesBoundKids sc ks
  | [], _ => by simp [eprojKids]
  | .text b s :: ks, sc => by rw [eprojKids_text, pbKids_cons, pb_text, pbKids_eprojKids ks sc]; rfl
  | .elem t a ks' :: ks, sc => by
    rw [eprojKids_elem, pbKids_cons, pbKids_cons, ← eproj_elem, pb_eproj, pbKids_eprojKids ks sc]
end

theorem pb_normKids : ∀ (ks : List Node) (sc : List Str),
    prefixesBoundKids sc (normKids ks) = prefixesBoundKids sc ks :=
  fun ks sc => by rw [← pbKids_eprojKids, eprojKids_normKids, pbKids_eprojKids]

theorem pb_layoutKids : ∀ (ks : List Node) (ind add nl : Str) (sc : List Str),
    prefixesBoundKids sc (layoutKids ind add nl ks) = prefixesBoundKids sc ks :=
  fun ks ind add nl sc => by rw [← pbKids_eprojKids, eprojKids_layoutKids, pbKids_eprojKids]

theorem pb_normTextKids : ∀ (ks : List Node) (sc : List Str),
    prefixesBoundKids sc (normTextKids ks) = prefixesBoundKids sc ks :=
  fun ks sc => by rw [← pbKids_eprojKids, eprojKids_normTextKids, pbKids_eprojKids]

theorem declaredPrefixes_normAttrList (a : List (Str × Str)) :
    declaredPrefixes (normAttrList a) = declaredPrefixes a := by
  -- `declaredPrefixes` looks at the keys only
  unfold declaredPrefixes normAttrList
  rw [List.filterMap_map]
  rfl

mutual
theorem pb_normAttrs : ∀ (n : Node) (sc : List Str), prefixesBound sc (normAttrs n) = prefixesBound sc n
  | .text _ _, sc => by simp [normAttrs]
  | .elem t a ks, sc => by
    simp only [normAttrs, prefixesBound, declaredPrefixes_normAttrList, pb_normAttrsKids ks]
    simp [normAttrList, List.all_map, Function.comp_def]
theorem pb_normAttrsKids : ∀ (ks : List Node) (sc : List Str),
    prefixesBoundKids sc (normAttrsKids ks) = prefixesBoundKids sc ks
  | [], _ => by simp [normAttrsKids]
  | k :: ks, sc => by simp [normAttrsKids, prefixesBoundKids, pb_normAttrs k sc, pb_normAttrsKids ks sc]
end

theorem pb_view (pretty : Bool) (t : Node) (sc : List Str) :
    prefixesBound sc (view pretty t) = prefixesBound sc t := by
  rw [view_eq_of_eproj (prefixesBound sc) (fun n => pb_eproj n sc), pb_normAttrs]

theorem prefixesBound_expected (t : Node) (scope : List Str) :
    prefixesBound scope (expected t) = prefixesBound scope t := by
  rw [← pb_eproj, expected, eproj_normNode, eproj_withSpaces, pb_eproj]

theorem prefixesBound_expectedPretty (t : Node) (scope : List Str) :
    prefixesBound scope (expectedPretty t) = prefixesBound scope t := by
  rw [← pb_eproj, expectedPretty, eproj_normNode, eproj_layout, pb_eproj]

/-- the document an XML reader sees (either output mode) has all its prefixes bound exactly when
    the DOM tree has -/
theorem prefixesBound_roundtrip (t : Node) (hwf : t.WFLax = true) (helem : isElem t = true) (pretty : Bool) :
    ∃ u, parseDoc (renderDoc pretty t) = some u ∧ prefixesBound [] u = prefixesBound [] t :=
  ⟨_, renderDoc_parses t hwf helem pretty, pb_view pretty t []⟩

#print axioms prefixesBound_roundtrip

end Pyxv.Xml
