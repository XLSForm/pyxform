import Pyxv.Proofs.QStable
/-!
# a dump of a survey built from a nest of Python dicts is a nest of Python dicts (`UniqueKeys`)

`json.loads (json.dumps v) = v` needs distinct keys in every object (`loads_dumps`).  Derived here for what `fromJson`
builds (`dump_uniqueKeys`) and for what `json.loads` returns (`parse_uniqueKeys`), so the text-level theorem has no such
hypothesis.  `fromJsonC` / `fromJsonS` are not covered.
-/
namespace Pyxv.ToJson
open Pyxv Pyxv.JV

def ValsOk (kvs : Dict) : Prop := ∀ kv ∈ kvs, UniqueKeys kv.2

def DictOk (kvs : Dict) : Prop := (kvs.map Prod.fst).Nodup ∧ ValsOk kvs

theorem uniqueKeysM_iff (kvs : Dict) : UniqueKeysM kvs ↔ ValsOk kvs := by
  induction kvs with
  | nil => simp [UniqueKeysM, ValsOk]
  | cons kv rest ih =>
    cases kv with
    | mk k v =>
      simp only [UniqueKeysM, ValsOk, List.mem_cons, forall_eq_or_imp] at ih ⊢
      rw [ih]

theorem uniqueKeysL_iff (xs : List J) : UniqueKeysL xs ↔ ∀ x ∈ xs, UniqueKeys x := by
  induction xs with
  | nil => simp [UniqueKeysL]
  | cons x rest ih => simp only [UniqueKeysL, List.mem_cons, forall_eq_or_imp]; rw [ih]

theorem uk_obj (kvs : Dict) : UniqueKeys (.obj kvs) ↔ DictOk kvs := by
  simp only [UniqueKeys, DictOk, uniqueKeysM_iff]

theorem uk_arr (xs : List J) : UniqueKeys (.arr xs) ↔ ∀ x ∈ xs, UniqueKeys x := by
  simp only [UniqueKeys, uniqueKeysL_iff]

theorem uk_null : UniqueKeys .null := by simp [UniqueKeys]
theorem uk_str (s : Str) : UniqueKeys (.str s) := by simp [UniqueKeys]

theorem lookup_valOk {kvs : Dict} (h : ValsOk kvs) {k : Str} {v : J} (hl : lookup k kvs = some v) : UniqueKeys v :=
  h (k, v) (lookup_mem hl)

theorem getD_null_ok {kvs : Dict} (h : ValsOk kvs) (k : Str) : UniqueKeys ((lookup k kvs).getD .null) := by
  cases hl : lookup k kvs with
  | none => exact uk_null
  | some v => exact lookup_valOk h hl

theorem dictOk_nil : DictOk [] := ⟨List.nodup_nil, fun _ hq => nomatch hq⟩

theorem dictOk_append {a b : Dict} (ha : DictOk a) (hb : DictOk b)
    (hd : ∀ k ∈ a.map Prod.fst, k ∉ b.map Prod.fst) : DictOk (a ++ b) := by
  refine ⟨nodup_keys_append ha.1 hb.1 hd, fun kv hkv => ?_⟩
  rcases List.mem_append.mp hkv with h | h
  · exact ha.2 kv h
  · exact hb.2 kv h

theorem dictOk_dictInsert {d : Dict} (hd : DictOk d) (k : Str) (v : J) (hv : UniqueKeys v) : DictOk (dictInsert k v d) := by
  rw [dictInsert_eq]
  exact ⟨AList.nodup_set hd.1, AList.forall_mem_set (P := fun kv => UniqueKeys kv.2) hd.2 hv⟩

theorem dictOk_listing {K : List Str} (hK : K.Nodup) {φ : Str → Option J}
    (hv : ∀ k ∈ K, ∀ v, φ k = some v → UniqueKeys v) : DictOk (listing K φ) :=
  ⟨nodup_listing hK φ, fun kv h => hv kv.1 (mem_listing.mp h).1 kv.2 (mem_listing.mp h).2⟩

theorem dictOk_ownDump (del names : List Str) (hn : names.Nodup) (f : Str → J)
    (hv : ∀ n ∈ names, n ∉ del → UniqueKeys (f n)) : DictOk (ownDump del (names.map fun n => (n, f n))) := by
  rw [ownDump_eq_listing]
  refine dictOk_listing (hn.filter _) fun n hn v h => ?_
  obtain ⟨hm, hd⟩ := List.mem_filter.mp hn
  cases (Option.filter_eq_some_iff.mp h).1
  exact hv n hm (by simpa using hd)

theorem dictOk_qDump {names : List Str} (hN : names.Nodup) {entry : Dict} (eo : EntryOk entry) {kvs : Dict}
    (hv : ValsOk kvs) : DictOk (qDump names entry kvs) := by
  refine dictOk_listing (qKeys_nodup hN eo) fun k _ v h => ?_
  unfold qKeep at h
  split at h
  · next s _ =>
    split at h
    · obtain ⟨e, _⟩ := Option.filter_eq_some_iff.mp h
      cases Option.some.inj e
      cases hl : lookup k kvs with
      | none => exact uk_str s
      | some w => exact lookup_valOk hv hl
    · cases h
  · exact lookup_valOk hv (Option.filter_eq_some_iff.mp h).1

theorem dictOk_childPart {kids : List El} (hk : ∀ x ∈ toJsonL kids, UniqueKeys x) : DictOk (childPart kids) := by
  unfold childPart
  split
  · exact dictOk_nil
  · exact ⟨by simp, fun q hq => by rw [List.mem_singleton.mp hq]; exact (uk_arr _).mpr hk⟩

theorem dictOk_section (cls : Cls) (names : List Str) (hN : names.Nodup) (hc : k!"children" ∉ names) (f : Str → J)
    (hv : ∀ n, UniqueKeys (f n)) (kids : List El) (hk : ∀ x ∈ toJsonL kids, UniqueKeys x) (del : List Str) :
    DictOk ((if cls = .group then setKey k!"type" (.str k!"group") else id)
      (ownDump del (names.map fun n => (n, f n)) ++ childPart kids ++ choicesPart [])) := by
  have h0 : DictOk (ownDump del (names.map fun n => (n, f n)) ++ childPart kids ++ choicesPart []) := by
    rw [choicesPart_nil, List.append_nil]
    refine dictOk_append (dictOk_ownDump del names hN f fun n _ _ => hv n) (dictOk_childPart hk) fun k hkin hk2 => ?_
    rw [ownDump_eq_listing] at hkin
    exact hc (mem_keys_childPart hk2 ▸ (List.mem_filter.mp (mem_keys_listing hkin)).1)
  split
  · exact dictOk_dictInsert h0 _ _ (uk_str _)
  · exact h0

theorem dump_uniqueKeys (cfg : Cfg) (sok : SecOk cfg) (qok : QOk cfg) :
    ∀ f d e, UniqueKeys d → fromJson cfg f d = some e → ∀ x, (∀ k ∈ x, k = k!"parent") → UniqueKeys (toJson e x) := by
  intro f
  induction f with
  | zero => intro d e _ h; simp [fromJson] at h
  | succ f ih =>
    intro d e hu h x hx
    obtain ⟨_, kvs, hf, rfl, h⟩ := fromJson_some h
    cases hf
    have hd := (uk_obj kvs).mp hu
    obtain ⟨t, hty, ⟨_, mine, hown, h⟩ | ⟨_, h⟩⟩ := elemBuild_eq_some.mp h
    · obtain ⟨hnc, rfl⟩ := noChoices_eq_some.mp hown
      rw [stripChoices_id kvs hnc] at h
      obtain ⟨_, cs, kids, hcs, hkids, he⟩ := secBuild_eq_some.mp h
      have hcsok : ∀ c ∈ cs, UniqueKeys c := by
        rcases kidsOf_eq_some hcs with rfl | hl
        · simp
        · exact (uk_arr _).mp (lookup_valOk hd.2 hl)
      have hk : ∀ x ∈ toJsonL kids, UniqueKeys x := by
        intro x hx
        rw [toJsonL_eq_map] at hx
        obtain ⟨k, hk, rfl⟩ := List.mem_map.1 hx
        obtain ⟨c, hc, e⟩ := mapOpt_mem _ cs kids hkids k hk
        exact ih c k (hcsok c hc) e _ (by simp)
      by_cases hs : t = k!"survey"
      · subst hs
        obtain ⟨nm, hnm, rfl⟩ := secEl_survey.mp he
        rw [toJson_section .survey (by decide), uk_obj]
        simp only [List.map_map, Function.comp_def, List.map_id']
        apply dictOk_section .survey _ sok.sN sok.sChildren _ _ kids hk
        intro n
        rcases surveyFn_cases _ n with e | e
        · rw [e _]; exact (uk_obj []).mpr dictOk_nil
        · rw [e]
          apply getD_null_ok
          split
          · exact hd.2
          · intro q hq
            rcases List.mem_append.mp hq with hq | hq
            · exact hd.2 q hq
            · simp at hq; rw [hq]; exact lookup_valOk hd.2 hnm
      · cases (secEl_section hs).symm.trans he
        rw [toJson_section _ (by split <;> simp), uk_obj]
        simp only [reloadSlots, List.map_map, Function.comp_def, List.map_id']
        exact dictOk_section _ _ sok.gN sok.gChildren _ (fun n => getD_null_ok hd.2 n) kids hk _
    · obtain ⟨_, _, entry, tag, hentry, _, _, _, _, rfl⟩ := questionFromJson_eq_some.mp h
      have eo := qok.entries t entry hentry
      have nok := qok.names (cfg.selectTags.contains tag)
      generalize (if cfg.selectTags.contains tag = true then cfg.selectNames else cfg.questionNames) = names
        at nok ⊢
      rw [toJson_question_eq nok.nodup nok.noParent eo kvs x hx, uk_obj]
      exact dictOk_qDump nok.nodup eo hd.2


mutual
theorem dedup_uniqueKeys : ∀ j : J, UniqueKeys (dedup j)
  | .null => by simp [dedup, UniqueKeys]
  | .bool _ => by simp [dedup, UniqueKeys]
  | .num _ => by simp [dedup, UniqueKeys]
  | .str _ => by simp [dedup, UniqueKeys]
  | .arr xs => by
    simp only [dedup]
    exact (uk_arr _).mpr (dedupL_uniqueKeys xs)
  | .obj kvs => by
    simp only [dedup]
    exact (uk_obj _).mpr (dedupM_dictOk kvs [] dictOk_nil)
theorem dedupL_uniqueKeys : ∀ xs : List J, ∀ x ∈ dedupL xs, UniqueKeys x
  | [] => by simp [dedupL]
  | x :: xs => by
    intro y hy
    simp only [dedupL, List.mem_cons] at hy
    rcases hy with hy | hy
    · rw [hy]; exact dedup_uniqueKeys x
    · exact dedupL_uniqueKeys xs y hy
theorem dedupM_dictOk : ∀ (kvs acc : List (Str × J)), DictOk acc → DictOk (dedupM kvs acc)
  | [], acc, h => by simpa [dedupM] using h
  | (k, v) :: rest, acc, h => by
    simp only [dedupM]
    exact dedupM_dictOk rest _ (dictOk_dictInsert h k _ (dedup_uniqueKeys v))
end

theorem parse_uniqueKeys (text : Str) (d : J) (h : parse text = some d) : UniqueKeys d := by
  unfold parse at h
  cases hr : parseRaw text with
  | none => simp [hr] at h
  | some j => simp [hr] at h; rw [← h]; exact dedup_uniqueKeys j

end Pyxv.ToJson
