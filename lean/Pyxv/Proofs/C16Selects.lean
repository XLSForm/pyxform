import Pyxv.Proofs.C16Choices
import Pyxv.Model.FromJsonSelects
/-!
# C16: the builder model with the choices context is a conservative extension

`fromJsonS` (Model/FromJsonSelects.lean) threads the survey's choices through the recursion and lets a select carry
its options.  Proved here, for all inputs: on every dict `fromJson` accepts, and on every dict `fromJsonC` accepts,
`fromJsonS` builds the same element — so the tree theorems transfer to `fromJsonS` on those fragments
(`dump_stable_tree_selects_partial`).  NOT proved: dump stability for selects that carry options (tied by the
correspondence stream only).
-/
namespace Pyxv.C16
open Pyxv Pyxv.JV Pyxv.ToJson

theorem questionFromJsonS_extends (cfg : Cfg) (ch : List (Str × List Opt)) (t : Str) (kvs : Dict) (e : El)
    (h : questionFromJson cfg t kvs = some e) : questionFromJsonS cfg ch t kvs = some e := by
  obtain ⟨h1, h2⟩ := questionFromJson_no_tree cfg t kvs e h
  simp [questionFromJsonS, h1, h2, h]

/-- `fromJsonS` is the step with the choices context: a survey hands its own choices to its children, a group /
    repeat what it received, and a question may take its options from them -/
theorem fromJsonS_step (cfg : Cfg) (ctor : List Str) (f : Nat) (ch : List (Str × List Opt)) (kvs : Dict) :
    fromJsonS cfg ctor (f + 1) ch (.obj kvs) =
      elemBuild cfg (ownChoices ctor) (fun t mine => fromJsonS cfg ctor f (if t = k!"survey" then mine else ch))
        (questionFromJsonS cfg ch) kvs := by
  rw [fromJsonS, elemBuild]
  cases hl : lookup k!"type" kvs with
  | none => rfl
  | some v =>
    cases v with
    | str t =>
      by_cases hsec : t = k!"survey" ∨ t = k!"group" ∨ t = k!"repeat"
      · simp only [hsec, if_true, ownChoices, secBuild, kidsOf, secEl]
        rfl
      · simp only [hsec, if_false]
    | _ => rfl

/-- whatever choices context is handed down, `fromJsonS` builds from a dict `fromJson`
    accepts the same element -/
theorem fromJsonS_extends (cfg : Cfg) (ctor : List Str) :
    ∀ f ch d e, fromJson cfg f d = some e → fromJsonS cfg ctor f ch d = some e := by
  intro f
  induction f with
  | zero => intro ch d e h; simp [fromJson] at h
  | succ f ih =>
    intro ch d e h
    obtain ⟨_, kvs, hf, rfl, h⟩ := fromJson_some h
    cases hf
    rw [fromJsonS_step]
    refine elemBuild_mono (fun t m ho => ?_) (fun _ _ x y => ih _ x y) (questionFromJsonS_extends cfg ch · kvs) h
    -- no `choices` key: the survey's own choices are empty
    obtain ⟨hc, rfl⟩ := noChoices_eq_some.mp ho
    simp only [ownChoices, hc]

/-- on every dict `fromJsonC` accepts (survey-level `choices`, selects referring to a
    list), `fromJsonS` started with the empty context builds the same element -/
theorem fromJsonS_extends_fromJsonC (cfg : Cfg) (ctor : List Str) (f : Nat) (d : J) (e : El)
    (h : fromJsonC cfg ctor f d = some e) : fromJsonS cfg ctor f [] d = some e := by
  obtain ⟨f, kvs, rfl, rfl, hs⟩ := fromJsonC_some h
  rw [fromJsonS_step]
  exact elemBuild_mono (fun _ _ => id) (fun _ _ => fromJsonS_extends cfg ctor f _)
    (questionFromJsonS_extends cfg [] · kvs) hs

/-- the joined tree theorem transferred to `fromJsonS` (the model the widest correspondence stream runs); `_partial`:
    inside `fromJsonC`'s fragment only — for selects that carry their options dump stability is NOT proved. -/
theorem dump_stable_tree_selects_partial (f : Nat) (d : J) (e : El)
    (h : fromJsonC genCfg optionCtor f d = some e) :
    fromJsonS genCfg optionCtor f [] d = some e ∧
    ∃ e', fromJsonS genCfg optionCtor f [] (toJson e []) = some e' ∧ toJson e' [] = toJson e [] := by
  obtain ⟨e', h1, h2⟩ := dump_stable_tree_choices f d e h
  exact ⟨fromJsonS_extends_fromJsonC _ _ f d e h, e', fromJsonS_extends_fromJsonC _ _ f _ e' h1, h2⟩

/-- non-vacuity (real tables): a survey with a `choices` object and a `select one` referring to the list -/
example : ∃ e e', fromJsonS genCfg optionCtor 4 [] (.obj [(k!"type", .str k!"survey"), (k!"name", .str k!"data"),
      (k!"children", .arr [.obj [(k!"name", .str k!"q"), (k!"type", .str k!"select one"),
        (k!"itemset", .str k!"l"), (k!"label", .str k!"Q")]]),
      (k!"choices", .obj [(k!"l", .arr [.obj [(k!"name", .str k!"a"), (k!"label", .str k!"A")]])])]) = some e ∧
    fromJsonS genCfg optionCtor 4 [] (toJson e []) = some e' ∧ toJson e' [] = toJson e [] := by
  have hsome : (fromJsonC genCfg optionCtor 4 (.obj [(k!"type", .str k!"survey"), (k!"name", .str k!"data"),
      (k!"children", .arr [.obj [(k!"name", .str k!"q"), (k!"type", .str k!"select one"),
        (k!"itemset", .str k!"l"), (k!"label", .str k!"Q")]]),
      (k!"choices", .obj [(k!"l", .arr [.obj [(k!"name", .str k!"a"), (k!"label", .str k!"A")]])])])).isSome = true := by
    simp only [genCfg, Gen.questionTypes, List.map, toList_lit rfl]
    decide +kernel
  obtain ⟨e, he⟩ := Option.isSome_iff_exists.mp hsome
  obtain ⟨h0, e', h1, h2⟩ := dump_stable_tree_selects_partial 4 _ e he
  exact ⟨e, e', h0, h1, h2⟩

/-- an instance beyond the proved fragment (evaluated, not a for-all statement): a `select one` that carries its
    options in a survey with `choices` is rejected by `fromJsonC`, accepted by `fromJsonS`, and dump → load → dump
    gives the same text (only the first component of the pair is tested, not the comparison with the expected text). -/
example :
    fromJsonC genCfg optionCtor 4 (.obj [(k!"type", .str k!"survey"), (k!"name", .str k!"data"),
      (k!"children", .arr [.obj [(k!"name", .str k!"q"), (k!"type", .str k!"select one"),
        (k!"itemset", .str k!"l"), (k!"label", .str k!"Q"),
        (k!"children", .arr [.obj [(k!"name", .str k!"zzz")]])]]),
      (k!"choices", .obj [(k!"l", .arr [.obj [(k!"name", .str k!"a"), (k!"label", .str k!"A"), (k!"pop", .str k!"1")]])])])
      = none ∧
    (fromJsonS genCfg optionCtor 4 [] (.obj [(k!"type", .str k!"survey"), (k!"name", .str k!"data"),
      (k!"children", .arr [.obj [(k!"name", .str k!"q"), (k!"type", .str k!"select one"),
        (k!"itemset", .str k!"l"), (k!"label", .str k!"Q"),
        (k!"children", .arr [.obj [(k!"name", .str k!"zzz")]])]]),
      (k!"choices", .obj [(k!"l", .arr [.obj [(k!"name", .str k!"a"), (k!"label", .str k!"A"), (k!"pop", .str k!"1")]])])])).bind
      (fun e => (fromJsonS genCfg optionCtor 4 [] (toJson e [])).map fun e' =>
        (decide (print (toJson e' []) = print (toJson e [])),
         decide (print (toJson e []) = ("{\"name\": \"data\", \"type\": \"survey\", \"title\": \"data\", \"children\": " ++
           "[{\"name\": \"q\", \"label\": \"Q\", \"type\": \"select one\", \"itemset\": \"l\", \"children\": " ++
           "[{\"name\": \"a\", \"label\": \"A\", \"pop\": \"1\"}]}], \"choices\": {\"l\": " ++
           "[{\"name\": \"a\", \"label\": \"A\", \"pop\": \"1\"}]}}").toList)).1) = some true := by
  simp only [genCfg, Gen.questionTypes, Gen.surveyFields, Gen.selectQuestionFields, treeKeys,
    List.filter, List.contains, List.elem, String.reduceBEq, Bool.not_false, Bool.not_true, List.map, toList_lit rfl,
    ← Option.isNone_iff_eq_none]
  decide +kernel

end Pyxv.C16
