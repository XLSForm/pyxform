import Pyxv.Proofs.Convert
/-!
# C02 for the end-to-end composition, at the level of the returned TEXT

`trace_c02` / `convert_c02_partial` (Proofs/Convert.lean) speak about the DOM tree whose text `convert` returns.  Here the
same closure is stated about what an XML reader gets from the text: `parseDoc text`, projected to its elements (`eproj`).
By `eproj_view` that projection is `normAttrs (eproj doc)`, every attribute value normalised as XML 1.0 §3.3.3 prescribes
(TAB / LF / CR → space); each reader of Convert.lean commutes with it (the `…_read` lemmas).
-/
namespace Pyxv.ConvertP
open Pyxv Pyxv.Form Pyxv.Rows Pyxv.Xml Pyxv.Asm Pyxv.Convert Pyxv.C01

theorem ctlRefs_read_of (t : Str) (a : List (Str × Str)) (ks : List Node)
    (h : ctlRefsL (normAttrsKids (eprojKids ks)) = (ctlRefsL ks).map normAttrVal) :
    ctlRefs (.elem t (normAttrList a) (normAttrsKids (eprojKids ks))) = (ctlRefs (.elem t a ks)).map normAttrVal := by
  simp only [ctlRefs, h, List.map_append]
  split
  · simp only [lookup_normAttrList, Option.toList_map, List.map_append]
  · rfl

theorem ctlRefsL_read : ∀ (ks : List Node),
    ctlRefsL (normAttrsKids (eprojKids ks)) = (ctlRefsL ks).map normAttrVal := by
  intro ks
  induction ks using nodes_induction with
  | nil => simp [eprojKids_nil, normAttrsKids, ctlRefsL]
  | text b s rest ih =>
    rw [eprojKids_text, ih]
    simp [ctlRefsL, ctlRefs]
  | elem t a ks rest ihk ih =>
    rw [eprojKids_elem]
    simp only [normAttrsKids, normAttrs, ctlRefsL, ctlRefs_read_of t a ks ihk, ih, List.map_append]

theorem ctlRefs_read : ∀ (t : Str) (a : List (Str × Str)) (ks : List Node),
    ctlRefs (.elem t (normAttrList a) (normAttrsKids (eprojKids ks))) = (ctlRefs (.elem t a ks)).map normAttrVal :=
  fun t a ks => ctlRefs_read_of t a ks (ctlRefsL_read ks)

theorem bindRefs_read : ∀ (ks : List Node),
    (normAttrsKids (eprojKids ks)).filterMap bindRef = (ks.filterMap bindRef).map normAttrVal :=
  filterMap_read bindRef normAttrVal (fun _ _ => rfl) fun t a _ _ => by
    simp only [bindRef]; split
    · exact lookup_normAttrList ..
    · rfl

theorem ntOfL_read : ∀ (ks : List Node), ntOfL (normAttrsKids (eprojKids ks)) = ntOfL ks := by
  intro ks
  induction ks using nodes_induction with
  | nil => simp [eprojKids_nil, normAttrsKids, ntOfL]
  | text b s rest ih =>
    rw [eprojKids_text, ih]
    simp [ntOfL, ntOf]
  | elem t a ks rest ihk ih =>
    rw [eprojKids_elem]
    simp only [normAttrsKids, normAttrs, ntOfL, ntOf, ihk, ih, lookup_normAttrList, Option.isSome_map]

theorem ntOf_read : ∀ (t : Str) (a : List (Str × Str)) (ks : List Node),
    ntOf (.elem t (normAttrList a) (normAttrsKids (eprojKids ks))) = ntOf (.elem t a ks) := by
  intro t a ks
  simp only [ntOf, ntOfL_read ks, lookup_normAttrList, Option.isSome_map]

theorem find_read (t : Str) : ∀ (ks : List Node),
    (normAttrsKids (eprojKids ks)).find? (isTag t) = (ks.find? (isTag t)).map fun n => normAttrs (eproj n)
  | [] => by simp [eprojKids_nil, normAttrsKids]
  | .text b s :: rest => by
    rw [eprojKids_text, find_read t rest]
    simp [List.find?, isTag]
  | .elem t' a ks :: rest => by
    rw [eprojKids_elem]
    simp only [normAttrsKids, normAttrs, List.find?, isTag]
    by_cases h : (t' == t) = true
    · simp [h, eproj_elem, normAttrs]
    · simp only [h]; exact find_read t rest

theorem primaryRoot_read (f : Fields) (rk rest bk : List Node) :
    primaryRoot (normAttrs (eproj (assemble f none rk rest bk))) =
      some (.elem f.name (normAttrList (rootAttrs f)) (normAttrsKids (eprojKids rk))) := by
  unfold primaryRoot
  rw [(read_assemble f rk rest bk).1, find_read, modelKids_find_instance]
  simp [pyNode, setAttrs, eproj, eprojKids, isText, normAttrs, normAttrsKids, normAttrList]

/-- **C02 for the whole conversion, on the returned text** (either `pretty_print` mode).  The text parses; in the
    parsed document (its element projection) the `nodeset` of every `<bind>` of the model and the `ref` / `nodeset` of
    every body control is — as the reader sees the attribute value — an absolute path `xpathStr p` (attribute-value
    normalised) such that `p` names a node of the primary instance *read back from the same parsed text*.
    `hn`: complement of the open finding F5, as for `convert_c15`. -/
theorem convert_c02 (wb : Workbook) (p : Bool) (text : Str) (h : convert wb p = .ok text)
    (hn : ∀ doc, convertDoc wb = .ok doc → noBrTree doc = true) :
    ∃ parsed rt, parseDoc text = some parsed ∧ primaryRoot (eproj parsed) = some rt ∧
      ∀ s ∈ bindRefs (eproj parsed) ++ ctlRefsL (bodyKidsOf (eproj parsed)),
        ∃ q, s = normAttrVal (xpathStr q) ∧ resolves (NT.node (tagOf rt) false (ntOfL (kidsOf rt))) q = true := by
  obtain ⟨doc, hd, rfl⟩ := convert_ok wb p text h
  obtain ⟨f, lists, rows, drows, o, ditems, T⟩ := convertDoc_trace wb doc hd
  have hep := eproj_view p doc
  have hdoc := T.hdoc
  refine ⟨_, .elem f.name (normAttrList (rootAttrs f))
    (normAttrsKids (eprojKids (instNodes (defaultsOfL [f.name] ditems) [f.name] (ntKids o.inst)))),
    trace_parses T (hn doc hd) p, ?_, ?_⟩
  · rw [hep, hdoc]; exact primaryRoot_read ..
  · intro s hs
    simp only [tagOf, kidsOf, ntOfL_read, trace_inst_read T]
    rw [hep, bindRefs, hdoc, (read_assemble ..).1, (read_assemble ..).2, bindRefs_read, ctlRefsL_read,
      ← List.map_append, List.mem_map] at hs
    obtain ⟨s0, hs0, rfl⟩ := hs
    have hs0' : s0 ∈ bindRefs doc ++ ctlRefsL (bodyKidsOf doc) := by
      rw [bindRefs, hdoc, modelKidsOf_assemble, bodyKidsOf_assemble]; exact hs0
    obtain ⟨q, rfl, hq⟩ := trace_c02 T s0 hs0'
    exact ⟨q, rfl, hq⟩

#print axioms convert_c02

-- non-vacuity: the example workbook, both modes
example : ∃ parsed rt, parseDoc exText = some parsed ∧ primaryRoot (eproj parsed) = some rt ∧
    ∀ s ∈ bindRefs (eproj parsed) ++ ctlRefsL (bodyKidsOf (eproj parsed)),
      ∃ q, s = normAttrVal (xpathStr q) ∧ resolves (NT.node (tagOf rt) false (ntOfL (kidsOf rt))) q = true :=
  convert_c02 exWb false exText ex_convert (fun d hd => namesClean_of_B ex_clean d hd)

end Pyxv.ConvertP
