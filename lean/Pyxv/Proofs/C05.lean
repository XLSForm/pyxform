import Pyxv.Proofs.BindsLemmas
/-!
# C05 — logic cells reach the right bind unchanged, with the type the table prescribes

Property theorems about `Pyxv.Binds` (the model of `process_header` / `process_row` /
`Question.__init__` / `xml_bindings`).  `Spec.source` / `Spec.value` are the property's own
reading: the attribute `k` of a row's bind is the row's logic cell for `k` if it has one, else the
type table's value, converted (yes/no, message redirection) and reference-substituted.
-/
namespace Pyxv.C05
open Pyxv Pyxv.Binds

/-- the one reason an entry of the bind dict is not emitted: a triggered question's `calculate` -/
def dropped (trig : Bool) (k : Str) : Bool := trig && decide (k = calcKey)

theorem lookup_attrsOf (root : Str) (tops : List Str) (path : Str) (trig : Bool) :
    ∀ (b : BindDict) (attrs : List (Str × Str)), attrsOf root tops path trig b = some attrs → ∀ k,
      lookup k attrs =
        if dropped trig k then none else (lookup k b).bind (Spec.value root tops path k) :=
  fun b _ h => attrStep_lookup (attrsOf_eq root tops path trig b ▸ h)

theorem lookup_source (tt : List (Str × Str)) (logic : BindDict) (trig : Bool) (k : Str)
    (hl : (logic.map (·.1)).Nodup) (f : BVal → Option Str) :
    (if dropped trig k then none else (lookup k (dictUpdate (tt.map fun (k, v) => (k, BVal.s v)) logic)).bind f) =
      (Spec.source tt logic trig k).bind f := by
  rw [dictUpdate_eq, lookup_update_of_nodup hl, lookup_map_s]
  unfold Spec.source dropped
  cases hc : (trig && decide (k = calcKey)) with
  | true => rfl
  | false =>
    simp only [Bool.false_eq_true, if_false]
    cases lookup k logic <;> rfl

/-- The attribute list of a question's bind is, as a finite map, what the property prescribes: for every attribute `k`,
    the converted, reference-substituted logic cell of this row if it has one, else the converted type-table value,
    else absent. -/
theorem bind_of_row (root : Str) (tops : List Str) (path : Str) (trig : Bool)
    (tt : List (Str × Str)) (logic : BindDict) (attrs : List (Str × Str))
    (hl : (logic.map (·.1)).Nodup)
    (h : attrsOf root tops path trig (dictUpdate (tt.map fun (k, v) => (k, BVal.s v)) logic) = some attrs)
    (k : Str) :
    lookup k attrs = (Spec.source tt logic trig k).bind (Spec.value root tops path k) := by
  rw [lookup_attrsOf root tops path trig _ attrs h k]
  exact lookup_source tt logic trig k hl _

/-- the hypothesis `hl` of `bind_of_row` always holds in the pipeline -/
theorem processRow_bind_keys_nodup (dl : Str) (key : List (Str × List Str)) (cells : List (Str × Str))
    (r : PRow) (h : processRow dl key {} cells = .ok r) : ((r.bind.getD []).map (·.1)).Nodup :=
  processRow_nodup dl key cells {} r (by simp [bindNodup]) h

/-- no attribute twice; the hypothesis on the type table is `typeBind_spec` -/
theorem attrs_nodup (root : Str) (tops : List Str) (e : Elem) (b : Bind)
    (htt : ∀ tt, e.q.tt = some tt → (tt.map (·.1)).Nodup)
    (hl : ((e.q.bind.getD []).map (·.1)).Nodup)
    (h : xmlBind root tops e = some (some b)) : (b.attrs.map (·.1)).Nodup := by
  obtain ⟨bd, a, hb, ha, rfl⟩ := bindBy_some (xmlBind_eq root tops e ▸ h)
  refine (attrStep_keys_sublist (attrsOf_eq .. ▸ ha)).nodup ?_
  rw [elemBind_some hb]
  unfold rawBind
  split
  · next tt htt' =>
    rw [dictUpdate_eq]; apply AList.nodup_update
    simpa [List.map_map, Function.comp_def] using htt tt htt'
  · exact hl

theorem no_bind_without_logic (root : Str) (tops : List Str) (e : Elem)
    (htt : e.q.tt = none) (hb : e.q.bind = none ∨ e.q.bind = some []) :
    xmlBind root tops e = some none := by
  unfold xmlBind elemBind rawBind
  rcases hb with hb | hb <;> simp [htt, hb]

/-- no bind is attached to a node of another row, none is missing, none is invented -/
theorem binds_exactly_where_prescribed (root : Str) (tops : List Str) :
    ∀ (es : List Elem) (bs : List Bind), renderAll root tops es = some bs →
      bs.map (·.path) = (es.filter fun e => (elemBind e.q).isSome).map (·.path) :=
  fun es bs h => renderBy_paths_eq (·.q) (·.path) (fun e => ⟨_, xmlBind_eq root tops e⟩) es bs (renderAll_eq root tops es ▸ h)

theorem lower_instanceID : lowerAscii "instanceID".toList = "instanceid".toList := by decide

theorem bindsOfRows_inv (root : Str) (ks : List RK) (metas : List Q) (bs : List Bind) {extra : List Str}
    (h : bindsOfRows root ks metas extra = .ok bs) :
    ((allNames ks metas).map lowerAscii).Nodup ∧
    ((allNames ks metas).map lowerAscii).any (reservedNames root).contains = false ∧
    ∃ es, walk root [] ks = some es ∧
      renderAll root (topNames 0 ks) (es ++ (metas.map (metaElem root) ++ [instanceID root])) = some bs := by
  unfold bindsOfRows at h
  simp only at h
  -- the guards of `bindsOfRows`, in its order: names, empty group, trigger targets, the walk, the rendering, XML names
  split at h
  · cases h
  next hnames =>
  split at h
  · cases h
  split at h
  · cases h
  split at h
  · cases h
  next es hw =>
  split at h
  · cases h
  next bs' hr =>
  split at h
  case isFalse => cases h
  simp only [Out.ok.injEq] at h
  subst h
  simp only [Bool.or_eq_true, Bool.not_eq_true', decide_eq_false_iff_not, not_or, Bool.not_eq_true,
    Decidable.not_not] at hnames
  exact ⟨hnames.1, hnames.2, es, hw, hr⟩

theorem bindsOfRows_ok (root : Str) (ks : List RK) (metas : List Q) (bs : List Bind) {extra : List Str}
    (h : bindsOfRows root ks metas extra = .ok bs) :
    ∃ es, walk root [] ks = some es ∧
      renderAll root (topNames 0 ks) (es ++ (metas.map (metaElem root) ++ [instanceID root])) = some bs :=
  (bindsOfRows_inv root ks metas bs h).2.2

/-- the paths of a form's elements differ already in their last segment: names are unique in the form -/
theorem paths_nodup (root : Str) (ks : List RK) (metas : List Q) (es : List Elem)
    (hnd : ((allNames ks metas).map lowerAscii).Nodup)
    (hres : ((allNames ks metas).map lowerAscii).any (reservedNames root).contains = false)
    (hw : walk root [] ks = some es) (p : Elem → Bool) :
    (((es ++ (metas.map (metaElem root) ++ [instanceID root])).filter p).map (·.path)).Nodup := by
  suffices h : ((es ++ (metas.map (metaElem root) ++ [instanceID root])).map (fun e => e.path.getLast?)).Nodup by
    refine (List.filter_sublist.map _).nodup (nodup_of_map (fun p => p.getLast?) _ ?_)
    rw [List.map_map]
    exact h
  have hm : (metas.map (metaElem root)).map (fun e => e.path.getLast?) = (metas.map (·.name)).map some := by
    simp [List.map_map, metaElem, Function.comp_def]
  rw [List.map_append, List.map_append, hm, walk_lasts root ks [] es hw, ← List.append_assoc, ← List.map_append]
  show ((allNames ks metas).map some ++ [some "instanceID".toList]).Nodup
  have hn : (allNames ks metas).Nodup := nodup_of_map lowerAscii _ hnd
  rw [List.nodup_append]
  refine ⟨List.Pairwise.map some (fun a b hab e => hab (Option.some.inj e)) hn, by simp, ?_⟩
  intro a ha b hb e
  rw [List.mem_singleton.mp hb] at e
  subst e
  -- `instanceID` among the names would be a reserved name
  obtain ⟨n, hn1, hn2⟩ := List.mem_map.mp ha
  cases hn2
  have : ((allNames ks metas).map lowerAscii).any (reservedNames root).contains = true := by
    rw [List.any_eq_true]
    refine ⟨lowerAscii "instanceID".toList, List.mem_map.mpr ⟨_, hn1, rfl⟩, ?_⟩
    rw [lower_instanceID]
    simp [reservedNames]
  rw [this] at hres
  cases hres

/-- every node has at most one bind (with `binds_exactly_where_prescribed`: exactly one iff its row or type
    prescribes one) -/
theorem one_bind_per_node (root : Str) (ks : List RK) (metas : List Q) (bs : List Bind) {extra : List Str}
    (h : bindsOfRows root ks metas extra = .ok bs) : (bs.map (·.path)).Nodup := by
  obtain ⟨hnd, hres, es, hw, hr⟩ := bindsOfRows_inv root ks metas bs h
  rw [binds_exactly_where_prescribed _ _ _ _ hr]
  exact paths_nodup root ks metas es hnd hres hw _

/-- every entry of `aliases.survey_header` sends its own key to its documented tokens, under both
    delimiter regimes (`::` seen in the header row or not) -/
theorem alias_entries_land :
    surveyAliases.all (fun at_ =>
      (processHeader false surveyAliases surveyColumns at_.1).map (·.2) == some at_.2 &&
      (processHeader true surveyAliases surveyColumns at_.1).map (·.2) == some at_.2) = true := by
  rw [surveyAliasesC.2, surveyColumnsC.2]
  decide +kernel

/-- the documented logic-column names (XLSForm reference) and the bind attribute each must reach -/
def documentedBindColumns : List (String × String) :=
  [("read_only", "readonly"), ("readonly", "readonly"), ("relevant", "relevant"), ("relevance", "relevant"),
   ("required", "required"), ("constraint", "constraint"), ("constraint_message", "jr:constraintMsg"),
   ("constraining_message", "jr:constraintMsg"), ("calculation", "calculate"), ("calculate", "calculate"),
   ("required_message", "jr:requiredMsg"), ("requiredmsg", "jr:requiredMsg"),
   ("noapperrorstring", "jr:noAppErrorString"), ("no_app_error_string", "jr:noAppErrorString"),
   ("save_to", "entities:saveto")]

/-- the regenerated alias table sends every documented logic column to `(bind, attr)` … -/
theorem documented_columns_reach_bind :
    documentedBindColumns.all (fun ca =>
      lookup ca.1.toList surveyAliases == some ["bind".toList, ca.2.toList]) = true := by
  simp only [documentedBindColumns, List.all_cons, List.all_nil, toList_lit rfl]
  rw [surveyAliasesC.2]
  decide +kernel

/-- … and sends nothing else there -/
theorem only_documented_columns_reach_bind :
    surveyAliases.all (fun at_ =>
      at_.2.head? != some "bind".toList ||
      documentedBindColumns.any (fun ca => ca.1.toList == at_.1 && at_.2 == ["bind".toList, ca.2.toList])) = true := by
  simp only [documentedBindColumns, List.any_cons, List.any_nil, toList_lit rfl]
  rw [surveyAliasesC.2]
  decide +kernel

theorem columns_are_snake : surveyColumns.all (fun c => toSnakeCase c == c) = true := by
  rw [surveyColumnsC.2]; decide +kernel

theorem jr_is_no_alias : lookup "jr".toList surveyAliases = none := by
  rw [surveyAliasesC.2, String.toList_ofList]; decide +kernel

theorem snake_jr : toSnakeCase "jr".toList = "jr".toList := by
  rw [String.toList_ofList]; decide +kernel

theorem strip_ne_jr {h : Str} (hs : toSnakeCase h ≠ "jr".toList) : strip h ≠ "jr".toList :=
  fun e => hs (by rw [← toSnakeCase_strip, e, snake_jr])

/-- the bind section of a type-table entry as the table spells it, before `typeBind` converts the strings -/
def entryBind (e : List (String × String × String)) : Option (List (String × String)) :=
  if Rows.entryHas e "bind" then some ((e.filter fun x => x.1 = "bind").map (·.2)) else none

theorem typeBind_eq (t : Str) : typeBind t = ((Rows.typeEntry t).bind entryBind).map Rows.gtab := by
  unfold typeBind entryBind
  cases Rows.typeEntry t with
  | none => rfl
  | some e =>
    simp only [Option.bind_some]
    split
    · simp only [Option.map_some, Rows.gtab, List.map_map]; rfl
    · rfl

/-- for a type name given as a `String` the lookup runs on the table's own strings, which the kernel compares directly -/
theorem typeBind_toList (s : String) :
    typeBind s.toList = ((Pyxv.Gen.questionTypes.find? (·.1 = s)).bind (entryBind ·.2)).map Rows.gtab := by
  have : (fun p : String × List (String × String × String) => decide (p.1.toList = s.toList)) = (decide <| ·.1 = s) :=
    funext fun p => decide_eq_decide.mpr String.toList_inj
  rw [typeBind_eq, Rows.typeEntry, this]
  cases Pyxv.Gen.questionTypes.find? (decide <| ·.1 = s) <;> rfl

/-- checked once, on the strings of the table: the bind section of every entry has distinct keys and a `type` -/
theorem type_table_bind_sections :
    Pyxv.Gen.questionTypes.all (fun te =>
      match entryBind te.2 with
      | some b => decide (b.map (·.1)).Nodup && b.any (·.1 = "type")
      | none => true) = true := by
  decide +kernel

theorem typeBind_spec {t : Str} {tt : List (Str × Str)} (h : typeBind t = some tt) :
    (tt.map (·.1)).Nodup ∧ (lookup "type".toList tt).isSome = true := by
  rw [typeBind_eq, Rows.typeEntry] at h
  obtain ⟨b, hb, rfl⟩ := Option.map_eq_some_iff.mp h
  obtain ⟨e, he, hb⟩ := Option.bind_eq_some_iff.mp hb
  obtain ⟨te, hf, rfl⟩ := Option.map_eq_some_iff.mp he
  have hc := List.all_eq_true.mp type_table_bind_sections te (List.mem_of_find?_eq_some hf)
  rw [hb] at hc
  simp only [Bool.and_eq_true, decide_eq_true_eq, List.any_eq_true] at hc
  obtain ⟨hn, p, hp, hpt⟩ := hc
  constructor
  · have : (Rows.gtab b).map (·.1) = (b.map (·.1)).map String.toList := by
      rw [Rows.gtab, List.map_map, List.map_map]; rfl
    rw [this]
    exact List.Pairwise.map _ (fun _ _ hab e => hab (String.toList_injective e)) hn
  · rw [Rows.gtab, lookup_map_toList]
    cases hfp : b.find? (·.1 = "type") with
    | none => exact absurd hpt (by simpa using List.find?_eq_none.mp hfp p hp)
    | some x => rfl

theorem type_table_bind_keys_nodup :
    Pyxv.Gen.questionTypes.all (fun te =>
      match typeBind te.1.toList with
      | some tt => decide (tt.map (·.1)).Nodup
      | none => true) = true := by
  refine List.all_eq_true.mpr fun te _ => ?_
  split
  · next tt h => exact decide_eq_true (typeBind_spec h).1
  · rfl

theorem type_table_binds_have_type :
    Pyxv.Gen.questionTypes.all (fun te =>
      match typeBind te.1.toList with
      | some tt => (lookup "type".toList tt).isSome
      | none => true) = true := by
  refine List.all_eq_true.mpr fun te _ => ?_
  split
  · next tt h => exact (typeBind_spec h).2
  · rfl

/-- data type and preload attributes the XLSForm reference documents for the core question types
    (written down here independently of the source) -/
def documentedTypes : List (String × List (String × String)) :=
  let pre (k p t : String) := [("jr:preload", k), ("jr:preloadParams", p), ("type", t)]
  [("integer", [("type", "int")]), ("int", [("type", "int")]), ("decimal", [("type", "decimal")]),
   ("text", [("type", "string")]), ("string", [("type", "string")]), ("date", [("type", "date")]),
   ("time", [("type", "time")]), ("dateTime", [("type", "dateTime")]), ("datetime", [("type", "dateTime")]),
   ("geopoint", [("type", "geopoint")]), ("geotrace", [("type", "geotrace")]), ("geoshape", [("type", "geoshape")]),
   ("photo", [("type", "binary")]), ("image", [("type", "binary")]), ("audio", [("type", "binary")]),
   ("video", [("type", "binary")]), ("file", [("type", "binary")]), ("barcode", [("type", "barcode")]),
   ("note", [("readonly", "true()"), ("type", "string")]), ("calculate", [("type", "string")]),
   ("hidden", [("type", "string")]), ("acknowledge", [("type", "string")]), ("select one", [("type", "string")]),
   ("select all that apply", [("type", "string")]), ("rank", [("type", "odk:rank")]), ("range", [("type", "int")]),
   ("start", pre "timestamp" "start" "dateTime"), ("end", pre "timestamp" "end" "dateTime"),
   ("today", pre "date" "today" "date"), ("deviceid", pre "property" "deviceid" "string"),
   ("username", pre "property" "username" "string"), ("phonenumber", pre "property" "phonenumber" "string"),
   ("email", pre "property" "email" "string"), ("simserial", pre "property" "simserial" "string"),
   ("subscriberid", pre "property" "subscriberid" "string"), ("audit", [("type", "binary")])]

theorem documented_types_strings :
    documentedTypes.all (fun td =>
      match (Pyxv.Gen.questionTypes.find? (·.1 = td.1)).bind (entryBind ·.2) with
      | some b => b.length == td.2.length && td.2.all (fun kv => (b.find? (·.1 = kv.1)).map (·.2) == some kv.2)
      | none => false) = true := by
  decide +kernel

/-- the regenerated type table prescribes exactly the documented bind attributes for every
    documented type (as a finite map: same keys, same values) -/
theorem documented_types_prescribed :
    documentedTypes.all (fun td =>
      match typeBind td.1.toList with
      | some tt =>
        tt.length == td.2.length &&
        td.2.all (fun kv => lookup kv.1.toList tt == some kv.2.toList)
      | none => false) = true := by
  refine List.all_eq_true.mpr fun td h => ?_
  have hs := List.all_eq_true.mp documented_types_strings td h
  rw [typeBind_toList]
  cases hb : (Pyxv.Gen.questionTypes.find? (·.1 = td.1)).bind (entryBind ·.2) with
  | none => rw [hb] at hs; cases hs
  | some b =>
    rw [hb] at hs
    simp only [Bool.and_eq_true, beq_iff_eq, List.all_eq_true] at hs
    simp only [Option.map_some, Bool.and_eq_true, beq_iff_eq, List.all_eq_true, Rows.gtab, lookup_map_toList]
    refine ⟨by rw [List.length_map]; exact hs.1, fun kv hkv => ?_⟩
    have := congrArg (Option.map String.toList) (hs.2 kv hkv)
    rwa [Option.map_map] at this

/-- `BINDING_CONVERSIONS` is the yes/no table read as XPath booleans: each key is a `yes_no`
    spelling and maps to `true()` / `false()` accordingly -/
theorem conversions_agree_with_yes_no :
    Pyxv.Gen.bindingConversions.all (fun kv =>
      match Pyxv.Gen.yesNo.find? (fun p => p.1 == kv.1) with
      | some (_, b) => kv.2 == (if b then "true()" else "false()")
      | none => false) = true := by
  decide +kernel

/-- every spelling `h` (any case, any whitespace noise, no colon) whose snake-case form is an alias with a grouped
    target `toks` is mapped by `process_header` to `toks`, under both delimiter regimes; with
    `documented_columns_reach_bind`: every documented logic column reaches `(bind, attr)` -/
theorem header_to_bind (udc : Bool) (h : Str) (toks : List Str)
    (hc : ∀ c ∈ h, c ≠ ':')
    (hl : lookup (toSnakeCase h) surveyAliases = some toks) (h2 : 2 ≤ toks.length) :
    processHeader udc surveyAliases surveyColumns h = some (.tup, toks) := by
  have hsnake : ∀ c, surveyColumns.contains c = true → toSnakeCase c = c := by
    intro c hcm
    have := List.all_eq_true.mp columns_are_snake c (List.contains_iff_mem.mp hcm)
    simpa using this
  have b1 : (surveyColumns.contains h && (lookup h surveyAliases).isNone) = false := by
    cases hm : surveyColumns.contains h with
    | false => rfl
    | true =>
      have := hsnake h hm
      rw [this] at hl
      rw [hl]; rfl
  have hne : strip h ≠ "jr".toList := strip_ne_jr fun e => by rw [e, jr_is_no_alias] at hl; cases hl
  have htok : (if (udc || isInfix "::".toList h) = true then some ((splitOn2 ':' h).map strip)
      else jrFix ((splitOnChar ':' h).map strip)) = some [strip h] := by
    rw [isInfix_dcolon_none h hc, Bool.or_false]
    cases udc with
    | true => simp [splitOn2_of_noDouble h (isInfix_dcolon_none h hc)]
    | false =>
      simp only [Bool.false_eq_true, if_false, splitOnChar_of_not_mem ':' h (colon_not_mem hc), List.map_cons, List.map_nil]
      unfold jrFix
      rw [if_neg hne]
      rfl
  unfold processHeader
  simp only [b1, htok, Bool.false_eq_true, if_false, toSnakeCase_strip, hl]
  match toks, h2 with
  | a :: b :: t, _ => simp

/-- the reference environment (names of top-level questions) does not depend on any logic cell -/
theorem tops_unchanged (pre post : List RK) (r r' : RK) (hs : sameShape r r') :
    topNames 0 (pre ++ r :: post) = topNames 0 (pre ++ r' :: post) :=
  topNames_frame pre 0 r r' post hs

/-- `noninterference` with further elements `tail` behind the rows' own (the meta block, in a form) -/
theorem noninterference_tail (root : Str) (tops : List Str) (st : List (Str × Bool)) (pre post : List RK)
    (r r' : RK) (hs : sameShape r r') (es es' tail : List Elem) (bs bs' : List Bind)
    (hw : walk root st (pre ++ r :: post) = some es) (hw' : walk root st (pre ++ r' :: post) = some es')
    (hr : renderAll root tops (es ++ tail) = some bs) (hr' : renderAll root tops (es' ++ tail) = some bs') :
    ∃ a m m' b, bs = a ++ m ++ b ∧ bs' = a ++ m' ++ b ∧
      m.length ≤ (rkNames r).length ∧ m'.length ≤ (rkNames r).length := by
  obtain ⟨A, M, M', B, rfl, hw2, h1, h2⟩ := walk_frame root pre st r r' post es hs hw
  rw [hw'] at hw2
  cases hw2
  rw [renderAll_eq, List.append_assoc (A ++ M) B tail] at hr
  rw [renderAll_eq, List.append_assoc (A ++ M') B tail] at hr'
  obtain ⟨a, m, m', b, e1, e2, hm, hm'⟩ := renderBy_frame A M M' (B ++ tail) bs bs' hr hr'
  have l1 := renderBy_length _ _ hm
  have l2 := renderBy_length _ _ hm'
  exact ⟨a, m, m', b, e1, e2, by omega, by rw [sameShape_names r r' hs]; omega⟩

/-- replace row `j` (= `r`) by any row `r'` of the same shape (e.g. the same row with other logic cells): the two
    bind lists are `a ++ m ++ b` and `a ++ m' ++ b`; only row `j`'s own segment can differ -/
theorem noninterference (root : Str) (tops : List Str) (st : List (Str × Bool)) (pre post : List RK)
    (r r' : RK) (hs : sameShape r r') (es es' : List Elem) (bs bs' : List Bind)
    (hw : walk root st (pre ++ r :: post) = some es) (hw' : walk root st (pre ++ r' :: post) = some es')
    (hr : renderAll root tops es = some bs) (hr' : renderAll root tops es' = some bs') :
    ∃ a m m' b, bs = a ++ m ++ b ∧ bs' = a ++ m' ++ b ∧
      m.length ≤ (rkNames r).length ∧ m'.length ≤ (rkNames r).length :=
  noninterference_tail root tops st pre post r r' hs es es' [] bs bs' hw hw'
    (by rwa [List.append_nil]) (by rwa [List.append_nil])

/-- the bind list is the binds of the rows followed by those of the meta block (`metas`, then `instanceID`) on
    `/root/meta/<name>`.  In `formBinds`, `metas` are the sheet's `audit` rows wherever they stand (`metaOfRows`;
    `classify` skips them). -/
theorem meta_binds_after_rows (root : Str) (ks : List RK) (metas : List Q) (bs : List Bind)
    (h : bindsOfRows root ks metas = .ok bs) :
    ∃ es a b, walk root [] ks = some es ∧ renderAll root (topNames 0 ks) es = some a ∧
      renderAll root (topNames 0 ks) (metas.map (metaElem root) ++ [instanceID root]) = some b ∧
      bs = a ++ b ∧
      b.map (·.path) = ((metas.map (metaElem root) ++ [instanceID root]).filter
        fun e => (elemBind e.q).isSome).map (·.path) := by
  obtain ⟨es, hw, hr⟩ := bindsOfRows_ok root ks metas bs h
  rw [renderAll_eq] at hr
  obtain ⟨a, b, ha, hb, rfl⟩ := renderBy_append es _ bs hr
  rw [← renderAll_eq] at ha hb
  exact ⟨es, a, b, hw, ha, hb, rfl, binds_exactly_where_prescribed _ _ _ b hb⟩

/-- `noninterference` for whole forms that convert: every bind outside row `j`'s segment is identical, those of
    the meta block (`audit`, the generated `instanceID`) included -/
theorem noninterference_form (root : Str) (pre post : List RK) (r r' : RK) (hs : sameShape r r')
    (metas : List Q) (bs bs' : List Bind)
    (h : bindsOfRows root (pre ++ r :: post) metas = .ok bs)
    (h' : bindsOfRows root (pre ++ r' :: post) metas = .ok bs') :
    ∃ a m m' b, bs = a ++ m ++ b ∧ bs' = a ++ m' ++ b ∧
      m.length ≤ (rkNames r).length ∧ m'.length ≤ (rkNames r).length := by
  obtain ⟨es, hw, hr⟩ := bindsOfRows_ok root _ metas bs h
  obtain ⟨es', hw', hr'⟩ := bindsOfRows_ok root _ metas bs' h'
  rw [← tops_unchanged pre post r r' hs] at hr'
  exact noninterference_tail root _ [] pre post r r' hs es es' _ bs bs' hw hw' hr hr'

theorem columns_colon_free : surveyColumns.all (fun c => !c.contains ':') = true := by
  rw [surveyColumnsC.2]; decide +kernel
theorem bind_is_column : surveyColumns.contains "bind".toList = true := by
  rw [surveyColumnsC.2, String.toList_ofList]; decide +kernel
theorem bind_is_no_alias : lookup "bind".toList surveyAliases = none := by
  rw [surveyAliasesC.2, String.toList_ofList]; decide +kernel
theorem bind_ne_jr : "bind".toList ≠ "jr".toList := by
  rw [String.toList_ofList, String.toList_ofList]; decide +kernel

/-- a header that contains a colon is not caught by the two "already a column" shortcuts -/
theorem colon_header_not_column (h : Str) (hm : ':' ∈ h) :
    (surveyColumns.contains h && (lookup h surveyAliases).isNone) = false ∧
    (surveyColumns.contains (toSnakeCase h) && (lookup (toSnakeCase h) surveyAliases).isNone) = false := by
  have key : ∀ x : Str, ':' ∈ x → surveyColumns.contains x = false := by
    intro x hx
    cases hc : surveyColumns.contains x with
    | false => rfl
    | true =>
      have := List.all_eq_true.mp columns_colon_free x (List.contains_iff_mem.mp hc)
      simp only [Bool.not_eq_true', List.contains_eq_mem, decide_eq_false_iff_not] at this
      exact absurd hx this
  have hs : ':' ∈ toSnakeCase h := mem_toSnakeCase ':' h hm (by decide) (by decide)
  rw [key h hm, key _ hs]
  exact ⟨rfl, rfl⟩

/-- the common end of the `bind` spellings -/
theorem processHeader_bind_tokens (udc : Bool) (h t0 : Str) (rest : List Str) (hm : ':' ∈ h)
    (ht : (if (udc || isInfix "::".toList h) = true then some ((splitOn2 ':' h).map strip)
      else jrFix ((splitOnChar ':' h).map strip)) = some (t0 :: rest))
    (hb : toSnakeCase t0 = "bind".toList) :
    processHeader udc surveyAliases surveyColumns h = some (.str "bind".toList, "bind".toList :: rest) := by
  obtain ⟨b1, b2⟩ := colon_header_not_column h hm
  unfold processHeader
  simp only [b1, b2, ht, Bool.false_eq_true, if_false, hb, bind_is_no_alias, bind_is_column, if_true]

/-- `<bind> :: <attr>` — `bind` in any case and spacing, then any attribute text without `::` (single colons
    allowed: `jr:constraintMsg`) — is mapped to `(bind, strip attr)`, whatever the other headers use -/
theorem header_bind_double (udc : Bool) (pre a : Str)
    (hp : ∀ c ∈ pre, c ≠ ':') (hb : toSnakeCase pre = "bind".toList)
    (ha : isInfix "::".toList a = false) :
    processHeader udc surveyAliases surveyColumns (pre ++ ':' :: ':' :: a) =
      some (.str "bind".toList, ["bind".toList, strip a]) := by
  refine processHeader_bind_tokens udc _ (strip pre) [strip a] (by simp) ?_ (by rw [toSnakeCase_strip, hb])
  rw [isInfix_dcolon_prefix, Bool.or_true, if_pos rfl, splitOn2_prefix a pre hp, splitOn2_of_noDouble a ha]
  rfl

/-- the deprecated `<bind> : <attr>` (no `::` in the header row, attribute without colon and not the bare token
    `jr`) as well -/
theorem header_bind_single (pre a : Str)
    (hp : ∀ c ∈ pre, c ≠ ':') (hb : toSnakeCase pre = "bind".toList)
    (ha : ∀ c ∈ a, c ≠ ':') (hj : strip a ≠ "jr".toList) :
    processHeader false surveyAliases surveyColumns (pre ++ ':' :: a) =
      some (.str "bind".toList, ["bind".toList, strip a]) := by
  refine processHeader_bind_tokens false _ (strip pre) [strip a] (by simp) ?_ (by rw [toSnakeCase_strip, hb])
  rw [isInfix_dcolon_single a ha pre hp, Bool.or_false, if_neg Bool.false_ne_true, splitOnChar_prefix a ha pre hp]
  simp only [List.map_cons, List.map_nil, jrFix, if_neg (strip_ne_jr (hb ▸ bind_ne_jr)), if_neg hj, Option.map_some]

/-- `<bind> : jr : <name>` is repaired to `(bind, "jr:" ++ strip name)`: the one case in which `:` is both
    delimiter and part of the attribute name -/
theorem header_bind_single_jr (pre m a : Str)
    (hp : ∀ c ∈ pre, c ≠ ':') (hb : toSnakeCase pre = "bind".toList)
    (hmc : ∀ c ∈ m, c ≠ ':') (hmj : strip m = "jr".toList) (ha : ∀ c ∈ a, c ≠ ':') :
    processHeader false surveyAliases surveyColumns (pre ++ ':' :: (m ++ ':' :: a)) =
      some (.str "bind".toList, ["bind".toList, "jr:".toList ++ strip a]) := by
  have hhead : (m ++ ':' :: a).head? ≠ some ':' := by
    cases m with
    | nil => exact absurd hmj (by decide)
    | cons x xs => simpa using hmc x (List.mem_cons_self ..)
  refine processHeader_bind_tokens false _ (strip pre) ["jr:".toList ++ strip a] (by simp) ?_
    (by rw [toSnakeCase_strip, hb])
  rw [isInfix_dcolon_step _ hhead pre hp, isInfix_dcolon_single a ha m hmc, Bool.or_false, if_neg Bool.false_ne_true,
    splitOnChar_append_sep ':' pre _ (colon_not_mem hp), splitOnChar_prefix a ha m hmc]
  simp only [List.map_cons, List.map_nil, hmj, jrFix, if_neg (strip_ne_jr (hb ▸ bind_ne_jr)), if_true, Option.map_some]

/-- `c'` is an edit of the raw row `c` that keeps its place in the structure: from any row number and `table_list`
    state both classify to a single row of the same shape and leave the same state — e.g. other logic cells. -/
def SameShapeEdit (dl : Str) (key : List (Str × List Str)) (lists : List Str) (c c' : List (Str × Str)) : Prop :=
  ∀ n tl kc tl2, rowRKs dl key lists n tl c = .ok (kc, tl2) →
    ∃ r r', kc = [r] ∧ rowRKs dl key lists n tl c' = .ok ([r'], tl2) ∧ sameShape r r'

/-- from the raw cells: replace the cells of row `j` by a same-shape edit; if both sheets convert, every bind that
    does not belong to row `j` is identical.  `metas` is the same on both sides: nothing is said for an edit that changes
    `metaOfRows` (an edited `audit` row). -/
theorem noninterference_cells (root dl : Str) (key : List (Str × List Str)) (lists : List Str)
    (pre post : List (List (Str × Str))) (c c' : List (Str × Str)) (he : SameShapeEdit dl key lists c c')
    (ks ks' : List RK) (bs bs' : List Bind)
    (hk : processRows dl key lists 2 .off (pre ++ c :: post) = .ok ks)
    (hk' : processRows dl key lists 2 .off (pre ++ c' :: post) = .ok ks')
    (metas : List Q) (hb : bindsOfRows root ks metas = .ok bs) (hb' : bindsOfRows root ks' metas = .ok bs') :
    ∃ a m m' b r, bs = a ++ m ++ b ∧ bs' = a ++ m' ++ b ∧
      (∃ n tl tl2, rowRKs dl key lists n tl c = .ok ([r], tl2)) ∧
      m.length ≤ (rkNames r).length ∧ m'.length ≤ (rkNames r).length := by
  obtain ⟨kpre, kc, kpost, tl1, tl2, hc, hks, hall⟩ := processRows_frame dl key lists pre 2 .off c post ks hk
  obtain ⟨r, r', hkc, hc', hs⟩ := he _ _ _ _ hc
  have h2 := hall c' [r'] hc'
  rw [hk'] at h2
  simp only [Except.ok.injEq] at h2
  subst hkc
  subst hks
  subst h2
  simp only [List.append_assoc, List.singleton_append] at hb hb'
  obtain ⟨a, m, m', b, e1, e2, l1, l2⟩ := noninterference_form root kpre kpost r r' hs metas bs bs' hb hb'
  exact ⟨a, m, m', b, r, e1, e2, ⟨_, _, _, hc⟩, l1, l2⟩

/-- the parameter vocabularies regenerated from the source are the documented ones (the names the
    model's `paramBind` / `auditBind` look up by literal) -/
theorem parameter_vocabularies_pinned :
    Pyxv.Gen.audioQualityValues = ["voice-only", "low", "normal", "external"] ∧
    Pyxv.Gen.caseSensitiveParamValues = ["label", "value"] ∧
    Pyxv.Gen.auditParamNames = ["location-priority", "location-min-interval", "location-max-age", "track-changes",
      "identify-user", "track-changes-reasons"] ∧
    Pyxv.Gen.rangeDefaults = [("start", "1"), ("end", "10"), ("step", "1")] := by
  decide +kernel

/-- a `range` row gets `type = decimal` iff some parameter — in any order, or left to its default — is a non-zero
    number written with a `.`; otherwise the table's `int` stays (`process_range_question_type`) -/
theorem range_decimal_iff (ps : List (Str × Str)) (upd : List (Str × BVal))
    (h : paramBind "range".toList ps = .ok upd) :
    (upd = [("type".toList, .s "decimal".toList)] ↔
      ∃ v ∈ (rangeWithDefaults ps).map (·.2), floatLit v = some (true, true)) ∧
    (upd = [] ∨ upd = [("type".toList, .s "decimal".toList)]) := by
  unfold paramBind at h
  simp only [if_true] at h
  split at h
  · cases h
  · split at h
    · cases h
    · split at h
      · next hd =>
        simp only [Except.ok.injEq] at h
        subst h
        refine ⟨⟨fun _ => ?_, fun _ => rfl⟩, Or.inr rfl⟩
        unfold rangeIsDecimal at hd
        obtain ⟨v, hv, hvv⟩ := List.any_eq_true.mp hd
        exact ⟨v, hv, by simpa using hvv⟩
      · next hd =>
        simp only [Except.ok.injEq] at h
        subst h
        refine ⟨⟨fun e => (by cases e), fun ⟨v, hv, hvv⟩ => ?_⟩, Or.inl rfl⟩
        exfalso
        apply hd
        unfold rangeIsDecimal
        exact List.any_eq_true.mpr ⟨v, hv, by simp [hvv]⟩

section Examples

private def s (x : String) : Str := x.toList

/-- `bind_of_row` / `lookup_attrsOf`: an `integer` row with `relevant = ${a} > 1`, `required = yes` and
    a `bind::type` override -/
example : attrsOf (s "data") [s "a"] (s "/data/q") false
    (dictUpdate ([(s "type", s "int")].map fun (k, v) => (k, BVal.s v))
      [(s "relevant", .s (s "${a} > 1")), (s "required", .s (s "yes")), (s "type", .s (s "string"))])
    = some [(s "type", s "string"), (s "relevant", s " /data/a  > 1"), (s "required", s "true()")] := by
  simp only [s, toList_lit rfl]; decide +kernel

example : ([(s "relevant", BVal.s (s "${a} > 1")), (s "required", .s (s "yes")), (s "type", .s (s "string"))].map (·.1)).Nodup := by
  simp only [s, toList_lit rfl]; decide +kernel

/-- a triggered question's `calculate` does not reach the bind; a translated constraint message is
    redirected to itext -/
example : attrsOf (s "data") [s "a"] (s "/data/q") true
    [(s "type", .s (s "string")), (s "calculate", .s (s "1 + 1")), (s "jr:constraintMsg", .d [(s "fr", s "Non")])]
    = some [(s "type", s "string"), (s "jr:constraintMsg", s "jr:itext('/data/q:jr:constraintMsg')")] := by
  simp only [s, toList_lit rfl]; decide +kernel

/-- `bind::tag` is an attribute like any other -/
example : attrsOf (s "data") [] (s "/data/q") false [(s "type", .s (s "string")), (s "tag", .s (s "abc"))]
    = some [(s "type", s "string"), (s "tag", s "abc")] := by
  simp only [s, toList_lit rfl]; decide +kernel

/-- `range_decimal_iff`: decimal bounds with an integer step, reordered, defaulted -/
example : (paramBind (s "range") [(s "start", s "0.5"), (s "end", s "9.5"), (s "step", s "1")]).toOption
      = some [(s "type", .s (s "decimal"))] ∧
    (paramBind (s "range") [(s "step", s "0.25")]).toOption = some [(s "type", .s (s "decimal"))] ∧
    (paramBind (s "range") [(s "start", s "0.0"), (s "end", s "5")]).toOption = some [] ∧
    parseParams (s "end=7.5;start=1") = some [(s "end", s "7.5"), (s "start", s "1")] := by
  simp only [s, toList_lit rfl]; decide +kernel

/-- `header_bind_double` / `header_bind_single`: concrete spellings -/
example : (∀ c ∈ s " BIND ", c ≠ ':') ∧ toSnakeCase (s " BIND ") = s "bind" ∧
    isInfix (s "::") (s "  jr:constraintMsg ") = false ∧ strip (s "  jr:constraintMsg ") = s "jr:constraintMsg" := by
  simp only [s, toList_lit rfl]; decide +kernel

example : processHeader false surveyAliases surveyColumns (s "Bind : foo ") = some (.str (s "bind"), [s "bind", s "foo"]) := by
  simp only [s, toList_lit rfl]
  rw [surveyAliasesC.2, surveyColumnsC.2]; decide +kernel

/-- `noninterference_cells`: a row and the same row with another `relevant` cell classify to single rows
    of the same shape, from the same state to the same state -/
example :
    (match headerKey [s "type", s "name", s "relevant"] with
     | .ok key =>
       (match rowRKs (s "default") key [] 2 .off [(s "type", s "text"), (s "name", s "q"), (s "relevant", s ". > 1")],
              rowRKs (s "default") key [] 2 .off [(s "type", s "text"), (s "name", s "q"), (s "relevant", s "1 = 1")] with
        | .ok ([.qs [q1]], .off), .ok ([.qs [q2]], .off) => q1.name == q2.name && q1.name == s "q"
        | _, _ => false)
     | _ => false) = true := by
  rw [headerKey, surveyAliasesC.2, surveyColumnsC.2]; decide +kernel

example : (∀ c ∈ s " jr ", c ≠ ':') ∧ strip (s " jr ") = s "jr" ∧
    processHeader false surveyAliases surveyColumns (s "Bind : jr :constraintMsg") =
      some (.str (s "bind"), [s "bind", s "jr:constraintMsg"]) := by
  simp only [s, toList_lit rfl]
  rw [surveyAliasesC.2, surveyColumnsC.2]; decide +kernel

/-- `header_to_bind`: a spelling with case and spacing noise -/
example : lookup (toSnakeCase (s " Read  ONLY ")) surveyAliases = some [s "bind", s "readonly"] ∧
    (∀ c ∈ s " Read  ONLY ", c ≠ ':') := by
  simp only [s, toList_lit rfl]
  rw [surveyAliasesC.2]; decide +kernel

example : processHeader true surveyAliases surveyColumns (s "Constraint  Message") =
    some (.tup, [s "bind", s "jr:constraintMsg"]) := by
  simp only [s, toList_lit rfl]
  rw [surveyAliasesC.2, surveyColumnsC.2]; decide +kernel

/-- `no_bind_without_logic`: the `trigger` type has no bind section -/
example : typeBind (s "trigger") = none ∧ (typeBind (s "text")).isSome = true := by
  simp only [s, typeBind_toList]; decide +kernel

private def exRows (rel : String) : List RK :=
  [ .qs [{ name := s "a", tt := typeBind (s "integer"), bind := none, visible := true }],
    .begin_ false [] { name := s "g", tt := none, bind := some [(s "relevant", .s (s rel))] },
    .qs [{ name := s "t", tt := typeBind (s "trigger"), bind := none, visible := true }],
    .qs [{ name := s "n", tt := typeBind (s "note"), bind := some [(s "required", .s (s "no"))] }],
    .end_ false ]

private def shown (o : Out) : List (Str × List (Str × Str)) :=
  match o with
  | .ok bs => bs.map fun b => (Form.xpathStr b.path, b.attrs)
  | _ => []

/-- `one_bind_per_node`, `binds_exactly_where_prescribed`, `noninterference_form`: a form that converts
    (the `trigger` row `t` has no logic and gets no bind; `n` gets the table's `readonly` and its own
    `required`) -/
example : shown (bindsOfRows (s "data") (exRows "${a} > 1") []) =
    [(s "/data/a", [(s "type", s "int")]),
     (s "/data/g", [(s "relevant", s " /data/a  > 1")]),
     (s "/data/g/n", [(s "readonly", s "true()"), (s "type", s "string"), (s "required", s "false()")]),
     (s "/data/meta/instanceID", [(s "type", s "string"), (s "readonly", s "true()"), (s "jr:preload", s "uid")])] := by
  simp only [exRows, s, typeBind_toList]; decide +kernel

/-- … and the same form with the logic cell of row `g` changed: only `g`'s own bind differs -/
example : shown (bindsOfRows (s "data") (exRows "1 = 1") []) =
    [(s "/data/a", [(s "type", s "int")]),
     (s "/data/g", [(s "relevant", s "1 = 1")]),
     (s "/data/g/n", [(s "readonly", s "true()"), (s "type", s "string"), (s "required", s "false()")]),
     (s "/data/meta/instanceID", [(s "type", s "string"), (s "readonly", s "true()"), (s "jr:preload", s "uid")])] := by
  simp only [exRows, s, typeBind_toList]; decide +kernel

example : sameShape (.begin_ false [] { name := s "g", tt := none, bind := some [(s "relevant", .s (s "${a} > 1"))] })
    (.begin_ false [] { name := s "g", tt := none, bind := some [(s "relevant", .s (s "1 = 1"))] }) := by
  simp [sameShape]

/-- the whole pipeline from a header row with alias / case / spacing / `bind::` spellings -/
example : shown (formBinds (s "data") (s "default") []
    [s " Type", s "name", s "Read Only", s "bind::foo", s "constraint_message::fr", s "Relevance"]
    [[(s " Type", s "text"), (s "name", s "q1"), (s "Read Only", s "yes"), (s "constraint_message::fr", s "Non")],
     [(s " Type", s "integer"), (s "name", s "q2"), (s "bind::foo", s "a  b"), (s "Relevance", s "${q1} = 'x'")]]) =
    [(s "/data/q1", [(s "type", s "string"), (s "readonly", s "true()"),
        (s "jr:constraintMsg", s "jr:itext('/data/q1:jr:constraintMsg')")]),
     (s "/data/q2", [(s "type", s "int"), (s "foo", s "a b"), (s "relevant", s " /data/q1  = 'x'")]),
     (s "/data/meta/instanceID", [(s "type", s "string"), (s "readonly", s "true()"), (s "jr:preload", s "uid")])] := by
  simp only [s, toList_lit rfl]
  rw [formBinds, headerKey, surveyAliasesC.2, surveyColumnsC.2]; decide +kernel

/-- an `audit` row anywhere in the sheet reaches `meta/audit` (before `instanceID`) with the type table's
    `binary`, its own logic cell and its parameters as `odk:` attributes -/
example : shown (formBinds (s "data") (s "default") []
    [s "type", s "name", s "parameters", s "relevant"]
    [[(s "type", s "text"), (s "name", s "q1")],
     [(s "type", s "audit"), (s "parameters", s "track-changes=true location-priority=balanced location-min-interval=10 location-max-age=60"),
      (s "relevant", s "${q1} != ''")]]) =
    [(s "/data/q1", [(s "type", s "string")]),
     (s "/data/meta/audit", [(s "type", s "binary"), (s "relevant", s " /data/q1  != ''"), (s "odk:track-changes", s "true"),
        (s "odk:location-max-age", s "60"), (s "odk:location-min-interval", s "10"), (s "odk:location-priority", s "balanced")]),
     (s "/data/meta/instanceID", [(s "type", s "string"), (s "readonly", s "true()"), (s "jr:preload", s "uid")])] := by
  simp only [s, toList_lit rfl]
  rw [formBinds, headerKey, surveyAliasesC.2, surveyColumnsC.2]; decide +kernel

/-- two spellings of one column are rejected, never merged or dropped -/
example : (match formBinds (s "data") (s "default") [] [s "type", s "name", s "relevant", s "Relevance"] [] with
    | .dupHeader _ _ => true | _ => false) = true := by
  simp only [s, toList_lit rfl]
  rw [formBinds, headerKey, surveyAliasesC.2, surveyColumnsC.2]; decide +kernel

end Examples

end Pyxv.C05
