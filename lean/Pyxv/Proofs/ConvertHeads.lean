import Pyxv.Proofs.FormHeads
import Pyxv.Proofs.ListLemmas
import Pyxv.Model.Convert
/-! The pre-order listing of a decorated tree, without chains (`dheadsL`) and with them (`dnodesL`), and the decorated stack
machine in its terms (as `FormHeads` for `Form`). -/
namespace Pyxv.Convert
open Pyxv Pyxv.Form Pyxv.Rows

/-- a decorated node without its children -/
abbrev DHead := Head × Pay

mutual
def dheads : DItem → List DHead
  | .q d p => [(.q d, p)]
  | .sec ct n b p ks => (.sec ct n b, p) :: dheadsL ks
def dheadsL : List DItem → List DHead
  | [] => []
  | k :: ks => dheads k ++ dheadsL ks
end

/-- induction on forests, as `Form.items_induct` -/
theorem ditems_induct {motive : List DItem → Prop} (nil : motive [])
    (q : ∀ d p rest, motive rest → motive (.q d p :: rest))
    (sec : ∀ ct n b p ks rest, motive ks → motive rest → motive (.sec ct n b p ks :: rest)) : ∀ its, motive its :=
  @DItem.rec_1 (fun it => ∀ rest, motive rest → motive (it :: rest)) motive
    (fun d p rest h => q d p rest h) (fun ct n b p ks ihk rest h => sec ct n b p ks rest ihk h) nil
    (fun _ ks ihk ihks => ihk ks ihks)

/-! ### the listing with chains

A walker of `Model/Convert.lean` that emits at every element something computed from the element alone (its chain
included) is a `flatMap` over `dnodesL` (`dwalk_eq`; a check: `dall_eq`), and the views other slices walk (`erase`,
`toEl`) list the same elements (`nodesL_eraseL`, `chainsL_toElL`): relating a walker to a walk of a view is then a
statement about one element. -/

/-- an element of the decorated tree as a walk meets it: its chain (own segment included), its head, its decoration -/
structure DNode where
  chain : Refs.Chain
  head : Head
  pay : Pay

mutual
def dnodes (pc : Refs.Chain) : DItem → List DNode
  | .q d p => [⟨pc ++ [(d.name, .q)], .q d, p⟩]
  | .sec ct n b p ks => ⟨pc ++ [(n, kindOf ct)], .sec ct n b, p⟩ :: dnodesL (pc ++ [(n, kindOf ct)]) ks
/-- the elements below the chain `pc`, document order -/
def dnodesL (pc : Refs.Chain) : List DItem → List DNode
  | [] => []
  | k :: ks => dnodes pc k ++ dnodesL pc ks
end

/-- a pair of functions that satisfies the equations of a walk emitting `f` at every element *is* that walk -/
theorem dwalk_eq {α : Type} {g : Refs.Chain → DItem → List α} {gL : Refs.Chain → List DItem → List α}
    (f : DNode → List α)
    (hq : ∀ pc d p, g pc (.q d p) = f ⟨pc ++ [(d.name, .q)], .q d, p⟩)
    (hsec : ∀ pc ct n b p ks, g pc (.sec ct n b p ks) =
      f ⟨pc ++ [(n, kindOf ct)], .sec ct n b, p⟩ ++ gL (pc ++ [(n, kindOf ct)]) ks)
    (hnil : ∀ pc, gL pc [] = []) (hcons : ∀ pc k ks, gL pc (k :: ks) = g pc k ++ gL pc ks) :
    ∀ ds pc, gL pc ds = (dnodesL pc ds).flatMap f := by
  intro ds
  induction ds using ditems_induct with
  | nil => intro pc; rw [hnil]; rfl
  | q d p rest ih => intro pc; rw [hcons, hq, ih]; simp [dnodesL, dnodes]
  | sec ct n b p ks rest ihk ihr => intro pc; rw [hcons, hsec, ihk, ihr]; simp [dnodesL, dnodes]

theorem dall_eq {g : Refs.Chain → DItem → Bool} {gL : Refs.Chain → List DItem → Bool} (f : DNode → Bool)
    (hq : ∀ pc d p, g pc (.q d p) = f ⟨pc ++ [(d.name, .q)], .q d, p⟩)
    (hsec : ∀ pc ct n b p ks, g pc (.sec ct n b p ks) =
      (f ⟨pc ++ [(n, kindOf ct)], .sec ct n b, p⟩ && gL (pc ++ [(n, kindOf ct)]) ks))
    (hnil : ∀ pc, gL pc [] = true) (hcons : ∀ pc k ks, gL pc (k :: ks) = (g pc k && gL pc ks)) :
    ∀ ds pc, gL pc ds = (dnodesL pc ds).all f := by
  intro ds
  induction ds using ditems_induct with
  | nil => intro pc; rw [hnil]; rfl
  | q d p rest ih => intro pc; rw [hcons, hq, ih]; simp [dnodesL, dnodes]
  | sec ct n b p ks rest ihk ihr => intro pc; rw [hcons, hsec, ihk, ihr]; simp [dnodesL, dnodes, Bool.and_assoc]

theorem dnodesL_heads (ds : List DItem) (pc : Refs.Chain) : (dnodesL pc ds).map (fun x => (x.head, x.pay)) = dheadsL ds := by
  rw [List.map_eq_flatMap]
  exact (dwalk_eq (g := fun _ => dheads) (gL := fun _ => dheadsL) _ (fun _ _ _ => rfl) (fun _ _ _ _ _ _ => rfl)
    (fun _ => rfl) (fun _ _ _ => rfl) ds pc).symm

theorem all_eq_dheads {g : DItem → Bool} {gL : List DItem → Bool} (f : DHead → Bool)
    (hq : ∀ d p, g (.q d p) = f (.q d, p))
    (hsec : ∀ ct n b p ks, g (.sec ct n b p ks) = (f (.sec ct n b, p) && gL ks))
    (hnil : gL [] = true) (hcons : ∀ k ks, gL (k :: ks) = (g k && gL ks)) :
    ∀ its, gL its = (dheadsL its).all f := by
  intro its
  rw [← dnodesL_heads its [], List.all_map]
  exact dall_eq (g := fun _ => g) (gL := fun _ => gL) _ (fun _ => hq) (fun _ => hsec) (fun _ => hnil) (fun _ => hcons) its []

theorem dheadsL_append (a b : List DItem) : dheadsL (a ++ b) = dheadsL a ++ dheadsL b :=
  append_of_eqns rfl (fun _ _ => rfl) a b

theorem path_snoc (pc : Refs.Chain) (n : Str) (k : Refs.Kind) : Refs.Chain.path (pc ++ [(n, k)]) = pc.path ++ [n] := by
  simp [Refs.Chain.path]

/-- every path is the path of a chain: a walker that threads a path is read on `dnodesL` at such a chain -/
theorem path_groups (pre : List Str) : Refs.Chain.path (pre.map fun s => (s, Refs.Kind.group)) = pre := by
  rw [Refs.Chain.path, List.map_map]; exact List.map_id pre

theorem inRep_snoc (pc : Refs.Chain) (n : Str) (k : Refs.Kind) : inRep (pc ++ [(n, k)]) = (inRep pc || k == Refs.Kind.rep) := by
  simp [inRep, List.any_append]

theorem inRep_q (pc : Refs.Chain) (n : Str) : inRep (pc ++ [(n, .q)]) = inRep pc := by
  rw [inRep_snoc]; exact Bool.or_false _

theorem nodesL_eraseL (ds : List DItem) (pc : Refs.Chain) :
    nodesL pc.path (eraseL ds) = (dnodesL pc ds).map fun x => (x.chain.path, x.head) := by
  rw [List.map_eq_flatMap]
  exact dwalk_eq (g := fun pc d => nodes pc.path (erase d)) (gL := fun pc ds => nodesL pc.path (eraseL ds)) _
    (fun _ _ _ => by simp only [erase, nodes, path_snoc]) (fun _ _ _ _ _ _ => by simp only [erase, nodes, path_snoc]; rfl)
    (fun _ => rfl) (fun _ _ _ => rfl) ds pc

theorem chainsL_toElL (ds : List DItem) (pc : Refs.Chain) : Refs.chainsL pc (toElL ds) = (dnodesL pc ds).map (·.chain) := by
  rw [List.map_eq_flatMap]
  exact dwalk_eq (g := fun pc d => (toEl d).chains pc) (gL := fun pc ds => Refs.chainsL pc (toElL ds)) _
    (fun _ _ _ => rfl) (fun _ _ _ _ _ _ => rfl) (fun _ => rfl) (fun _ _ _ => rfl) ds pc

theorem elsOf_eq (root : Str) (dall : List DItem) :
    elsOf root dall = [(root, .group)] :: (dnodesL [(root, .group)] dall).map (·.chain) := by
  rw [← chainsL_toElL]; rfl

/-- as `Form.nodesL_prefix` -/
theorem dnodesL_prefix (ds : List DItem) (pc : Refs.Chain) :
    dnodesL pc ds = (dnodesL [] ds).map fun x => ⟨pc ++ x.chain, x.head, x.pay⟩ := by
  have := dwalk_eq (g := fun p => dnodes (pc ++ p)) (gL := fun p => dnodesL (pc ++ p))
    (fun x => [⟨pc ++ x.chain, x.head, x.pay⟩]) (fun _ _ _ => by simp [dnodes]) (fun _ _ _ _ _ _ => by simp [dnodes])
    (fun _ => rfl) (fun _ _ _ => rfl) ds []
  rwa [List.append_nil, ← List.map_eq_flatMap] at this

/-- the decorated nodes a row opens: its own carries the row's decoration, the generated one `helperPay` of it -/
def drowHeads (p : Pay) : RowK → List DHead
  | .q d other => (.q d, p) :: (optHeads other).map (·, helperPay p)
  | .begin_ ct n b helper => (optHeads helper).map (·, helperPay p) ++ [(.sec ct n b, p)]
  | _ => []

def dframesHeads : List DFrame → List DHead
  | [] => []
  | f :: fs => dframesHeads fs ++ (.sec f.ct f.name f.bind, f.p) :: dheadsL f.kids

/-- the listing of the decorated tree under construction -/
def dstHeads (st : DSt) : List DHead := dheadsL st.1 ++ dframesHeads st.2

theorem dstHeads_push (t : DItem) (st : DSt) : dstHeads (dpush t st) = dstHeads st ++ dheads t := by
  obtain ⟨root, _ | ⟨f, fs⟩⟩ := st <;> simp [dpush, dstHeads, dframesHeads, dheadsL_append, dheadsL]

theorem dstHeads_pushOpt (o : Option QData) (hp : Pay) (st : DSt) :
    dstHeads (dpushOpt o hp st) = dstHeads st ++ (optHeads o).map (·, hp) := by
  cases o with
  | none => simp [dpushOpt, optHeads]
  | some d => simp [dpushOpt, optHeads, dstHeads_push, dheads]

theorem dstHeads_step {st st' : DSt} {n : Nat} {p : Pay} {k : RowK} (h : dstep st n p k = .ok st') :
    dstHeads st' = dstHeads st ++ drowHeads p k := by
  cases k with
  | skip => cases h; simp [drowHeads]
  | bad e => cases h
  | q d other => cases h; simp [drowHeads, dstHeads_pushOpt, dstHeads_push, dheads]
  | begin_ ct name bind helper =>
    simp only [dstep] at h
    have hp := dstHeads_pushOpt helper (helperPay p) st
    generalize dpushOpt helper (helperPay p) st = st1 at h hp
    cases h
    simp only [dstHeads, dframesHeads, dheadsL, drowHeads] at hp ⊢
    rw [← List.append_assoc, hp]; simp
  | end_ ct =>
    obtain ⟨root, _ | ⟨f, rest⟩⟩ := st
    · cases h
    · simp only [dstep] at h
      split at h
      · cases h; rw [dstHeads_push]; simp [dheads, drowHeads, dstHeads, dframesHeads]
      · cases h

theorem dstHeads_run : ∀ (rows : List ((Nat × RowK) × Pay)) {st st' : DSt}, drun st rows = .ok st' →
    dstHeads st' = dstHeads st ++ rows.flatMap fun r => drowHeads r.2 r.1.2
  | [], st, st', h => by cases h; simp
  | ((n, k), p) :: rest, st, st', h => by
    simp only [drun] at h
    split at h
    · next st1 h1 => rw [dstHeads_run rest h, dstHeads_step h1]; simp
    · cases h

/-- document order of the parsed tree = sheet order of the nodes the rows open -/
theorem dheads_dparse {rows : List ((Nat × RowK) × Pay)} {ds : List DItem} (h : dparse rows = .ok ds) :
    dheadsL ds = rows.flatMap fun r => drowHeads r.2 r.1.2 := by
  unfold dparse at h
  split at h
  · next root h1 => cases h; simpa [dstHeads, dframesHeads, dheadsL] using dstHeads_run rows h1
  · cases h
  · cases h

end Pyxv.Convert
