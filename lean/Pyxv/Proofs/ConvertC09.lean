import Pyxv.Proofs.Convert
import Pyxv.Proofs.C09
import Pyxv.Proofs.BaseLemmas
/-!
# C09 for the end-to-end composition `Pyxv.Convert.convert`

`Pyxv.Convert.convertDoc` builds the secondary instances of its document with the `Choices` slice's definitions
(`Choices.choicesOf`, `Choices.staticInsts`, `Choices.instNode`), so the C09 theorems apply: for every workbook the
composed model converts, the `<instance id=…>` children of the document's `<model>` are the lists of the choices sheet
in first-occurrence order, each with its choices in sheet order.
-/
namespace Pyxv.ConvertC09
open Pyxv Pyxv.Form Pyxv.Rows Pyxv.Xml Pyxv.Asm Pyxv.Convert Pyxv.ConvertP Pyxv.C01

/-- the canonical column names of the choices header -/
def choiceColsOf (wb : Workbook) : List Str := wb.choiceCols.filterMap fun h => lookup h choiceKeys

/-- `convertDoc_inv` with everything `convert_c09` does not look at — the survey rows behind `othersApplied`, the binds,
    the body — left anonymous -/
theorem convertDoc_choices (wb : Workbook) (doc : Node) (h : convertDoc wb = .ok doc) :
    ∃ ch f rk rows els pc ds body, canonChoices wb.choices = some ch ∧
      Choices.validateLists false (Choices.groupByKey Choices.listKey ch) = none ∧
      doc = assemble f none rk
        ((Choices.staticInsts [] (othersApplied rows (Choices.choicesOf (choiceColsOf wb) ch))).map Choices.instNode ++
          bindNodesL els pc ds) body := by
  obtain ⟨f, ch, rows, drows, o, ditems, T, hch, hval, -⟩ := convertDoc_inv wb doc h
  exact ⟨ch, f, _, _, _, _, _, _, hch, hval, T.hdoc⟩

/-! ## the `<instance id=…>` children of the model -/

open Pyxv.Choices in
theorem instanceId_pyNode_ne (t : Str) (a : List (Str × Str)) (ks : List Node) (h : t ≠ c!"instance") :
    instanceId (pyNode t a ks) = none := by
  simp [pyNode, instanceId, h]

theorem bindNodesL_noId (els : List Refs.Chain) : ∀ (pc : Refs.Chain) (ds : List DItem),
    (bindNodesL els pc ds).filterMap Choices.instanceId = [] := by
  intro pc ds
  rw [List.filterMap_eq_nil_iff]
  intro n hn
  rcases mem_bindNodesL els pc ds hn with ⟨ctx, x, -, rfl⟩ | ⟨-, ctx, dv, rfl⟩
  · exact instanceId_pyNode_ne _ _ _ (by decide)
  · exact instanceId_pyNode_ne _ _ _ (by decide)

theorem bindNodes_noId (els : List Refs.Chain) : ∀ (pc : Refs.Chain) (d : DItem),
    (bindNodes els pc d).filterMap Choices.instanceId = [] :=
  fun pc d => by simpa only [bindNodesL, List.append_nil] using bindNodesL_noId els pc [d]

/-! ### `or_other`: the choice `other` appended to a list (never a new or renamed list) -/

open Pyxv.Choices in
/-- a list is its sheet version, or that with `other` appended -/
def OtherRel (cs cs' : List Choice) : Prop := cs' = cs ∨ cs' = addOtherTo cs

open Pyxv.Choices in
theorem addOther_keys (l : Str) : ∀ lists : List (Str × List Choice), (addOther l lists).map (·.1) = lists.map (·.1)
  | [] => rfl
  | (k, cs) :: rest => by
    unfold addOther
    split
    · rfl
    · simp [addOther_keys l rest]

open Pyxv.Choices in
theorem othersApplied_keys : ∀ (rows : List Cells) (lists : List (Str × List Choice)),
    (othersApplied rows lists).map (·.1) = lists.map (·.1)
  | [], _ => rfl
  | r :: rs, lists => by
    unfold othersApplied
    rw [othersApplied_keys rs]
    split
    · split
      · exact addOther_keys _ _
      · rfl
    · rfl

open Pyxv.Choices in
/-- `other` is appended once, however many `or_other` rows ask -/
theorem lookup_othersApplied (l : Str) : ∀ (rows : List Cells) (lists : List (Str × List Choice)),
    lookup l (othersApplied rows lists) = lookup l lists ∨
      lookup l (othersApplied rows lists) = (lookup l lists).map addOtherTo
  | [], _ => .inl rfl
  | r :: rs, lists => by
    unfold othersApplied
    have step : ∀ lists', (lookup l lists' = lookup l lists ∨ lookup l lists' = (lookup l lists).map addOtherTo) →
        lookup l (othersApplied rs lists') = lookup l lists ∨
          lookup l (othersApplied rs lists') = (lookup l lists).map addOtherTo := by
      intro lists' h'
      rcases lookup_othersApplied l rs lists' with e | e <;> rcases h' with e' | e' <;> rw [e, e']
      · exact .inl rfl
      · exact .inr rfl
      · exact .inr rfl
      · exact .inr (by cases lookup l lists <;> simp [addOtherTo_idem])
    split
    · split
      · next ln _ =>
        refine step _ ?_
        rw [C09.or_other_only_own_list]
        split
        · exact .inr rfl
        · exact .inl rfl
      · exact step _ (.inl rfl)
    · exact step _ (.inl rfl)

def secondaryIds (doc : Node) : List Str := (modelKidsOf doc).filterMap Choices.instanceId

theorem modelKids_ids (f : Fields) (rk rest : List Node) :
    (Asm.modelKids f none rk rest).filterMap Choices.instanceId = rest.filterMap Choices.instanceId := by
  exact modelKids_filterMap _ f rk rest (fun a => instanceId_pyNode_ne _ _ _ (by decide))
    (fun ks => by simp [pyNode, setAttrs, Choices.instanceId, lookup])

open Pyxv.Choices in
theorem staticInsts_nil_names (lists : List (Str × List Choice)) :
    (staticInsts [] lists).map (·.name) = lists.map (·.1) := by
  induction lists with
  | nil => rfl
  | cons g rest ih => simp [staticInsts, staticInst] at ih ⊢; exact ih

open Pyxv.Choices in
theorem choicesOf_keys (cols : List Str) (rows : List Cells) :
    (choicesOf cols rows).map (·.1) = (groupByKey listKey rows).map (·.1) := by
  simp [choicesOf]

open Pyxv.Choices in
/-- **C09 for the whole conversion.**  The `<instance id=…>` children of the document's `<model>` are, in document
    order, the lists of the (canonical, cleaned) choices sheet in the order of their first occurrence, pairwise
    distinct; and for every such list `l` the element `instNode (staticInst l cs')` is a child of the model, where `cs'`
    is `cs` — the sheet's rows naming `l`, in sheet order — or `cs` with the choice `other` appended (when an `or_other`
    select uses the list), with one `<item>` per choice, item `i` being `itemOf` of choice `i`. -/
theorem convert_c09 (wb : Workbook) (doc : Node) (h : convertDoc wb = .ok doc) :
    ∃ ch, canonChoices wb.choices = some ch ∧
      secondaryIds doc = Spec.listNames listKey ch ∧ (secondaryIds doc).Nodup ∧
      ∀ l ∈ Spec.listNames listKey ch,
        ∃ cs cs', cs = (Spec.listRows listKey l ch).map (choiceOf (badHeaders (choiceColsOf wb))) ∧
          OtherRel cs cs' ∧
          Choices.instNode (staticInst l cs') ∈ modelKidsOf doc ∧
          (staticInst l cs').items.length = cs'.length ∧
          ∀ i, (staticInst l cs').items[i]? = cs'[i]?.map (itemOf (requiresItext cs') l i) := by
  obtain ⟨ch, f, rk, rows, els, pc, ds, body, hch, _, hdoc⟩ := convertDoc_choices wb doc h
  have hids : secondaryIds doc = Spec.listNames listKey ch := by
    rw [secondaryIds, hdoc, modelKidsOf_assemble, modelKids_ids, List.filterMap_append, bindNodesL_noId,
      List.append_nil, ids_instNodes, staticInsts_nil_names, othersApplied_keys, choicesOf_keys, C09.group_keys_order]
  refine ⟨ch, hch, hids, ?_, ?_⟩
  · rw [hids, ← C09.group_keys_order]; exact C09.group_keys_nodup _ _
  · intro l hl
    have hk : l ∈ (othersApplied rows (choicesOf (choiceColsOf wb) ch)).map (·.1) := by
      rw [othersApplied_keys, choicesOf_keys, C09.group_keys_order]; exact hl
    obtain ⟨cs', hcs'⟩ := Option.isSome_iff_exists.1 (lookup_isSome_iff.2 hk)
    have hmem' : (l, cs') ∈ othersApplied rows (choicesOf (choiceColsOf wb) ch) := _root_.Pyxv.lookup_mem hcs'
    -- the entry is the sheet's list, or that with `other` appended
    obtain ⟨cs, hcs, hrel⟩ : ∃ cs, lookup l (choicesOf (choiceColsOf wb) ch) = some cs ∧ OtherRel cs cs' := by
      rcases lookup_othersApplied l rows (choicesOf (choiceColsOf wb) ch) with e | e <;> rw [hcs'] at e
      · exact ⟨cs', e.symm, .inl rfl⟩
      · obtain ⟨cs, h1, h2⟩ := Option.map_eq_some_iff.1 e.symm
        exact ⟨cs, h1, .inr h2.symm⟩
    have hcl := C09.choices_of_list (choiceColsOf wb) l ch
    rw [hcs] at hcl
    simp only [Option.getD_some] at hcl
    refine ⟨cs, cs', hcl, hrel, ?_, (C09.instance_items l cs').1, (C09.instance_items l cs').2⟩
    rw [hdoc, modelKidsOf_assemble]
    unfold Asm.modelKids
    have : Choices.instNode (staticInst l cs') ∈
        (staticInsts [] (othersApplied rows (choicesOf (choiceColsOf wb) ch))).map Choices.instNode := by
      apply List.mem_map.mpr
      refine ⟨staticInst l cs', ?_, rfl⟩
      simp only [staticInsts, List.mem_map, List.mem_filter]
      exact ⟨(l, cs'), ⟨hmem', by simp⟩, rfl⟩
    simp only [List.mem_append, List.mem_cons]
    exact Or.inr (Or.inr (Or.inl this))

#print axioms convert_c09

/-- non-vacuity: the worked example of `Proofs/Convert.lean` (one list `yn`, a `select_one yn`) is converted, so
    its document has exactly the instance of `yn` -/
example : ∃ doc, convertDoc exWb = .ok doc ∧ ∃ ch, canonChoices exWb.choices = some ch ∧
    secondaryIds doc = Choices.Spec.listNames Choices.listKey ch ∧ (secondaryIds doc).Nodup := by
  obtain ⟨doc, hd, -, -⟩ := ex_doc
  obtain ⟨ch, h1, h2, h3, -⟩ := convert_c09 exWb doc hd
  exact ⟨doc, hd, ch, h1, h2, h3⟩

open Pyxv.Choices in
/-- The `<itemset>` the composed conversion writes for a select row is the decision table's, at the empty filter /
    parameters of `Convert`'s fragment. -/
theorem convert_itemset (r : Cells) (t sel ln : Str) (other : Bool)
    (h1 : get r "type" = some t) (h2 : matchSelect t = some (sel, ln, other)) :
    itemsetNodes r =
      let q : SelIn := { itemset := ln, filter := [], params := [], seedSub := [], prevSub := [], choicesItext := false }
      [pyNode (l!"itemset") [(l!"nodeset", Spec.nodeset q)]
        [pyNode (l!"value") [(l!"ref", Spec.valueRef q)] [], pyNode (l!"label") [(l!"ref", Spec.labelRef q false)] []]] := by
  simp only [itemsetNodes, h1, h2, C09.itemset_nodeset, C09.itemset_value, C09.itemset_label]

example : itemsetNodes [(l!"type", l!"select_one yn"), (l!"name", l!"s")] =
    [pyNode (l!"itemset") [(l!"nodeset", l!"instance('yn')/root/item")]
      [pyNode (l!"value") [(l!"ref", l!"name")] [], pyNode (l!"label") [(l!"ref", l!"label")] []]] := by decide +kernel

/-! ## … in the text: the ids an XML reader sees in the whole document -/

theorem ids_read : ∀ ks : List Node, (normAttrsKids (eprojKids ks)).filterMap Choices.instanceId =
    (ks.filterMap Choices.instanceId).map normAttrVal :=
  filterMap_read Choices.instanceId normAttrVal (fun _ _ => rfl) fun t a _ _ => by
    simp only [Choices.instanceId]; split
    · exact lookup_normAttrList ..
    · rfl

theorem secondaryIds_view {wb doc f lists rows drows o ditems} (T : Trace wb doc f lists rows drows o ditems) (p : Bool) :
    secondaryIds (eproj (view p doc)) = (secondaryIds doc).map normAttrVal := by
  rw [eproj_view, secondaryIds, secondaryIds, T.hdoc, (read_assemble ..).1, ids_read, modelKidsOf_assemble]

open Pyxv.Choices in
/-- **Instance ids of the whole document, as an XML reader sees them** (compact mode).  The text parses and the
    `<instance id=…>` children of the parsed document's `<model>` carry, in document order, the list names of the choices
    sheet in first-occurrence order with the reader's attribute-value normalisation applied (TAB / LF / CR → space).
    They are pairwise distinct when no list name contains such a character: the complement of the open finding F42,
    where two distinct names are read back as one id.  `hn` is the C01 guard of `convert_c15`. -/
theorem convert_document_ids (wb : Workbook) (text : Str) (h : convert wb false = .ok text)
    (hn : ∀ doc, convertDoc wb = .ok doc → noBrTree doc = true) :
    ∃ ch parsed, canonChoices wb.choices = some ch ∧ parseDoc text = some parsed ∧
      secondaryIds (eproj parsed) = (Spec.listNames listKey ch).map normAttrVal ∧
      ((∀ l ∈ Spec.listNames listKey ch, normAttrVal l = l) → (secondaryIds (eproj parsed)).Nodup) := by
  obtain ⟨doc, hd, rfl⟩ := convert_ok wb false text h
  obtain ⟨f, lists, rows, drows, o, ditems, T⟩ := convertDoc_trace wb doc hd
  obtain ⟨ch, hch, hids, hnd, -⟩ := convert_c09 wb doc hd
  have hE := (secondaryIds_view T false).trans (congrArg (List.map normAttrVal) hids)
  refine ⟨ch, _, hch, trace_parses T (hn doc hd) false, hE, fun hws => ?_⟩
  rw [hE, List.map_congr_left hws, List.map_id', ← hids]
  exact hnd

#print axioms convert_document_ids

example : ∃ ch parsed, canonChoices exWb.choices = some ch ∧ parseDoc exText = some parsed ∧
    secondaryIds (eproj parsed) = (Choices.Spec.listNames Choices.listKey ch).map normAttrVal := by
  obtain ⟨ch, parsed, h1, h2, h3, -⟩ :=
    convert_document_ids exWb exText ex_convert (fun d hd => namesClean_of_B ex_clean d hd)
  exact ⟨ch, parsed, h1, h2, h3⟩

open Pyxv.Choices in
/-- `convert_document_ids` with the F42 guard stated on the cells: when no `list_name` cell contains TAB / LF / CR (or
    another character an attribute value cannot carry), the ids an XML reader sees are exactly the list names, pairwise
    distinct. -/
theorem convert_ids_distinct_from_cells (wb : Workbook) (text : Str) (h : convert wb false = .ok text)
    (hn : ∀ doc, convertDoc wb = .ok doc → noBrTree doc = true)
    (hcells : ∀ ch, canonChoices wb.choices = some ch → ∀ r ∈ ch, ∀ v, lookup listKey r = some v → v.all attrCharOk = true) :
    ∃ ch parsed, canonChoices wb.choices = some ch ∧ parseDoc text = some parsed ∧
      secondaryIds (eproj parsed) = Spec.listNames listKey ch ∧ (secondaryIds (eproj parsed)).Nodup := by
  obtain ⟨ch, parsed, hch, hp, hids, hnd⟩ := convert_document_ids wb text h hn
  have hg : ∀ l ∈ Spec.listNames listKey ch, normAttrVal l = l :=
    C09.list_names_from_cells listKey ch (fun v => normAttrVal v = v)
      (fun r hr v hv => normAttrVal_ok v (hcells ch hch r hr v hv))
  refine ⟨ch, parsed, hch, hp, ?_, hnd hg⟩
  rw [hids, List.map_congr_left hg, List.map_id']

example : ∃ ch parsed, canonChoices exWb.choices = some ch ∧ parseDoc exText = some parsed ∧
    secondaryIds (eproj parsed) = Choices.Spec.listNames Choices.listKey ch ∧ (secondaryIds (eproj parsed)).Nodup :=
  convert_ids_distinct_from_cells exWb exText ex_convert (fun d hd => namesClean_of_B ex_clean d hd)
    (by
      intro ch hch r hr v hv
      have key : (match canonChoices exWb.choices with
          | some ch => ch.all (fun r => (lookup Choices.listKey r).all (fun v => v.all attrCharOk))
          | none => true) = true := by decide +kernel
      rw [hch] at key
      have := List.all_eq_true.mp key r hr
      simpa [hv] using this)

end Pyxv.ConvertC09
