import Pyxv.Model.RowLoopEnv
/-!
# C17 — `no_internal` for the row loop with explicit partial operations

The clause of C17 that a workbook is refused by a located `PyXFormError`, never by an internal exception
(`KeyError`, `TypeError`, …): proved outside the open crash classes, which the guard `RowLoop.sheetGuard` excludes
row by row.  One `…_noInt` lemma per function of `Model/RowLoop.lean`, each asking of the guard only the cells that
function reads.
-/
namespace Pyxv.RowLoop
open Pyxv

/-- the computation does not end in an internal exception -/
def NoInt {α} (m : M α) : Prop := ∀ c s, m ≠ .error (.internal c s)

theorem noInt_pure {α} (a : α) : NoInt (pure a : M α) := by intro c s h; cases h
theorem noInt_reject {α} (w : String) : NoInt (throw (.reject w) : M α) := by
  intro c s h; cases h
theorem noInt_bind {α β} (m : M α) (f : α → M β) (hm : NoInt m) (hf : ∀ a, m = .ok a → NoInt (f a)) :
    NoInt (m >>= f) := by
  intro c s h
  cases hm' : m with
  | error e =>
    rw [hm'] at h
    simp only [bind, Except.bind] at h
    injection h with h
    exact hm c s (by rw [hm', h])
  | ok a =>
    rw [hm'] at h
    simp only [bind, Except.bind] at h
    exact hf a hm' c s h

theorem strCell_noInt (site cls : String) (r : TRow) (key : String) (h : cellIsStr r key = true) :
    NoInt (strCell site cls r key) := by
  intro c s
  unfold strCell
  unfold cellIsStr at h
  split <;> simp_all

theorem dictCell_noInt (site : String) (r : TRow) (key : String) (h : cellIsDict r key = true) :
    NoInt (dictCell site r key) := by
  intro c s
  unfold dictCell
  unfold cellIsDict at h
  split <;> simp_all

theorem dictCell_eq (site : String) (r : TRow) (key : String) (d : List (Str × Val))
    (h : dictCell site r key = .ok d) :
    lookup (k key) r = some (.dict d) ∨ (lookup (k key) r = none ∧ d = []) := by
  unfold dictCell at h
  split at h
  · right; injection h with h; exact ⟨by assumption, h.symm⟩
  · left; injection h with h; subst h; assumption
  · cases h

theorem sub_isStr (site : String) (r : TRow) (key sub : String) (d : List (Str × Val))
    (hd : dictCell site r key = .ok d) (h : subIsStr r key sub = true) (v : Val)
    (hv : lookup (k sub) d = some v) : v.isStr = true := by
  rcases dictCell_eq site r key d hd with hb | ⟨_, hd0⟩
  · unfold subIsStr at h
    rw [hb] at h
    simp only [] at h
    rw [hv] at h
    cases v with
    | str _ => rfl
    | dict _ => simp at h
  · subst hd0; simp [lookup] at hv

theorem subStr_noInt (site cls : String) (r : TRow) (key sub : String) (d : List (Str × Val))
    (hd : dictCell site r key = .ok d) (h : subIsStr r key sub = true) :
    NoInt (subStr site cls d sub) := by
  unfold subStr
  cases hl : lookup (k sub) d with
  | none => exact noInt_pure _
  | some v =>
    cases v with
    | str _ => exact noInt_pure _
    | dict _ => cases sub_isStr site r key sub d hd h _ hl

theorem rejectIf_noInt (c : Bool) (w : String) : NoInt (rejectIf c w) := by
  intro c' s h; unfold rejectIf at h; cases c <;> simp at h

theorem crashIf_noInt (c : Bool) (cls site : String) (h : c = false) : NoInt (crashIf c cls site) := by
  intro c' s h'; subst h; simp [crashIf] at h'

theorem noInt_ite {α} {c : Prop} [Decidable c] {a b : M α} (ha : NoInt a) (hb : NoInt b) :
    NoInt (if c then a else b) := by
  by_cases h : c
  · rw [if_pos h]; exact ha
  · rw [if_neg h]; exact hb

theorem noInt_rej {α} (c : Bool) (w : String) (m : Unit → M α) (h : NoInt (m ())) :
    NoInt (rejectIf c w >>= m) :=
  noInt_bind _ _ (rejectIf_noInt c w) (fun _ _ => h)

theorem noInt_crash {α} (c : Bool) (cls site : String) (m : Unit → M α) (hc : c = false) (h : NoInt (m ())) :
    NoInt (crashIf c cls site >>= m) :=
  noInt_bind _ _ (crashIf_noInt c cls site hc) (fun _ _ => h)

theorem saveTo_noInt (env : Env) (sh : Sheets) (r : TRow) (t : Str) (inRep : Bool)
    (h1 : cellIsDict r "bind" = true) (h2 : subIsStr r "bind" "entities:saveto" = true) :
    NoInt (saveTo env sh r t inRep) := by
  unfold saveTo
  refine noInt_bind _ _ (dictCell_noInt _ r "bind" h1) (fun d hd => ?_)
  cases hl : lookup (k "entities:saveto") d with
  | none => exact noInt_pure ()
  | some v =>
    unfold saveToVal
    refine noInt_rej _ _ _ (noInt_rej _ _ _ (noInt_rej _ _ _ (noInt_crash _ _ _ _ ?_ (rejectIf_noInt _ _))))
    rw [sub_isStr _ r "bind" "entities:saveto" d hd h2 v hl]; rfl

theorem beginRow_noInt (env : Env) (r : TRow) (ct : Ctl) (st : St)
    (h1 : cellIsDict r "bind" = true) (h2 : cellIsDict r "control" = true)
    (h3 : subIsStr r "control" "appearance" = true) :
    NoInt (beginRow env r ct st) := by
  unfold beginRow
  refine noInt_bind _ _ (dictCell_noInt _ r "bind" h1) (fun _ _ => ?_)
  refine noInt_bind _ _ (dictCell_noInt _ r "control" h2) (fun cd hcd => ?_)
  refine noInt_rej _ _ _ ?_
  refine noInt_bind _ _ (subStr_noInt _ _ r "control" "appearance" cd hcd h3) (fun _ _ => ?_)
  exact noInt_pure _

theorem strCell_ok (site cls : String) (r : TRow) (key : String) (v : Option Str)
    (h : strCell site cls r key = .ok v) : lookup (k key) r = v.map .str := by
  unfold strCell at h
  split at h
  · injection h with h; subst h; assumption
  · injection h with h; subst h; assumption
  · cases h

theorem strCell_isNone (site cls : String) (r : TRow) (key : String) (v : Option Str)
    (h : strCell site cls r key = .ok v) : v.isNone = (lookup (k key) r).isNone := by
  rw [strCell_ok site cls r key v h]; cases v <;> rfl

theorem tableListStep_noInt (sh : Sheets) (r : TRow) (ln : Str) (f : Bool) (st : St) (tl : TL)
    (hc : cellIsDict r "control" = true) :
    NoInt (tableListStep sh r ln f st tl) := by
  have hc' : (!cellIsDict r "control") = false := by rw [hc]; rfl
  cases tl with
  | off => exact noInt_pure _
  | named l0 => exact noInt_rej _ _ _ (noInt_crash _ _ _ _ hc' (noInt_pure _))
  | pending => exact noInt_rej _ _ _ (noInt_rej _ _ _ (noInt_crash _ _ _ _ hc' (noInt_pure _)))

theorem selectRow_noInt (env : Env) (sh : Sheets) (r : TRow) (params sel ln : Str) (other : Bool) (st : St)
    (hc : cellIsDict r "control" = true)
    (h2 : ((lookup (k "choice_filter") r).isNone && !(env.randomize params || env.fileExt ln || env.hasRef ln)
            && !sh.choices.contains ln) = false) :
    NoInt (selectRow env sh r params sel ln other st) := by
  unfold selectRow
  have e : (!(lookup (k "choice_filter") r).isSome) = (lookup (k "choice_filter") r).isNone := by
    cases lookup (k "choice_filter") r <;> rfl
  -- the eight `rejectIf`s of `selectRow`, then its one partial read
  refine noInt_rej _ _ _ (noInt_rej _ _ _ (noInt_rej _ _ _ (noInt_rej _ _ _ (noInt_rej _ _ _ (noInt_rej _ _ _
    (noInt_rej _ _ _ (noInt_rej _ _ _ (noInt_crash _ _ _ _ ?_ (tableListStep_noInt sh r ln _ st _ hc)))))))))
  rw [e]; exact h2

/-- the osm branch has no partial operation -/
theorem osmRow_noInt (sh : Sheets) (st : St) (tags : Option (List Str)) (oln : Option Str) :
    NoInt (osmRow sh st tags oln) := by
  cases tags with
  | none => cases oln <;> exact noInt_pure _
  | some ts =>
    cases oln with
    | none => exact noInt_pure _
    | some ln => exact noInt_rej _ _ _ (noInt_pure _)

theorem questionRow_noInt (env : Env) (r : TRow) (t params : Str) (st : St)
    (h1 : cellIsDict r "control" = true) (h2 : cellIsStr r "trigger" = true) :
    NoInt (questionRow env r t params st) := by
  unfold questionRow
  refine noInt_ite ?_ (noInt_ite ?_ ?_)
  · refine noInt_bind _ _ (noInt_ite (dictCell_noInt _ r "control" h1) (noInt_pure _)) (fun _ _ => ?_)
    exact noInt_rej _ _ _ (noInt_pure _)
  · refine noInt_bind _ _ (strCell_noInt _ _ r "trigger" h2) (fun _ _ => ?_)
    exact noInt_rej _ _ _ (noInt_rej _ _ _ (noInt_pure _))
  · exact noInt_rej _ _ _ (noInt_pure _)

theorem calcCheck_noInt (env : Env) (r : TRow) (t : Str)
    (h1 : cellIsDict r "bind" = true) : NoInt (calcCheck env r t) := by
  unfold calcCheck
  refine noInt_ite ?_ (noInt_pure _)
  refine noInt_bind _ _ (dictCell_noInt _ r "bind" h1) (fun _ _ => ?_)
  exact rejectIf_noInt _ _

theorem endRow_noInt (ct : Ctl) (st : St) : NoInt (endRow ct st) := by
  unfold endRow
  cases st.stack with
  | nil => exact noInt_reject _
  | cons _ _ => exact noInt_rej _ _ _ (noInt_pure _)

def paramsOf (r : TRow) : Str := match lookup (k "parameters") r with | some (.str p) => p | _ => []

theorem shapeOk_parts (r : TRow) (h : shapeOk r = true) :
    (cellIsStr r "disabled" = true ∧ cellIsStr r "type" = true ∧ cellIsStr r "parameters" = true ∧
     cellIsStr r "trigger" = true) ∧
    (cellIsDict r "bind" = true ∧ cellIsDict r "control" = true) ∧
    (subIsStr r "bind" "entities:saveto" = true ∧ subIsStr r "control" "appearance" = true) := by
  unfold shapeOk at h
  simp only [Bool.and_eq_true] at h
  obtain ⟨⟨⟨⟨⟨⟨⟨a, b⟩, c⟩, d⟩, e⟩, f⟩, g⟩, i⟩ := h
  exact ⟨⟨a, b, c, d⟩, ⟨e, f⟩, ⟨g, i⟩⟩

theorem namedRow_noInt (env : Env) (sh : Sheets) (r : TRow) (t : Str) (st : St)
    (hs : shapeOk r = true) (ht : lookup (k "type") r = some (.str t))
    (hl : listsOk env sh r = true) :
    NoInt (namedRow env sh r t (paramsOf r) st) := by
  obtain ⟨⟨_, _, _, htr⟩, ⟨hb, hc⟩, ⟨hbs, hca⟩⟩ := shapeOk_parts r hs
  unfold listsOk at hl
  rw [ht] at hl
  dsimp only at hl
  unfold namedRow
  refine noInt_rej _ _ _ ?_
  refine noInt_bind _ _ (saveTo_noInt env sh r t _ hb hbs) (fun _ _ => ?_)
  cases hbg : env.beginCtl t with
  | some ct => exact beginRow_noInt env r ct st hb hc hca
  | none =>
    cases hse : env.select t with
    | some p =>
      obtain ⟨sel, ln, other⟩ := p
      rw [hse] at hl
      simp only [Bool.not_eq_true'] at hl
      exact selectRow_noInt env sh r _ sel ln other st hc hl
    | none =>
      cases hos : env.osm t with
      | some oln => exact osmRow_noInt sh st sh.osm oln
      | none => exact questionRow_noInt env r t _ st hc htr

theorem typedRow_noInt (env : Env) (sh : Sheets) (r : TRow) (t : Str) (st : St)
    (hs : shapeOk r = true) (ht : lookup (k "type") r = some (.str t))
    (hl : listsOk env sh r = true) :
    NoInt (typedRow env sh r t st) := by
  obtain ⟨⟨_, _, hp, _⟩, ⟨hb, _⟩, _⟩ := shapeOk_parts r hs
  unfold typedRow
  refine noInt_bind _ _ (strCell_noInt _ _ r "parameters" hp) (fun ps hps => ?_)
  refine noInt_rej _ _ _ ?_
  refine noInt_ite (noInt_rej _ _ _ (noInt_pure _)) ?_
  refine noInt_bind _ _ (calcCheck_noInt env r t hb) (fun _ _ => ?_)
  refine noInt_ite (noInt_pure _) ?_
  cases he : env.endCtl t with
  | some ct => exact endRow_noInt ct st
  | none =>
    have e : ps.getD [] = paramsOf r := by
      unfold paramsOf; rw [strCell_ok _ _ r _ ps hps]; cases ps <;> rfl
    rw [e]
    exact namedRow_noInt env sh r t st hs ht hl

theorem rowBody_noInt (env : Env) (sh : Sheets) (r : TRow) (st : St)
    (hs : shapeOk r = true) (hl : listsOk env sh r = true) :
    NoInt (rowBody env sh r st) := by
  have hty := (shapeOk_parts r hs).1.2.1
  unfold rowBody
  refine noInt_ite (noInt_pure _) ?_
  refine noInt_bind _ _ (strCell_noInt _ _ r "type" hty) (fun ty hty' => ?_)
  cases ty with
  | none => exact noInt_rej _ _ _ (noInt_pure _)
  | some t =>
    exact typedRow_noInt env sh r t st hs (strCell_ok _ _ r "type" (some t) hty') hl

/-- **no internal exception in one row of the loop**, for every environment of total checks, every sheet
    context and every loop state, outside the open crash classes -/
theorem rowStep_no_internal (env : Env) (sh : Sheets) (r : TRow) (st : St)
    (h : rowGuard env sh r = true) : NoInt (rowStep env sh r st) := by
  unfold rowGuard at h
  simp only [Bool.and_eq_true] at h
  obtain ⟨⟨hd, hs⟩, hl⟩ := h
  unfold rowStep
  refine noInt_bind _ _ (strCell_noInt _ _ r "disabled" hd) (fun _ _ => ?_)
  exact noInt_ite (noInt_pure _) (rowBody_noInt env sh _ st hs hl)

/-- **no internal exception in the whole row loop** (any number of rows, any starting state), when every row
    satisfies the guard -/
theorem rowLoop_no_internal (env : Env) (sh : Sheets) : ∀ (rows : List TRow) (st : St),
    sheetGuard env sh rows = true → NoInt (rowLoop env sh rows st) := by
  intro rows
  induction rows with
  | nil => intro st _; exact noInt_pure _
  | cons r rs ih =>
    intro st h
    unfold sheetGuard at h
    simp only [List.all_cons, Bool.and_eq_true] at h
    unfold rowLoop
    refine noInt_bind _ _ (rowStep_no_internal env sh r st h.1) (fun st' _ => ?_)
    exact ih st' h.2

theorem sheet_no_internal (env : Env) (sh : Sheets) (rows : List TRow)
    (h : sheetGuard env sh rows = true) : NoInt (sheet env sh rows) := by
  unfold sheet
  exact noInt_bind _ _ (rowLoop_no_internal env sh rows {} h) (fun _ _ => rejectIf_noInt _ _)

/-- `constants.EXTERNAL_INSTANCE_EXTENSIONS`, read by `stdEnv.fileExt` -/
theorem ext_table_pinned : Pyxv.Gen.externalInstanceExtensions = [".csv", ".geojson", ".xml"] := by decide
/-- the literal `selectRow` compares the select type with -/
theorem select_one_external_pinned : Pyxv.Gen.c18SelectOneExternal = "select one external" := by decide

/-! A sheet on which the guard holds (and the loop accepts it); then rows on which one conjunct of the guard fails and
the loop ends in the internal exception of the corresponding open finding: a grouped string-slot column (`disabled`,
`type`, `parameters`, `trigger`), a plain `bind` or `control`, a grouped `bind::entities:saveto`, a select whose list
`listsOk` excludes; the conjunct for a grouped `control::appearance` has no example.  Each of them is reproduced on
the implementation by a directed case of harness/props/c17.py. -/

def sv (s : String) : Val := .str s.toList
def cs (key v : String) : Str × Val := (key.toList, sv v)
def cd (key : String) (kv : List (Str × Val)) : Str × Val := (key.toList, .dict kv)
def sh0 : Sheets :=
  { choices := ["l".toList], external := ["e".toList], hasExternal := true, osm := some ["b".toList], hasEntities := false }

def isInternal (cls site : String) : M St → Bool
  | .error (.internal c s) => c == cls && s == site
  | _ => false

def goodSheet : List TRow :=
  [[cs "type" "text", cs "name" "a", cd "label" [cs "en" "A"], cd "bind" [cs "relevant" "1"]],
   [cs "type" "begin group", cs "name" "g", cd "control" [cs "appearance" "table-list"]],
   [cs "type" "select_one l", cs "name" "s", cs "label" "S"],
   [cs "type" "end group"],
   [cs "type" "select_one_from_file f.csv", cs "name" "ff", cs "label" "F"],
   [cs "type" "select_one_external e", cs "name" "x", cs "label" "X", cs "choice_filter" "a=1"],
   [cs "type" "osm b", cs "name" "o", cs "label" "O"],
   [cs "type" "calculate", cs "name" "c", cd "bind" [cs "calculate" "1+1"]]]

example : sheetGuard stdEnv sh0 goodSheet = true := by decide +kernel
example : (match sheet stdEnv sh0 goodSheet with | .ok () => true | _ => false) = true := by decide +kernel

-- F14-header-shape: plain `bind`; `parameters::x`; `disabled::x`; `type::x`; `save_to::x`; `trigger::x`
example : rowGuard stdEnv sh0 [cs "type" "text", cs "name" "a", cs "bind" "x"] = false := by decide +kernel
example : isInternal "AttributeError" "entities_parsing.py:validate_entity_saveto"
    (rowStep stdEnv sh0 [cs "type" "text", cs "name" "a", cs "bind" "x"] {}) = true := by decide +kernel
example : isInternal "AttributeError" "parameters_generic.py:parse"
    (rowStep stdEnv sh0 [cs "type" "text", cs "name" "a", cd "parameters" [cs "x" "rows=3"]] {}) = true := by decide +kernel
example : isInternal "TypeError" "xls2json.py:workbook_to_json"
    (rowStep stdEnv sh0 [cs "type" "text", cs "name" "a", cd "disabled" [cs "x" "yes"]] {}) = true := by decide +kernel
example : isInternal "TypeError" "xls2json.py:dealias_types"
    (rowStep stdEnv sh0 [cd "type" [cs "x" "text"], cs "name" "a"] {}) = true := by decide +kernel
example : isInternal "AttributeError" "entities_parsing.py:validate_entity_saveto"
    (rowStep stdEnv { sh0 with hasEntities := true }
      [cs "type" "text", cs "name" "a", cd "bind" [cd "entities:saveto" [cs "x" "p"]]] {}) = true := by decide +kernel
example : isInternal "TypeError" "expression.py:is_pyxform_reference"
    (rowStep stdEnv sh0 [cs "type" "background-geopoint", cs "name" "a", cd "trigger" [cs "x" "${q}"]] {}) = true := by
  decide +kernel
-- F13-select-one-external-unlisted
example : isInternal "KeyError" "xls2json.py:add_choices_info_to_question"
    (rowStep stdEnv sh0 [cs "type" "select_one_external e", cs "name" "x", cs "label" "X"] {}) = true := by decide +kernel
-- F14: plain `control` on a select inside a table-list group (item assignment on a str)
example : isInternal "TypeError" "xls2json.py:workbook_to_json"
    (rowStep stdEnv sh0 [cs "type" "select_one l", cs "name" "s", cs "label" "S", cs "control" "x"]
      { stack := [.group], tableList := .pending }) = true := by decide +kernel
-- located rejections, inside the guard
def isReject (w : String) : M St → Bool
  | .error (.reject w') => w' == w
  | _ => false
example : isReject "table-list without choice list"
    (rowStep stdEnv sh0 [cs "type" "select_one_from_file f.csv", cs "name" "ff", cs "label" "F"]
      { stack := [.group], tableList := .pending }) = true := by decide +kernel
example : isReject "list not in osm sheet"
    (rowStep stdEnv sh0 [cs "type" "osm nolist", cs "name" "o", cs "label" "O"] {}) = true := by decide +kernel
example : rowGuard stdEnv sh0 [cs "type" "osm nolist", cs "name" "o", cs "label" "O"] = true ∧
    rowGuard stdEnv sh0 [cs "type" "select_one_from_file f.csv", cs "name" "ff", cs "label" "F"] = true := by decide +kernel

end Pyxv.RowLoop
