import Pyxv.Model.SpellRow
import Pyxv.Proofs.DictLemmas
/-! Lemmas about `merge_dicts` / `process_row` on headers of one or two tokens. -/
namespace Pyxv.Spell
open Pyxv

namespace KVs
theorem get_set : (d : KVs) → (k k' : Str) → (v : Val) →
    (d.set k v).get k' = if k' = k then some v else d.get k'
  | .nil, k, k', v => by simp [set, get]
  | .cons k2 v2 rest, k, k', v => by
    have ih := get_set rest k k' v
    simp only [set]
    by_cases h : k = k2
    · subst h; simp only [if_true, get]; by_cases h2 : k' = k <;> simp [h2]
    · simp only [h, if_false, get, ih]
      by_cases h2 : k' = k2
      · subst h2; simp [Ne.symm h]
      · simp [h2]

theorem set_ne_nil (d : KVs) (k : Str) (v : Val) : d.set k v ≠ .nil := by
  cases d with
  | nil => simp [set]
  | cons k2 v2 rest => simp only [set]; split <;> simp
end KVs

theorem falsy_dict_ne (d : KVs) (h : d ≠ .nil) : falsy (.dict d) = false := by
  cases d with
  | nil => exact absurd rfl h
  | cons _ _ _ => rfl

theorem falsy_str_ne (s : Str) (h : s ≠ []) : falsy (.str s) = false := by
  cases s with
  | nil => exact absurd rfl h
  | cons _ _ => rfl

theorem merge_single (dl : Str) (out : KVs) (c : Str) (X : Val) :
    mergeV dl (.dict out) (.dict (.cons c X .nil)) =
      .dict (match out.get c with
        | some va => out.set c (mergeV dl va X)
        | none => out.set c X) := by
  cases out with
  | nil => simp [mergeV, falsy, KVs.get, KVs.set]
  | cons k v rest =>
    rw [mergeV]
    simp only [falsy, Bool.false_eq_true, if_false]
    rw [mergeL, mergeL]
    cases KVs.get c (KVs.cons k v rest) <;> rfl

theorem rowStep_one (dl : Str) (out : KVs) (c v : Str) :
    rowStep dl out ([c], v) =
      match out.get c with
      | some (.dict d) => out.set c (mergeV dl (.dict d) (.str v))
      | _ => out.set c (.str v) := by
  simp only [rowStep]
  cases h : out.get c with
  | none => rfl
  | some va =>
    cases va with
    | str s => rfl
    | dict d => simp only [merge_single, h]

theorem rowStep_multi (dl : Str) (out : KVs) (c t : Str) (ts : List Str) (v : Str) :
    rowStep dl out (c :: t :: ts, v) =
      match out.get c with
      | some va => out.set c (mergeV dl va (nest (t :: ts) v))
      | none => out.set c (nest (t :: ts) v) := by
  simp only [rowStep, nest]
  rw [merge_single]

theorem rowStep_get_ne (dl : Str) (out : KVs) (c0 : Str) (ts : List Str) (v : Str) {c : Str} (hc : c ≠ c0) :
    (rowStep dl out (c0 :: ts, v)).get c = out.get c := by
  cases ts with
  | nil => rw [rowStep_one]; split <;> simp [KVs.get_set, hc]
  | cons t ts => rw [rowStep_multi]; split <;> simp [KVs.get_set, hc]

theorem mV_dict_str (dl : Str) (d : KVs) (v : Str) (hd : d ≠ .nil) (hv : v ≠ []) :
    mergeV dl (.dict d) (.str v) = if d.has dl then .dict d else .dict (d.set dl (.str v)) := by
  rw [mergeV]
  have : v.isEmpty = false := by cases v <;> simp_all
  simp [falsy_dict_ne d hd, this]

theorem mV_str_single (dl p l x : Str) (hp : p ≠ []) :
    mergeV dl (.str p) (.dict (.cons l (.str x) .nil)) =
      if dl = l then .dict (.cons l (.str x) .nil)
      else .dict (.cons dl (.str p) (.cons l (.str x) .nil)) := by
  rw [mergeV]
  simp only [falsy_str_ne p hp, Bool.false_eq_true, if_false, KVs.has, KVs.get]
  by_cases h : dl = l <;> simp [h]

theorem mV_str_str (dl s v : Str) (hv : v ≠ []) : mergeV dl (.str s) (.str v) = .str v := by
  rw [mergeV]
  have : v.isEmpty = false := by cases v <;> simp_all
  simp only [this]
  by_cases hs : falsy (.str s) = true <;> simp [hs]

/-- all entries of the dict are plain strings (one level of language suffixes) -/
def wf (d : KVs) : Prop := ∀ k v, d.get k = some v → ∃ s, v = .str s

theorem mV_dict_single (dl : Str) (d : KVs) (l x : Str) (hw : wf d) (hx : x ≠ []) :
    mergeV dl (.dict d) (.dict (.cons l (.str x) .nil)) = .dict (d.set l (.str x)) := by
  rw [merge_single]
  cases h : d.get l with
  | none => rfl
  | some va =>
    obtain ⟨s, rfl⟩ := hw l va h
    simp only [mV_str_str dl s x hx]

abbrev Cell := List Str × Str

/-- first cell with exactly these tokens -/
def lookupT (k : List Str) : List Cell → Option Str
  | [] => none
  | (k', v) :: rest => if k = k' then some v else lookupT k rest

def isSubOf (c : Str) (p : Cell) : Bool :=
  match p.1 with
  | [c', _] => c' == c
  | _ => false

/-- the row has a two-token cell of column `c` -/
def hasSub (c : Str) (cells : List Cell) : Bool := cells.any (isSubOf c)

def getS (d : KVs) (l : Str) : Option Str :=
  match d.get l with
  | some (.str x) => some x
  | _ => none

/-- **specification** of the value filed under `c → l`: the cell `c::l` if there is one, else — for
    the default language — the unsuffixed cell `c` (`C08.specRead` is the same for the `Headers` model) -/
def eff (dl : Str) (P : List Cell) (c l : Str) : Option Str :=
  match lookupT [c, l] P with
  | some x => some x
  | none => if l = dl then lookupT [c] P else none

/-- `out` after the cells `P`: a column without suffixed cells holds its plain value, one with suffixed cells
    a non-empty flat dict whose entry under `l` is `eff dl P c l` -/
def Inv (dl : Str) (out : KVs) (P : List Cell) : Prop := ∀ c,
  (hasSub c P = false → out.get c = (lookupT [c] P).map Val.str) ∧
  (hasSub c P = true → ∃ d, out.get c = some (.dict d) ∧ d ≠ .nil ∧ wf d ∧ ∀ l, getS d l = eff dl P c l)

theorem lookupT_eq (k : List Str) : ∀ P : List Cell, lookupT k P = AList.get k P :=
  AList.get_of_eqns rfl fun _ _ _ => rfl

theorem lookupT_append (k : List Str) (P : List Cell) (k' : List Str) (v : Str) :
    lookupT k (P ++ [(k', v)]) =
      match lookupT k P with
      | some x => some x
      | none => if k = k' then some v else none := by
  rw [lookupT_eq, lookupT_eq, AList.get_append, AList.get_cons]
  cases AList.get k P <;> rfl

theorem hasSub_append (c : Str) (P : List Cell) (cell : Cell) :
    hasSub c (P ++ [cell]) = (hasSub c P || isSubOf c cell) := by
  simp [hasSub, List.any_append]

theorem lookupT_sub_none (c l : Str) (P : List Cell) (h : hasSub c P = false) : lookupT [c, l] P = none := by
  rw [lookupT_eq, AList.get_eq_none_iff]
  intro hm
  obtain ⟨p, hp, hk⟩ := List.mem_map.1 hm
  have : hasSub c P = true := List.any_eq_true.2 ⟨p, hp, by simp [isSubOf, hk]⟩
  rw [h] at this; cases this

theorem lookupT_ne_nil (k : List Str) (P : List Cell) (v : Str) (hP : ∀ cell ∈ P, cell.2 ≠ [])
    (h : lookupT k P = some v) : v ≠ [] :=
  hP (k, v) (AList.mem_of_get (lookupT_eq k P ▸ h))

theorem getS_set (d : KVs) (k l x : Str) :
    getS (d.set k (.str x)) l = if l = k then some x else getS d l := by
  simp only [getS, KVs.get_set]
  by_cases h : l = k <;> simp [h]

/-- a dict that reads like `d` except for a string under `k`: `d.set k (.str x)`, `.cons k (.str x) d` -/
theorem wf_of_get {d d' : KVs} {k x : Str} (hget : ∀ k', d'.get k' = if k' = k then some (.str x) else d.get k')
    (h : wf d) : wf d' := by
  intro k' v hv
  rw [hget] at hv
  by_cases hk : k' = k
  · simp only [hk, if_true, Option.some.injEq] at hv; exact ⟨x, hv.symm⟩
  · simp only [hk, if_false] at hv; exact h k' v hv

theorem wf_set (d : KVs) (k x : Str) (h : wf d) : wf (d.set k (.str x)) :=
  wf_of_get (fun k' => KVs.get_set d k k' _) h

theorem has_iff_getS (d : KVs) (h : wf d) (l : Str) : d.has l = (getS d l).isSome := by
  simp only [KVs.has, getS]
  cases hg : d.get l with
  | none => rfl
  | some va => obtain ⟨s, rfl⟩ := h l va hg; rfl

/-- a cell of another column leaves what the clause of `Inv` for column `c` reads -/
theorem other_column (dl : Str) (P : List Cell) (c0 : Str) (ts : List Str) (v : Str) {c : Str} (hc : c ≠ c0) :
    hasSub c (P ++ [(c0 :: ts, v)]) = hasSub c P ∧ lookupT [c] (P ++ [(c0 :: ts, v)]) = lookupT [c] P ∧
      ∀ l, eff dl (P ++ [(c0 :: ts, v)]) c l = eff dl P c l := by
  have hl : ∀ ts', lookupT (c :: ts') (P ++ [(c0 :: ts, v)]) = lookupT (c :: ts') P := fun ts' => by
    rw [lookupT_append]; cases lookupT (c :: ts') P <;> simp [hc]
  refine ⟨?_, hl [], fun l => by simp only [eff, hl]⟩
  rw [hasSub_append, isSubOf]
  split
  · next h => cases h; simp [Ne.symm hc]
  · simp

theorem inv_step_one (dl : Str) (out : KVs) (P : List Cell) (c0 v : Str)
    (hI : Inv dl out P) (hv : v ≠ []) (hnew : lookupT [c0] P = none) :
    Inv dl (rowStep dl out ([c0], v)) (P ++ [([c0], v)]) := by
  intro c
  have hsub : hasSub c (P ++ [([c0], v)]) = hasSub c P := by simp [hasSub_append, isSubOf]
  have hl2 : ∀ l, lookupT [c, l] (P ++ [([c0], v)]) = lookupT [c, l] P := by
    intro l; rw [lookupT_append]; cases lookupT [c, l] P <;> simp
  rw [hsub]
  by_cases hc : c = c0
  · subst hc
    have hl1 : lookupT [c] (P ++ [([c], v)]) = some v := by rw [lookupT_append, hnew]; simp
    obtain ⟨h1, h2⟩ := hI c
    constructor
    · intro hs
      have hg := h1 hs
      rw [hnew] at hg
      rw [rowStep_one, hl1]
      simp only [hg, Option.map_none] at *
      simp [KVs.get_set]
    · intro hs
      obtain ⟨d, hg, hd, hw, hS⟩ := h2 hs
      -- no unsuffixed cell of the column so far: `d` holds the suffixed cells, and the new cell is filed under the default
      -- language unless one of them has it
      have hS' : ∀ l, getS d l = lookupT [c, l] P := fun l => by
        rw [hS l]; simp only [eff, hnew]; cases lookupT [c, l] P <;> simp
      have hdl : d.has dl = (lookupT [c, dl] P).isSome := by rw [has_iff_getS d hw, hS']
      rw [rowStep_one]
      simp only [hg, mV_dict_str dl d v hd hv]
      cases hx : lookupT [c, dl] P with
      | some y =>
        rw [hx] at hdl
        refine ⟨d, by simp [hdl, KVs.get_set], hd, hw, fun l => ?_⟩
        rw [hS' l]
        simp only [eff, hl2, hl1]
        by_cases hl : l = dl
        · subst hl; simp [hx]
        · cases lookupT [c, l] P <;> simp [hl]
      | none =>
        rw [hx] at hdl
        refine ⟨d.set dl (.str v), by simp [hdl, KVs.get_set], KVs.set_ne_nil _ _ _, wf_set _ _ _ hw, fun l => ?_⟩
        rw [getS_set, hS' l]
        simp only [eff, hl2, hl1]
        by_cases hl : l = dl
        · subst hl; simp [hx]
        · cases lookupT [c, l] P <;> simp [hl]
  · obtain ⟨_, hl1, he⟩ := other_column dl P c0 [] v hc
    rw [rowStep_get_ne dl out c0 [] v hc, hl1]
    simp only [he]
    exact hI c

theorem getS_single (l0 x l : Str) : getS (.cons l0 (.str x) .nil) l = if l = l0 then some x else none :=
  getS_set .nil l0 l x

theorem wf_nil : wf .nil := fun _ _ h => by simp [KVs.get] at h

theorem wf_cons (k s : Str) (d : KVs) (h : wf d) : wf (.cons k (.str s) d) :=
  wf_of_get (fun _ => rfl) h

theorem inv_step_two (dl : Str) (out : KVs) (P : List Cell) (c0 l0 x : Str)
    (hI : Inv dl out P) (hx : x ≠ []) (hP : ∀ cell ∈ P, cell.2 ≠ []) (hnew : lookupT [c0, l0] P = none) :
    Inv dl (rowStep dl out ([c0, l0], x)) (P ++ [([c0, l0], x)]) := by
  intro c
  have hl1 : lookupT [c] (P ++ [([c0, l0], x)]) = lookupT [c] P := by
    rw [lookupT_append]; cases lookupT [c] P <;> simp
  by_cases hc : c = c0
  · subst hc
    have hsub : hasSub c (P ++ [([c, l0], x)]) = true := by simp [hasSub_append, isSubOf]
    have hl2 : ∀ l, lookupT [c, l] (P ++ [([c, l0], x)]) =
        match lookupT [c, l] P with
        | some y => some y
        | none => if l = l0 then some x else none := by
      intro l; rw [lookupT_append]; cases lookupT [c, l] P <;> simp
    rw [hsub]
    refine ⟨by simp, fun _ => ?_⟩
    obtain ⟨h1, h2⟩ := hI c
    rw [rowStep_multi]
    simp only [nest]
    -- first suffixed cell of column `c` (nothing there yet, or a plain value, which `merge_dicts` moves under the
    -- default language unless `l0` is that language), or a further one (one more entry in the flat dict)
    cases hs : hasSub c P with
    | false =>
      have hg := h1 hs
      have hnone : ∀ l, lookupT [c, l] P = none := fun l => lookupT_sub_none c l P hs
      cases hp : lookupT [c] P with
      | none =>
        rw [hp] at hg
        simp only [Option.map_none] at hg
        simp only [hg]
        refine ⟨_, by simp [KVs.get_set], by simp, wf_cons l0 x _ wf_nil, fun l => ?_⟩
        rw [getS_single]
        simp only [eff, hl2, hnone, hl1, hp]
        by_cases hl : l = l0 <;> simp [hl]
      | some p =>
        rw [hp] at hg
        simp only [Option.map_some] at hg
        have hpne : p ≠ [] := lookupT_ne_nil [c] P p hP hp
        simp only [hg, mV_str_single dl p l0 x hpne]
        by_cases hd : dl = l0
        · subst hd
          refine ⟨_, by simp [KVs.get_set], by simp, wf_cons dl x _ wf_nil, fun l => ?_⟩
          rw [getS_single]
          simp only [eff, hl2, hnone, hl1, hp]
          by_cases hl : l = dl <;> simp [hl]
        · refine ⟨.cons dl (.str p) (.cons l0 (.str x) .nil), by simp [hd, KVs.get_set], by simp,
            wf_cons _ _ _ (wf_cons _ _ _ wf_nil), fun l => ?_⟩
          simp only [eff, hl2, hnone, hl1, hp, getS, KVs.get]
          by_cases hl : l = dl
          · subst hl; simp [hd]
          · by_cases hl' : l = l0
            · subst hl'; simp [hl]
            · simp [hl, hl']
    | true =>
      obtain ⟨d, hg, hd, hw, hS⟩ := h2 hs
      simp only [hg, mV_dict_single dl d l0 x hw hx]
      refine ⟨d.set l0 (.str x), by simp [KVs.get_set], KVs.set_ne_nil _ _ _, wf_set _ _ _ hw, fun l => ?_⟩
      rw [getS_set]
      simp only [eff, hl2, hl1]
      by_cases hl : l = l0
      · subst hl; simp [hnew]
      · simp only [hl, if_false]; rw [hS l]; simp only [eff]
        cases lookupT [c, l] P <;> simp
  · obtain ⟨hsub, _, he⟩ := other_column dl P c0 [l0] x hc
    rw [hsub, rowStep_get_ne dl out c0 [l0] x hc, hl1]
    simp only [he]
    exact hI c

/-- a cell of a one- or two-token header with a non-empty value -/
def shape2 (cell : Cell) : Prop := cell.2 ≠ [] ∧ ((∃ c, cell.1 = [c]) ∨ (∃ c l, cell.1 = [c, l]))

theorem inv_nil (dl : Str) : Inv dl .nil [] := by
  intro c; simp [hasSub, KVs.get, lookupT]

theorem inv_fold (dl : Str) (rest : List Cell) : ∀ (P : List Cell) (out : KVs), Inv dl out P →
    (∀ cell ∈ P ++ rest, shape2 cell) → ((P ++ rest).map (·.1)).Nodup →
    Inv dl (rest.foldl (rowStep dl) out) (P ++ rest) := by
  induction rest with
  | nil => intro P out hI _ _; simpa using hI
  | cons cell rest ih =>
    intro P out hI hs nd
    have e : P ++ cell :: rest = (P ++ [cell]) ++ rest := by simp
    rw [e] at hs nd ⊢
    simp only [List.foldl_cons]
    apply ih (P ++ [cell]) _ _ hs nd
    have hcell : shape2 cell := hs cell (by simp)
    have hP : ∀ c ∈ P, c.2 ≠ [] := fun c hc => (hs c (by simp [hc])).1
    have hnew : lookupT cell.1 P = none := by
      rw [lookupT_eq, AList.get_eq_none_iff]
      simp only [List.map_append, List.map_cons, List.map_nil, List.append_assoc] at nd
      have := (List.nodup_append.mp nd).2.2
      intro hmem
      exact this _ hmem _ (by simp) rfl
    obtain ⟨k, v⟩ := cell
    obtain ⟨hv, hk | hk⟩ := hcell
    · obtain ⟨c, rfl⟩ := hk
      exact inv_step_one dl out P c v hI hv hnew
    · obtain ⟨c, l, rfl⟩ := hk
      exact inv_step_two dl out P c l v hI hv hP hnew

/-- **what `process_row` builds** from cells of one- and two-token headers: a column without suffixed
    cells holds its plain value; a column with suffixed cells holds a dict in which every `c::l` cell is
    filed under `l`, and the unsuffixed cell under the default language unless `c::<default>` exists -/
theorem processRow_spec (dl : Str) (cells : List Cell) (hs : ∀ cell ∈ cells, shape2 cell)
    (nd : (cells.map (·.1)).Nodup) : Inv dl (processRow dl cells) cells := by
  have := inv_fold dl cells [] .nil (inv_nil dl) (by simpa using hs) (by simpa using nd)
  simpa [processRow] using this

theorem lookupT_perm (k : List Str) (P P' : List Cell) (hp : P'.Perm P) (nd : (P.map (·.1)).Nodup) :
    lookupT k P' = lookupT k P := by
  rw [lookupT_eq, lookupT_eq]
  exact (AList.get_perm hp.symm nd k).symm

theorem hasSub_perm (c : Str) (P P' : List Cell) (hp : P'.Perm P) : hasSub c P' = hasSub c P :=
  hp.any_eq

end Pyxv.Spell
