import Pyxv.Model.Refs
import Pyxv.Proofs.BaseLemmas
/-! Lemmas for C03: Python string operations on `/`-joined paths vs. segment lists; the path algebra of
`_get_steps_and_target_xpath` (`Reaches`); `is_parent_a_repeat` (`IsNearestRep`); the name dictionary;
`_relative_path` / `_var_repl_function` by cases (`relativePath_eq_some`, `refFor_eq`, `refFor_ok`: how the property
theorems read `refFor`); repeats among the ancestors in a `Valid` chain list. -/
namespace Pyxv.Refs
open Pyxv

theorem GoodNames.tail {a : Str} {p : List Str} (h : GoodNames (a :: p)) : GoodNames p :=
  fun s hs => h s (by simp [hs])

theorem GoodNames.take {p : List Str} (h : GoodNames p) (n : Nat) : GoodNames (p.take n) :=
  fun s hs => h s (List.mem_of_mem_take hs)

theorem GoodNames.dropLast {p : List Str} (h : GoodNames p) : GoodNames p.dropLast :=
  fun s hs => h s (List.dropLast_subset p hs)

theorem GoodNames.snoc {pre : Chain} {seg : Seg} (hp : GoodNames pre.path) (hn : '/' ∉ seg.1 ∧ seg.1 ≠ []) :
    GoodNames (Chain.path (pre ++ [seg])) := by
  intro s hs
  simp only [Chain.path, List.map_append, List.map_cons, List.map_nil, List.mem_append, List.mem_singleton] at hs
  rcases hs with hs | rfl
  · exact hp s hs
  · exact hn

theorem split_join (p : List Str) (hp : p ≠ []) (hg : ∀ s ∈ p, '/' ∉ s) :
    splitOnChar '/' (joinWith ['/'] p) = p :=
  _root_.Pyxv.splitOnChar_joinWith '/' p hp hg

theorem split_pathStr (p : List Str) (hp : p ≠ []) (hg : GoodNames p) :
    splitOnChar '/' (pathStr p) = [] :: p := by
  have : pathStr p = [] ++ '/' :: joinWith ['/'] p := rfl
  rw [this, splitOnChar_append, split_join p hp (fun s hs => (hg s hs).1)]
  rfl

theorem pathStr_inj (p q : List Str) (hp : p ≠ []) (hq : q ≠ []) (gp : GoodNames p) (gq : GoodNames q)
    (h : pathStr p = pathStr q) : p = q := by
  have := split_pathStr p hp gp
  rw [h, split_pathStr q hq gq] at this
  simpa using this.symm

theorem parentXpath_pathStr (p : List Str) (hg : GoodNames p) :
    parentXpath (pathStr p) = if p.length < 2 then [] else pathStr p.dropLast := by
  match p, hg with
  | [], _ => decide
  | [a], hg => rw [parentXpath, split_pathStr _ (by simp) hg]; rfl
  | a :: b :: r, hg =>
    rw [parentXpath, split_pathStr _ (by simp) hg]
    simp [List.dropLast, joinWith, pathStr]

theorem lcpLen_spec (a b : List Str) :
    lcpLen a b ≤ a.length ∧ lcpLen a b ≤ b.length ∧ a.take (lcpLen a b) = b.take (lcpLen a b) := by
  induction a generalizing b with
  | nil => simp [lcpLen]
  | cons x xs ih =>
    cases b with
    | nil => simp [lcpLen]
    | cons y ys =>
      simp only [lcpLen]
      split
      · next e =>
        obtain ⟨h1, h2, h3⟩ := ih ys
        exact ⟨Nat.succ_le_succ h1, Nat.succ_le_succ h2, by rw [List.take_succ_cons, List.take_succ_cons, h3, e]⟩
      · simp

/-- the arithmetic of `_get_steps_and_target_xpath` after the two `split("/")[split_idx:]` -/
def stepsCore (cs ts : List Str) (inc : Bool) : Nat × List Str :=
  let common := if inc then 0 else lcpLen cs.dropLast ts
  let common := if common = ts.length ∧ common > 0 then common - 1 else common
  (cs.length - common, ts.drop common)

theorem getStepsAndTarget_eq (x cx xp : Str) (inc : Bool) :
    getStepsAndTarget x cx xp inc =
      stepsCore ((splitOnChar '/' cx).drop ((splitOnChar '/' xp).length - (if inc then 1 else 0)))
        ((splitOnChar '/' x).drop ((splitOnChar '/' xp).length - (if inc then 1 else 0))) inc := rfl

theorem stepsCore_spec (cs ts : List Str) (inc : Bool) (hcs : 0 < cs.length) (hts : 0 < ts.length) :
    ∃ k, stepsCore cs ts inc = (cs.length - k, ts.drop k) ∧ k < cs.length ∧ k < ts.length ∧
      cs.take k = ts.take k := by
  obtain ⟨n, hn, h1, h2, h3⟩ : ∃ n, n = (if inc then 0 else lcpLen cs.dropLast ts) ∧ n + 1 ≤ cs.length ∧
      n ≤ ts.length ∧ cs.take n = ts.take n := by
    cases inc with
    | true => exact ⟨0, rfl, hcs, Nat.zero_le _, rfl⟩
    | false =>
      obtain ⟨a, b, c⟩ := lcpLen_spec cs.dropLast ts
      rw [List.length_dropLast] at a
      exact ⟨lcpLen cs.dropLast ts, rfl, by omega, b, by rw [← c, take_dropLast cs _ (by omega)]⟩
  unfold stepsCore
  simp only [← hn]
  by_cases hcond : n = ts.length ∧ n > 0
  · refine ⟨n - 1, by rw [if_pos hcond], by omega, by omega, ?_⟩
    simpa [List.take_take, Nat.min_eq_left (Nat.sub_le n 1)] using congrArg (List.take (n - 1)) h3
  · exact ⟨n, by rw [if_neg hcond], by omega, by omega, h3⟩

/-- at least one step up, not above the document node, the path lands on `t` and ends in `t`'s name -/
structure Reaches (c t : List Str) (r : Nat × List Str) : Prop where
  steps_pos : 1 ≤ r.1
  steps_le : r.1 ≤ c.length
  lands : c.take (c.length - r.1) ++ r.2 = t
  parts_ne : r.2 ≠ []
  last : r.2.getLast? = t.getLast?

theorem stepsCore_resolves (c t : List Str) (m : Nat) (hc : m < c.length) (ht : m < t.length)
    (hpre : c.take m = t.take m) (inc : Bool) : Reaches c t (stepsCore (c.drop m) (t.drop m) inc) := by
  obtain ⟨k, hr, hkc, hkt, htk⟩ := stepsCore_spec (c.drop m) (t.drop m) inc (by simp; omega) (by simp; omega)
  rw [hr]
  simp only [List.length_drop] at hkc hkt
  have hmk : c.take (m + k) = t.take (m + k) := by rw [List.take_add, List.take_add, hpre, htk]
  refine ⟨?_, ?_, ?_, ?_, ?_⟩ <;> simp only [List.length_drop, List.drop_drop]
  · omega
  · omega
  · rw [show c.length - (c.length - m - k) = m + k by omega, hmk, List.take_append_drop]
  · intro e
    have := congrArg List.length e
    simp at this
    omega
  · rw [List.getLast?_drop]
    simp
    omega

theorem endsWith_pathStr (parts : List Str) (name : Str) (h : parts.getLast? = some name) :
    endsWith (pathStr parts) name = true := by
  obtain ⟨pre, hp⟩ := joinWith_getLast ['/'] parts name h
  unfold endsWith
  rw [startsWith_iff]
  refine ⟨(('/' :: pre)).reverse, ?_⟩
  simp [pathStr, hp]

theorem startsWith_pathStr_iff (a b : List Str) (ha : a ≠ []) (hb : b ≠ []) (ga : GoodNames a) (gb : GoodNames b) :
    startsWith (pathStr a ++ ['/']) (pathStr b ++ ['/']) = true ↔ b <+: a := by
  constructor
  · intro h
    obtain ⟨r, hr⟩ := (startsWith_iff _ _).1 h
    have h1 : splitOnChar '/' (pathStr a ++ ['/']) = ([] :: a) ++ [[]] := by
      rw [splitOnChar_append, split_pathStr a ha ga]; rfl
    have h2 : splitOnChar '/' (pathStr b ++ ['/'] ++ r) = ([] :: b) ++ splitOnChar '/' r := by
      rw [List.append_assoc, List.singleton_append, splitOnChar_append, split_pathStr b hb gb]
    rw [hr, h2] at h1
    have h3 : b ++ splitOnChar '/' r = a ++ [[]] := by simpa using h1
    have hne := splitOnChar_ne_nil '/' r
    rw [← List.dropLast_concat_getLast hne, ← List.append_assoc] at h3
    exact ⟨_, (List.append_inj' h3 (by simp)).1⟩
  · rintro ⟨r, rfl⟩
    rw [startsWith_iff]
    by_cases hr : r = []
    · subst hr; exact ⟨[], by simp⟩
    · exact ⟨joinWith ['/'] r ++ ['/'], by simp [pathStr, joinWith_append _ b r hb hr]⟩

theorem startsWith_pathStr (a b : List Str) (ha : a ≠ []) (hb : b ≠ []) (ga : GoodNames a) (gb : GoodNames b)
    (h : startsWith (pathStr a ++ ['/']) (pathStr b ++ ['/']) = true) : b <+: a :=
  (startsWith_pathStr_iff a b ha hb ga gb).1 h

theorem length_pathStr_ge (p : List Str) : p.length ≤ (pathStr p).length := by
  induction p with
  | nil => simp
  | cons a rest ih =>
    cases rest with
    | nil => simp [pathStr]
    | cons b r => simp [pathStr, joinWith] at ih ⊢; omega

/-- What `is_parent_a_repeat` returns on the xpath of a path `p`: the xpath of the longest proper, non-empty
prefix of `p` that is the xpath of a repeat — or `False` when there is none. -/
def IsNearestRep (reps : List Str) (p : List Str) : Option Str → Prop
  | some x => ∃ i, 0 < i ∧ i < p.length ∧ x = pathStr (p.take i) ∧ x ∈ reps ∧
      ∀ j, i < j → j < p.length → pathStr (p.take j) ∉ reps
  | none => ∀ j, 0 < j → j < p.length → pathStr (p.take j) ∉ reps

theorem isParentARepeatF_succ (reps : List Str) (fuel : Nat) (p : List Str) (hg : GoodNames p) :
    isParentARepeatF reps (fuel + 1) (pathStr p) =
      if p.length < 2 then none
      else if reps.contains (pathStr p.dropLast) then some (pathStr p.dropLast)
      else isParentARepeatF reps fuel (pathStr p.dropLast) := by
  rw [isParentARepeatF, parentXpath_pathStr p hg]
  split
  · rfl
  · simp only [pathStr, List.isEmpty_cons, Bool.false_eq_true, ↓reduceIte]

theorem IsNearestRep.of_dropLast {reps : List Str} {p : List Str} {r : Option Str}
    (hn : pathStr p.dropLast ∉ reps) (h : IsNearestRep reps p.dropLast r) : IsNearestRep reps p r := by
  have up : ∀ j, j < p.length → (j < p.dropLast.length → pathStr (p.dropLast.take j) ∉ reps) →
      pathStr (p.take j) ∉ reps := by
    intro j hj hlow
    by_cases e : j = p.length - 1
    · rw [e, ← List.dropLast_eq_take]; exact hn
    · have := hlow (by rw [List.length_dropLast]; omega)
      rwa [take_dropLast p j (by omega)] at this
  cases r with
  | none => exact fun j h1 hj => up j hj (h j h1)
  | some x =>
    obtain ⟨i, hi0, hil, hx, hxin, hall⟩ := h
    rw [List.length_dropLast] at hil
    exact ⟨i, hi0, by omega, by rw [hx, take_dropLast p i (by omega)], hxin, fun j h1 hj => up j hj (hall j h1)⟩

theorem isParentARepeatF_spec (reps : List Str) : ∀ (fuel : Nat) (p : List Str), GoodNames p → p.length ≤ fuel →
    IsNearestRep reps p (isParentARepeatF reps fuel (pathStr p)) := by
  intro fuel
  induction fuel with
  | zero => exact fun p _ hl j _ h2 => by omega
  | succ fuel ih =>
    intro p hg hl
    rw [isParentARepeatF_succ reps fuel p hg]
    split
    · exact fun j h1 hj => by omega
    · split
      · next hin =>
        exact ⟨p.length - 1, by omega, by omega, by rw [List.dropLast_eq_take], by simpa using hin,
          fun j h1 h2 => by omega⟩
      · next hin =>
        exact .of_dropLast (by simpa using hin) (ih p.dropLast hg.dropLast (by rw [List.length_dropLast]; omega))

theorem isParentARepeat_spec (reps : List Str) (p : List Str) (hg : GoodNames p) :
    IsNearestRep reps p (isParentARepeat reps (pathStr p)) :=
  isParentARepeatF_spec reps _ p hg (by have := length_pathStr_ge p; omega)

theorem gst_resolves (c t : List Str) (gc : GoodNames c) (gt : GoodNames t) (j : Nat) (hj0 : 0 < j)
    (hjc : j < c.length) (hjt : j < t.length) (hpre : c.take j = t.take j) (inc : Bool) :
    Reaches c t (getStepsAndTarget (pathStr t) (pathStr c) (pathStr (t.take j)) inc) := by
  have hc0 : c ≠ [] := by intro e; simp [e] at hjc
  have ht0 : t ≠ [] := by intro e; simp [e] at hjt
  have htj : t.take j ≠ [] := take_ne_nil t j hj0 (by omega)
  rw [getStepsAndTarget_eq, split_pathStr c hc0 gc, split_pathStr t ht0 gt, split_pathStr _ htj (gt.take j),
    List.length_cons, List.length_take, Nat.min_eq_left (Nat.le_of_lt hjt)]
  -- the three splits are `[] :: _`: `split_idx` is `j + 1` (`j` with `include_parent`), and the leading `[]` goes with it
  cases inc with
  | false =>
    simp only [Bool.false_eq_true, ↓reduceIte, Nat.sub_zero, List.drop_succ_cons]
    exact stepsCore_resolves c t j hjc hjt hpre false
  | true =>
    obtain ⟨k, rfl⟩ : ∃ k, j = k + 1 := ⟨j - 1, by omega⟩
    simp only [↓reduceIte, Nat.add_sub_cancel, List.drop_succ_cons]
    have hpre' : c.take k = t.take k := by
      have := congrArg (List.take k) hpre
      simpa [List.take_take, Nat.min_eq_left (Nat.le_succ k)] using this
    exact stepsCore_resolves c t k (by omega) (by omega) hpre' true

theorem isParentARepeat_some {reps : List Str} {p : List Str} {x : Str} (hg : GoodNames p)
    (h : isParentARepeat reps (pathStr p) = some x) :
    ∃ i, 0 < i ∧ i < p.length ∧ x = pathStr (p.take i) ∧ x ∈ reps ∧
      ∀ j, i < j → j < p.length → pathStr (p.take j) ∉ reps := by
  have := isParentARepeat_spec reps p hg
  rwa [h] at this

theorem isParentARepeat_none {reps : List Str} {p : List Str} (hg : GoodNames p)
    (h : isParentARepeat reps (pathStr p) = none) : ∀ j, 0 < j → j < p.length → pathStr (p.take j) ∉ reps := by
  have := isParentARepeat_spec reps p hg
  rwa [h] at this

theorem ssrp_of_startsWith {reps : List Str} {x cx cp xp : Str} (rp : Bool)
    (hcp : isParentARepeat reps cx = some cp) (hxp : isParentARepeat reps x = some xp)
    (hsw : startsWith (cp ++ ['/']) (xp ++ ['/']) = true) :
    ∃ inc, shareSameRepeatParent reps x cx rp = some (getStepsAndTarget x cx xp inc) := by
  unfold shareSameRepeatParent
  simp only [hcp, hxp, hsw, ↓reduceIte]
  split
  · split
    · exact ⟨_, rfl⟩
    · split <;> exact ⟨_, rfl⟩
  · exact ⟨_, rfl⟩

theorem ssrp_some {reps : List Str} {x cx : Str} {rp : Bool} {r : Nat × List Str}
    (h : shareSameRepeatParent reps x cx rp = some r) :
    ∃ cp xp, isParentARepeat reps cx = some cp ∧ isParentARepeat reps x = some xp ∧
      ((startsWith (cp ++ ['/']) (xp ++ ['/']) = true ∧ ∃ inc, r = getStepsAndTarget x cx xp inc) ∨
       ∃ a, isParentARepeat reps cp = some a ∧ isParentARepeat reps xp = some a ∧
         r = getStepsAndTarget x cx a false) := by
  cases hcp : isParentARepeat reps cx with
  | none => simp [shareSameRepeatParent, hcp] at h
  | some cp =>
    cases hxp : isParentARepeat reps x with
    | none => simp [shareSameRepeatParent, hcp, hxp] at h
    | some xp =>
      refine ⟨cp, xp, rfl, rfl, ?_⟩
      by_cases hsw : startsWith (cp ++ ['/']) (xp ++ ['/']) = true
      · obtain ⟨inc, e⟩ := ssrp_of_startsWith rp hcp hxp hsw
        rw [e] at h
        exact .inl ⟨hsw, inc, (Option.some.inj h).symm⟩
      · simp only [shareSameRepeatParent, hcp, hxp, hsw, Bool.false_eq_true, ↓reduceIte] at h
        split at h
        · next csa xsa hcsa hxsa =>
          split at h
          · next heq =>
            obtain rfl : xsa = csa := by simpa using heq
            exact .inr ⟨xsa, hcsa, hxsa, (Option.some.inj h).symm⟩
          · cases h
        · cases h

/-- whatever `share_same_repeat_parent` answers leads from `c` to `t` -/
theorem ssrp_resolves (reps : List Str) (c t : List Str) (gc : GoodNames c) (gt : GoodNames t) (rp : Bool)
    (r : Nat × List Str) (h : shareSameRepeatParent reps (pathStr t) (pathStr c) rp = some r) : Reaches c t r := by
  obtain ⟨cp, xp, hcp, hxp, hcase⟩ := ssrp_some h
  obtain ⟨i, hi0, hil, rfl, -, -⟩ := isParentARepeat_some gc hcp
  obtain ⟨j, hj0, hjl, rfl, -, -⟩ := isParentARepeat_some gt hxp
  rcases hcase with ⟨hsw, inc, rfl⟩ | ⟨a, hca, hxa, rfl⟩
  · -- the target's repeat parent is an ancestor-or-self of the context's repeat parent
    have hpre := startsWith_pathStr _ _ (take_ne_nil c i hi0 (by omega)) (take_ne_nil t j hj0 (by omega))
      (gc.take i) (gt.take j) hsw
    have hji : j ≤ i := by
      have := hpre.length_le
      rw [List.length_take, List.length_take] at this; omega
    have hcj : c.take j = t.take j := by
      have := List.prefix_iff_eq_take.1 (hpre.trans (List.take_prefix i c))
      rwa [List.length_take, Nat.min_eq_left (by omega), eq_comm] at this
    exact gst_resolves c t gc gt j hj0 (by omega) hjl hcj inc
  · -- neither contains the other, but the two repeat parents sit in the same repeat
    obtain ⟨i', hi'0, hi'l, rfl, -, -⟩ := isParentARepeat_some (gc.take i) hca
    obtain ⟨j', hj'0, hj'l, ha, -, -⟩ := isParentARepeat_some (gt.take j) hxa
    rw [List.length_take] at hi'l hj'l
    rw [List.take_take, List.take_take, Nat.min_eq_left (by omega), Nat.min_eq_left (by omega)] at ha
    rw [List.take_take, Nat.min_eq_left (by omega)]
    have hseg := pathStr_inj _ _ (take_ne_nil c i' hi'0 (by omega)) (take_ne_nil t j' hj'0 (by omega))
      (gc.take i') (gt.take j') ha
    have hlen : i' = j' := by
      have := congrArg List.length hseg
      rw [List.length_take, List.length_take] at this; omega
    subst hlen
    rw [hseg]
    exact gst_resolves c t gc gt i' hi'0 (by omega) (by omega) hseg false

def named (n : Str) (c : Chain) : Bool := c.getLast?.map (·.1) == some n

/-- the dictionary entry of a name after one more element of that name: first seen, then ambiguous -/
def upd (s : Option (Option Chain)) (c : Chain) : Option (Option Chain) :=
  match s with
  | none => some (some c)
  | some _ => some none

theorem lookup_map_none (k n : Str) (d : List (Str × Option Chain)) :
    lookup k (d.map fun (k', v) => if k' = n then (k', none) else (k', v)) =
      if k = n then (lookup k d).map (fun _ => none) else lookup k d := by
  have hF : ∀ p : Str × Option Chain, (if p.1 = n then (p.1, none) else (p.1, p.2)).1 = p.1 := fun p => by
    split <;> rfl
  rw [lookup_map_entry _ hF]
  by_cases h : k = n
  · rw [if_pos h]; cases lookup k d <;> simp [h]
  · rw [if_neg h]; cases lookup k d <;> simp [h]

theorem lookup_dictInsert (n : Str) (d : List (Str × Option Chain)) (c : Chain) :
    lookup n (dictInsert d c) = if named n c then upd (lookup n d) c else lookup n d := by
  unfold dictInsert named
  cases hl : c.getLast? with
  | none => simp
  | some seg =>
    obtain ⟨m, k⟩ := seg
    simp only [Option.map_some]
    by_cases hmn : m = n
    · subst hmn
      simp only [beq_self_eq_true, ↓reduceIte]
      cases hd : lookup m d with
      | none => simp [hd, lookup_append_single, upd]
      | some v => simp [hd, lookup_map_none, upd]
    · have hnm : ¬ (n = m) := fun e => hmn e.symm
      have : (some m == some n) = false := by simp [hmn]
      simp only [this, Bool.false_eq_true, ↓reduceIte]
      split
      · rw [lookup_map_none]; simp [hnm]
      · rw [lookup_append_single]; cases lookup n d <;> simp [hnm]

theorem lookup_foldl_dictInsert (n : Str) (els : List Chain) (d : List (Str × Option Chain)) :
    lookup n (els.foldl dictInsert d) = (els.filter (named n)).foldl upd (lookup n d) := by
  induction els generalizing d with
  | nil => simp
  | cons c rest ih =>
    simp only [List.foldl_cons, ih, lookup_dictInsert, List.filter_cons]
    split <;> simp

theorem foldl_upd_none (l : List Chain) : l.foldl upd (some none) = some none := by
  induction l with
  | nil => rfl
  | cons a r ih => exact ih

theorem lookup_setup (n : Str) (els : List Chain) :
    lookup n (setupXpathDict els) =
      match els.filter (named n) with
      | [] => none
      | [t] => some (some t)
      | _ :: _ :: _ => some none := by
  unfold setupXpathDict
  rw [lookup_foldl_dictInsert]
  match els.filter (named n) with
  | [] => rfl
  | [t] => rfl
  | _ :: _ :: r => exact foldl_upd_none r

theorem named_path {n : Str} {t : Chain} (h : named n t = true) : t.path.getLast? = some n := by
  unfold named at h
  unfold Chain.path
  rw [List.getLast?_map]
  cases hl : t.getLast? with
  | none => simp [hl] at h
  | some s => simpa [hl] using h

/-- what `_relative_path` answers at a call site: nothing without a context element, for a `last-saved#` reference or at
an absolute-by-design `indexed-repeat(` position -/
def relFor (els : List Chain) (ctx : Option Chain) (t : Chain) (name : Str) (fl : Flags) : Option (Nat × List Str) :=
  match ctx with
  | none => none
  | some c =>
    if !fl.lastSaved && !fl.indexedArg then relativePath (repeatXpaths els) c t name fl.referenceParent else none

/-- `_var_repl_function` by the number of elements called `name` -/
theorem refFor_eq (els : List Chain) (ctx : Option Chain) (name : Str) (fl : Flags) :
    refFor els ctx name fl =
      match els.filter (named name) with
      | [] => .unknown name
      | [t] =>
        match relFor els ctx t name fl with
        | some (k, d) => .ok (fl.useCurrent || fl.inPredicate) (.rel k d)
        | none => .ok false (if fl.lastSaved then .lastSaved t.path else .abs t.path)
      | _ :: _ :: _ => .ambiguous name := by
  unfold refFor
  rw [lookup_setup]
  match els.filter (named name) with
  | [] => rfl
  | _ :: _ :: _ => rfl
  | [t] =>
    have habs : (if fl.lastSaved = true then Out.ok false (.lastSaved t.path) else .ok false (.abs t.path)) =
        .ok false (if fl.lastSaved then .lastSaved t.path else .abs t.path) := by split <;> rfl
    cases ctx with
    | none => exact habs
    | some c =>
      simp only [relFor, habs]
      by_cases hfl : (!fl.lastSaved && !fl.indexedArg) = true
      · rw [if_pos hfl, if_pos hfl]
        cases relativePath (repeatXpaths els) c t name fl.referenceParent <;> rfl
      · rw [if_neg hfl, if_neg hfl]

theorem refFor_ok {els : List Chain} {ctx : Option Chain} {name : Str} {fl : Flags} {cur : Bool} {e : Emitted}
    (h : refFor els ctx name fl = .ok cur e) :
    ∃ t, els.filter (named name) = [t] ∧
      ((cur = false ∧ e = if fl.lastSaved then .lastSaved t.path else .abs t.path) ∨
       ∃ c steps down, ctx = some c ∧ fl.lastSaved = false ∧ fl.indexedArg = false ∧
         relativePath (repeatXpaths els) c t name fl.referenceParent = some (steps, down) ∧
         cur = (fl.useCurrent || fl.inPredicate) ∧ e = .rel steps down) := by
  rw [refFor_eq] at h
  split at h
  · cases h
  · next t ht =>
    refine ⟨t, ht, ?_⟩
    split at h
    · next k d hr =>
      cases h
      unfold relFor at hr
      split at hr
      · cases hr
      · next c =>
        split at hr
        · next hfl =>
          rw [Bool.and_eq_true, Bool.not_eq_true', Bool.not_eq_true'] at hfl
          exact .inr ⟨c, k, d, rfl, hfl.1, hfl.2, hr, rfl, rfl⟩
        · cases hr
    · cases h; exact .inl ⟨rfl, rfl⟩
  · cases h

theorem relativePath_eq_some {reps : List Str} {c t : Chain} {name : Str} {rp : Bool} {steps : Nat} {down : List Str} :
    relativePath reps c t name rp = some (steps, down) ↔
      (∃ a, (splitOnChar '/' t.xpath)[2]? = some a ∧ (splitOnChar '/' c.xpath)[2]? = some a) ∧ related c t = true ∧
      ∃ parts, shareSameRepeatParent reps t.xpath c.xpath rp = some (steps, parts) ∧ steps ≠ 0 ∧
        down = if endsWith (pathStr parts) name then parts else [name] := by
  constructor
  · intro h
    unfold relativePath at h
    simp only at h
    split at h
    · split at h
      · next a b ha hb =>
        split at h
        · next hab =>
          split at h
          · cases h
          · next hrel =>
            split at h
            · next st parts hss =>
              split at h
              · cases h
              · next h0 =>
                -- the only branch that answers
                simp only [Option.some.injEq, Prod.mk.injEq] at h
                obtain ⟨rfl, rfl⟩ := h
                exact ⟨⟨a, ha, hab ▸ hb⟩, by simpa using hrel, parts, hss, h0, rfl⟩
            · cases h
        · cases h
      · cases h
    · cases h
  · rintro ⟨⟨a, ha, hb⟩, hrel, parts, hss, h0, rfl⟩
    have hlen : (decide ((splitOnChar '/' c.xpath).length > 2) && decide ((splitOnChar '/' t.xpath).length > 2)) = true := by
      simp [(List.getElem?_eq_some_iff.1 ha).1, (List.getElem?_eq_some_iff.1 hb).1]
    simp only [relativePath, hlen, ↓reduceIte, ha, hb, hrel, hss, h0, Bool.not_true, Bool.false_eq_true]

theorem relativePath_none {reps : List Str} {c t : Chain} {name : Str} {rp : Bool}
    (h : isParentARepeat reps c.xpath = none) : relativePath reps c t name rp = none := by
  cases hr : relativePath reps c t name rp with
  | none => rfl
  | some r =>
    obtain ⟨-, -, parts, hss, -⟩ := relativePath_eq_some.1 hr
    obtain ⟨cp, -, hcp, -⟩ := ssrp_some hss
    rw [h] at hcp; cases hcp

theorem refFor_outside_repeats (els : List Chain) (c : Chain) (name : Str) (fl : Flags)
    (h : isParentARepeat (repeatXpaths els) c.xpath = none) :
    refFor els (some c) name fl = refFor els none name fl := by
  simp only [refFor_eq, relFor, relativePath_none h, ite_self]

theorem refFor_none_text (els : List Chain) (name : Str) (ls : Bool) :
    (refFor els none name { lastSaved := ls }).text =
      match els.filter (named name) with
      | [t] => some (' ' :: (if ls then "instance('__last-saved')".toList else []) ++ pathStr t.path ++ [' '])
      | _ => none := by
  rw [refFor_eq]
  rcases els.filter (named name) with _ | ⟨t, _ | ⟨u, r⟩⟩
  · simp only [Out.text]
  · cases ls <;> simp only [relFor, Out.text, Bool.false_eq_true, ↓reduceIte] <;> rfl
  · simp only [Out.text]

/-! ## repeats among the ancestors in a `Valid` chain list

A prefix xpath is the xpath of a repeat iff that ancestor is a repeat (`mem_reps_iff`), so `is_parent_a_repeat` finds the
innermost repeat ancestor (`isParentARepeat_valid`); the interleaved ancestor walks of `has_common_repeat_parent` find
every repeat on both (`hcrpLoop_complete`). -/

theorem Valid.prefix {els : List Chain} (hv : Valid els) (c : Chain) (hc : c ∈ els) (i : Nat) (h0 : 0 < i)
    (hi : i ≤ c.length) : c.take i ∈ els := by
  have := hv.prefixClosed c hc (i - 1) (by omega)
  rwa [show i - 1 + 1 = i by omega] at this

theorem path_take (c : Chain) (i : Nat) : Chain.path (c.take i) = c.path.take i := by
  simp [Chain.path, List.map_take]

theorem mem_reps_iff {els : List Chain} (hv : Valid els) {c : Chain} (hc : c ∈ els) (i : Nat) (h0 : 0 < i)
    (hi : i ≤ c.length) : pathStr (c.path.take i) ∈ repeatXpaths els ↔ Chain.isRep (c.take i) = true := by
  have hmem := hv.prefix c hc i h0 hi
  constructor
  · intro h
    simp only [repeatXpaths, List.mem_map, List.mem_filter] at h
    obtain ⟨d, ⟨hd, hrep⟩, hx⟩ := h
    have hdne : d.path ≠ [] := by
      intro e
      rw [Chain.path, List.map_eq_nil_iff] at e
      simp [e, Chain.isRep] at hrep
    have hcne : c.path.take i ≠ [] := by
      apply take_ne_nil _ _ h0
      simp [Chain.path]; omega
    have hp : d.path = c.path.take i :=
      pathStr_inj _ _ hdne hcne (hv.good d hd) ((hv.good c hc).take i) hx
    rw [← path_take] at hp
    have := hv.uniquePath d hd _ hmem hp
    rwa [← this]
  · intro h
    simp only [repeatXpaths, List.mem_map, List.mem_filter]
    exact ⟨c.take i, ⟨hmem, h⟩, by rw [Chain.xpath, path_take]⟩

theorem hcrpRest_eq_any (seenS : List Chain) : ∀ os seenO : List Chain,
    hcrpRest os seenS seenO = os.any fun o => o.isRep && seenS.contains o
  | [], _ => rfl
  | o :: os', seenO => by
    rw [hcrpRest, List.any_cons, hcrpRest_eq_any seenS os']
    cases (o.isRep && seenS.contains o) <;> rfl

/-- The invariant of the two walks: a repeat that is still ahead on the self walk and ahead or passed on the other,
or passed on the self walk and ahead on the other, is found — the walk that reaches it second sees it among what the
other has passed. -/
theorem hcrpLoop_finds (x : Chain) (hx : x.isRep = true) : ∀ (ss os seenS seenO : List Chain),
    (x ∈ ss ∧ (x ∈ os ∨ x ∈ seenO)) ∨ (x ∈ seenS ∧ x ∈ os) → hcrpLoop ss os seenS seenO = true
  | [], os, seenS, seenO, h => by
    rw [hcrpLoop, hcrpRest_eq_any]
    rcases h with ⟨h, -⟩ | ⟨h1, h2⟩
    · cases h
    · exact List.any_eq_true.2 ⟨x, h2, by simp [hx, h1]⟩
  | s :: ss, [], seenS, seenO, h => by
    -- only the self walk is left: `x` is on it and the other walk has passed it
    obtain ⟨h1, h2⟩ : x ∈ s :: ss ∧ x ∈ seenO := by
      rcases h with ⟨h1, h2 | h2⟩ | ⟨-, h2⟩
      · cases h2
      · exact ⟨h1, h2⟩
      · cases h2
    rw [hcrpLoop]
    split
    · rfl
    · next hs =>
      rcases List.mem_cons.1 h1 with rfl | h1
      · exact absurd (by simp [hx, h2]) hs
      · exact hcrpLoop_finds x hx ss [] _ _ (.inl ⟨h1, .inr h2⟩)
  | s :: ss, o :: os, seenS, seenO, h => by
    rw [hcrpLoop]
    split
    · rfl
    · next hs =>
      split
      · rfl
      · next ho =>
        -- `x` is neither a head the other walk has seen (`hs`, `ho`); wherever else it is, the invariant holds a round later
        apply hcrpLoop_finds x hx ss os
        rcases h with ⟨h1, h2⟩ | ⟨h1, h2⟩
        · rcases List.mem_cons.1 h1 with rfl | h1
          · rcases h2 with h2 | h2
            · rcases List.mem_cons.1 h2 with rfl | h2
              · exact absurd (by simp [hx]) ho
              · exact .inr ⟨List.mem_cons_self .., h2⟩
            · exact absurd (by simp [hx, h2]) hs
          · rcases h2 with h2 | h2
            · rcases List.mem_cons.1 h2 with rfl | h2
              · exact .inl ⟨h1, .inr (List.mem_cons_self ..)⟩
              · exact .inl ⟨h1, .inl h2⟩
            · exact .inl ⟨h1, .inr (List.mem_cons_of_mem _ h2)⟩
        · rcases List.mem_cons.1 h2 with rfl | h2
          · exact absurd (by simp [hx, h1]) ho
          · exact .inr ⟨List.mem_cons_of_mem _ h1, h2⟩

/-- the two ancestor walks find every repeat on both -/
theorem hcrpLoop_complete (ss os seenS seenO : List Chain) (x : Chain) (hx : x.isRep = true)
    (h1 : x ∈ ss) (h2 : x ∈ os) : hcrpLoop ss os seenS seenO = true :=
  hcrpLoop_finds x hx ss os seenS seenO (.inl ⟨h1, .inl h2⟩)

theorem mem_ancestors (c : Chain) (r : Nat) (h0 : 0 < r) (hr : r < c.length) : c.take r ∈ ancestors c := by
  simp only [ancestors, List.mem_map, List.mem_reverse, List.mem_range]
  exact ⟨r - 1, by omega, by congr 1; omega⟩

theorem related_of_common_repeat (c t : Chain) (r : Nat) (h0 : 0 < r) (hrc : r < c.length) (hrt : r < t.length)
    (hrep : Chain.isRep (t.take r) = true) (henc : c.take r = t.take r) : related c t = true := by
  unfold related
  have h1 : t.take r ∈ ancestors c := henc ▸ mem_ancestors c r h0 hrc
  have h2 : t.take r ∈ ancestors t := mem_ancestors t r h0 hrt
  rw [hcrpLoop_complete _ _ [] [] (t.take r) hrep h1 h2]
  simp only [Bool.or_true]

theorem isParentARepeat_valid {els : List Chain} (hv : Valid els) {c : Chain} (hc : c ∈ els) (r : Nat) (h0 : 0 < r)
    (hr : r < c.length) (hrep : Chain.isRep (c.take r) = true) :
    ∃ i, r ≤ i ∧ i < c.length ∧ Chain.isRep (c.take i) = true ∧
      isParentARepeat (repeatXpaths els) (pathStr c.path) = some (pathStr (c.path.take i)) := by
  have hlen : c.path.length = c.length := by simp [Chain.path]
  have hRin := (mem_reps_iff hv hc r h0 (by omega)).2 hrep
  cases hx : isParentARepeat (repeatXpaths els) (pathStr c.path) with
  | none => exact absurd hRin (isParentARepeat_none (hv.good c hc) hx r h0 (by omega))
  | some cp =>
    obtain ⟨i, hi0, hil, rfl, hin, hall⟩ := isParentARepeat_some (hv.good c hc) hx
    exact ⟨i, Nat.le_of_not_lt fun hlt => hall r hlt (by omega) hRin, by omega,
      (mem_reps_iff hv hc i hi0 (by omega)).1 hin, rfl⟩

end Pyxv.Refs
