import Pyxv.Proofs.WarningsLemmas
import Pyxv.Proofs.Literals
import Pyxv.Model.WarningsItext
import Pyxv.Proofs.C07
/-!
# C20 — advisory warnings fire exactly when their trigger is present

Theorems about `Pyxv.Warn` (the model of the warning mechanisms) against `Pyxv.Warn.Spec` (the trigger
predicates), for all inputs.  Facts about table contents are `decide` theorems, re-checked against the
tables regenerated from the source on every run.
-/
namespace Pyxv.C20
open Pyxv Pyxv.Warn Pyxv.Warn.Spec
open scoped List

/-- The two-row programme of `utils.levenshtein_distance` computes the textbook edit distance. -/
theorem lev_correct (a b : Str) : levenshtein a b = lev a b := by
  rw [levenshtein_eq_lev_reverse, lev_reverse]

example : levenshtein "kitten".toList "sitting".toList = 3 := by decide
example : lev "abc".toList "bca".toList = 2 := by decide
example : levenshtein "Settings".toList "settings".toList = 1 := by decide

theorem lev_self (a : Str) : lev a a = 0 := by
  induction a with
  | nil => rfl
  | cons x a ih => rw [lev_cons_cons]; simp [min3, ih]

theorem supported_lower : ∀ s ∈ supported, lowerAscii s = s := by
  simp only [supported, Pyxv.Gen.supportedSheetNames, List.map_cons, List.map_nil, toList_lit rfl]
  decide +kernel
theorem supported_far : ∀ s ∈ supported, ∀ t ∈ supported, s ≠ t → 2 < levenshtein s t := by
  simp only [supported, Pyxv.Gen.supportedSheetNames, List.map_cons, List.map_nil, toList_lit rfl]
  decide +kernel
theorem settings_entities_supported : "settings".toList ∈ supported ∧ "entities".toList ∈ supported := by decide

theorem misspellCands_eq (lower : Str → Str) (sup : List Str) (key : Str) (keys : List Str) :
    misspellCands lower sup key keys = keys.filter (isMisspelling lev lower sup key) :=
  List.filter_congr fun s _ => by simp only [isMisspelling, lev_correct]

/-- Sheet `s` is named in the warning for `key` iff it is present and is a misspelling of `key` in the sense of
    the specification: within edit distance 2, not a spelling (in any letter case) of a supported sheet name, not
    underscore-prefixed. -/
theorem misspelling_iff (lower : Str → Str) (sup : List Str) (key : Str) (keys : List Str) (s : Str) :
    s ∈ misspellCands lower sup key keys ↔ s ∈ keys ∧ isMisspelling lev lower sup key s = true := by
  rw [misspellCands_eq, List.mem_filter]

/-- a case variant of a supported name is never reported (the F28 shape) -/
theorem case_variant_not_reported (key : Str) (keys : List Str) (s : Str)
    (h : lowerAscii s ∈ supported) : s ∉ misspellCands lowerAscii supported key keys := by
  rw [misspelling_iff]
  simp [isMisspelling, h]

/-- the supported sheet names are lower case, and two different ones are more than 2 edits apart (none is a candidate
    misspelling of another) -/
theorem misspelling_tables_ok :
    (∀ t ∈ supported, lowerAscii t = t) ∧
    (∀ key ∈ supported, ∀ t ∈ supported, t ≠ key → 2 < lev t key) :=
  ⟨supported_lower, fun key hk t ht hne => by rw [← lev_correct]; exact supported_far t ht key hk hne⟩

example : misspellCands lowerAscii supported "settings".toList
    ["survey".toList, "Settings".toList, "setting".toList, "_setting".toList, "choices".toList]
    = ["setting".toList] := by
  simp only [supported, Pyxv.Gen.supportedSheetNames, List.map_cons, List.map_nil, toList_lit rfl]
  decide +kernel

theorem trMissing_iff (ps : List (Str × Str)) (lang col : Str) :
    trMissing ps lang col = true ↔ (∃ c, (c, lang) ∈ ps) ∧ (∃ l, (col, l) ∈ ps) ∧ (col, lang) ∉ ps := by
  simp only [trMissing, Bool.and_eq_true, List.any_eq_true, decide_eq_true_eq, Bool.not_eq_true',
    List.contains_eq_mem, decide_eq_false_iff_not, and_assoc]
  constructor
  · rintro ⟨⟨p, hp, rfl⟩, ⟨q, hq, rfl⟩, hn⟩
    exact ⟨⟨p.1, hp⟩, ⟨q.2, hq⟩, hn⟩
  · rintro ⟨⟨c, hc⟩, ⟨l, hl⟩, hn⟩
    exact ⟨⟨(c, lang), hc, rfl⟩, ⟨(col, l), hl, rfl⟩, hn⟩

/-- On a sheet whose translatable headers are `col` or `col::lang` (guard `trShort`), language `lang` is reported as
    missing column `col` iff — module docstring of `translations_checks.Translations` — `lang` is used by some
    translatable column, `col` in some language, and there is no `col` in `lang` ("default" being the unspecified language). -/
theorem missing_translation_iff (tbl : Aliases) (hs : List (List Str)) (hsh : trShort tbl hs = true)
    (lang col : Str) :
    (∃ cols, (lang, cols) ∈ findMissing (findTranslations tbl hs) ∧ col ∈ cols) ↔
      trMissing (trPairs tbl hs) lang col = true := by
  have inv := findTranslations_inv tbl hs hsh
  generalize findTranslations tbl hs = t at inv
  generalize trPairs tbl hs = ps at inv
  rw [trMissing_iff]
  unfold findMissing
  by_cases hdo : seenDefaultOnly t = true
  · simp only [hdo, if_true, List.not_mem_nil, false_and, exists_false, false_iff]
    rintro ⟨⟨c, hc⟩, ⟨l, hl⟩, hn⟩
    -- nothing is translated: every language in the pairs is `default`
    have hall : ∀ p ∈ ps, p.2 = defaultLang := by
      have := seenDefaultOnly_iff t ps inv
      rw [hdo] at this
      simpa [translated] using this
    have : l = lang := (hall _ hl).trans (hall _ hc).symm
    exact hn (this ▸ hl)
  · simp only [hdo, if_false, Bool.false_eq_true]
    constructor
    · rintro ⟨cols, hmem, hcol⟩
      rw [List.mem_filterMap] at hmem
      obtain ⟨e, he, hval⟩ := hmem
      split at hval
      · cases hval
      · rename_i m hm
        simp only [Option.some.injEq, Prod.mk.injEq] at hval
        obtain ⟨rfl, rfl⟩ := hval
        have : col ∈ t.cols ∧ col ∉ e.2 := by simpa [List.mem_filter] using hcol
        refine ⟨?_, (inv.cols col).mp this.1, ?_⟩
        · exact (inv.keys e.1).mp (List.mem_map_of_mem he)
        · intro h; exact this.2 ((inv.seen e.1 e.2 (AList.get_of_mem inv.langsNodup he) col).mpr h)
    · rintro ⟨hc, hl, hn⟩
      obtain ⟨e, he, rfl⟩ := List.mem_map.1 ((inv.keys lang).mpr hc)
      have hin : col ∈ t.cols.filter (fun c => !e.2.contains c) := by
        simp only [List.mem_filter, Bool.not_eq_true', List.contains_eq_mem, decide_eq_false_iff_not]
        exact ⟨(inv.cols col).mpr hl, fun h => hn ((inv.seen e.1 e.2 (AList.get_of_mem inv.langsNodup he) col).mp h)⟩
      refine ⟨t.cols.filter (fun c => !e.2.contains c), ?_, hin⟩
      rw [List.mem_filterMap]
      refine ⟨e, he, ?_⟩
      split
      · rename_i heq; rw [heq] at hin; cases hin
      · rfl

example : findMissing (findTranslations surveyTrTable
    [["type".toList], ["label".toList], ["hint".toList, "fr".toList], ["media".toList, "image".toList, "fr".toList]])
    = [(defaultLang, ["hint".toList, "image".toList]), ("fr".toList, ["label".toList])] := by decide
example : trShort surveyTrTable
    [["type".toList], ["label".toList], ["hint".toList, "fr".toList], ["media".toList, "image".toList, "fr".toList]] = true := by decide

theorem badTag_eq_ianaDue (isTag : Str → Bool) (l : Str) (hlen : 3 ≤ l.length) : badTag isTag l = ianaDue isTag l := by
  have h3 : ¬ l.length < 3 := by omega
  simp only [badTag, ianaDue, hasValidCode, h3, decide_false, Bool.or_false]
  by_cases hd : l = defaultLang
  · simp [hd]
  · cases langCode l <;> simp [hd]

/-- A language of at least 3 characters is listed iff it is due (not `default`, no valid
    `(code)`); subtag membership is a parameter. -/
theorem iana_iff (isTag : Str → Bool) (langs : List Str) (l : Str) (hlen : 3 ≤ l.length) :
    l ∈ languagesWithBadTags isTag langs ↔ l ∈ langs ∧ ianaDue isTag l = true := by
  simp only [languagesWithBadTags, List.mem_filter, badTag_eq_ianaDue isTag l hlen]

/-- F39: shorter labels are never listed, whatever they are. -/
theorem iana_short_never (isTag : Str → Bool) (langs : List Str) (l : Str) (hlen : l.length < 3) :
    l ∉ languagesWithBadTags isTag langs := by
  simp [languagesWithBadTags, List.mem_filter, badTag, hlen]

example : languagesWithBadTags (fun c => c = "en".toList)
    ["English (en)".toList, "French".toList, "Bosnian (bos)".toList, "fr".toList, "default".toList]
    = ["French".toList, "Bosnian (bos)".toList] := by decide
example : ianaDue (fun c => c = "en".toList) "fr".toList = true := by decide

/-- After a successful row loop a warning is in the list iff it is in the list passed in or is due for some row
    (numbered from `n`). -/
theorem row_warning_iff (rows : List PRow) (n : Nat) (st st' : St) (h : rowLoop n rows st = .ok st') (w : W) :
    w ∈ st'.warnings ↔ w ∈ st.warnings ∨ ∃ i r, rows[i]? = some r ∧ w ∈ rowDue (n + i) r := by
  rw [(rowLoop_ok rows n st st' h).1, List.mem_append, mem_rowsDue]

theorem or_other_flag (rows : List PRow) (n : Nat) (st st' : St) (h : rowLoop n rows st = .ok st') :
    st'.orOther = (st.orOther || rows.any orOtherRow) := (rowLoop_ok rows n st st' h).2

theorem mem_rowDue (w : W) (n : Nat) (r : PRow) :
    w ∈ rowDue n r ↔
      (keyIn r "disabled" = true ∧ w = .disabled n) ∨ (skippedTrig r = true ∧ w = .skipped n) ∨
      (∃ t, rowType r = some t ∧ deprecatedTrig r t = true ∧ w = .deprecated n t) ∨
      (∃ t ct, rowType r = some t ∧ Rows.matchControl "begin" true t = some ct ∧ noLabelTrig r ct = true ∧
        w = .noLabel n ct) ∨
      (extNoFilterTrig r = true ∧ w = .extNoFilter n) ∨ (noMaxPixelsTrig r = true ∧ w = .noMaxPixels n) := by
  unfold rowDue
  cases rowType r with
  | none => simp
  | some t =>
    dsimp only
    cases hb : Rows.matchControl "begin" true t <;> simp [hb]

theorem disabled_iff (n m : Nat) (r : PRow) : W.disabled m ∈ rowDue n r ↔ m = n ∧ disabledTrig r = true := by
  simp [mem_rowDue, disabledTrig, and_comm]

theorem skipped_iff (n m : Nat) (r : PRow) : W.skipped m ∈ rowDue n r ↔ m = n ∧ skippedTrig r = true := by
  simp [mem_rowDue, and_comm]

theorem deprecated_iff (n m : Nat) (r : PRow) (t : Str) :
    W.deprecated m t ∈ rowDue n r ↔ m = n ∧ deprecatedTrig r t = true := by
  simp only [mem_rowDue, reduceCtorEq, and_false, false_or, or_false, exists_false, W.deprecated.injEq]
  constructor
  · rintro ⟨_, _, h, hm, rfl⟩; exact ⟨hm, h⟩
  · rintro ⟨hm, h⟩
    -- the trigger itself says which type the row has
    have hty : rowType r = some t := by
      simp only [deprecatedTrig, Bool.and_eq_true, decide_eq_true_eq] at h
      exact h.1.1.2
    exact ⟨t, hty, h, hm, rfl⟩

theorem no_label_iff (n m : Nat) (r : PRow) (ct : Str) :
    W.noLabel m ct ∈ rowDue n r ↔ m = n ∧ noLabelTrig r ct = true := by
  simp only [mem_rowDue, reduceCtorEq, and_false, false_or, or_false, exists_false, W.noLabel.injEq]
  constructor
  · rintro ⟨_, _, _, _, h, hm, rfl⟩; exact ⟨hm, h⟩
  · rintro ⟨hm, h⟩
    have h' := h
    simp only [noLabelTrig, Bool.and_eq_true] at h'
    cases hty : rowType r with
    | none => simp [hty] at h'
    | some t =>
      simp only [hty, Bool.and_eq_true, decide_eq_true_eq] at h'
      exact ⟨t, ct, rfl, h'.1.2.2, h, hm, rfl⟩

theorem ext_no_filter_iff (n m : Nat) (r : PRow) :
    W.extNoFilter m ∈ rowDue n r ↔ m = n ∧ extNoFilterTrig r = true := by
  simp [mem_rowDue, and_comm]

theorem no_max_pixels_iff (n m : Nat) (r : PRow) :
    W.noMaxPixels m ∈ rowDue n r ↔ m = n ∧ noMaxPixelsTrig r = true := by
  simp [mem_rowDue, and_comm]

example : (rowOut 3 [(["type".toList], "image".toList), (["name".toList], "p".toList)]).toOption.map (·.ws)
    = some [W.noMaxPixels 3] := by decide +kernel
example : (rowOut 4 [(["type".toList], "begin group".toList), (["name".toList], "g".toList),
      (["disabled".toList], "no".toList)]).toOption.map (·.ws)
    = some [W.disabled 4, W.noLabel 4 "group".toList] := by decide +kernel
example : noMaxPixelsTrig [(["type".toList], "image".toList), (["name".toList], "p".toList)] = true := by decide +kernel

/-- When the choices sheet is accepted, the warnings of `validate_choice_list` are: a `[row : n]` warning for every
    numbered choice row that has a list name and no label (as sets; each exactly once: `choice_no_label_perm`). -/
theorem choice_no_label_iff (rows : List (Nat × PRow)) (ws : List W)
    (h : choicesWarnings (groupChoices rows) = .ok ws) (w : W) : w ∈ ws ↔ w ∈ choiceDue rows :=
  (choice_no_label_perm rows ws h).mem_iff

example : (choicesWarnings (groupChoices (numberFrom 2
    [[(["list name".toList], "l".toList), (["name".toList], "a".toList), (["label".toList], "A".toList)],
     [(["list name".toList], "m".toList), (["name".toList], "x".toList)],
     [(["list name".toList], "l".toList), (["name".toList], "a".toList)]]))).toOption
    = some [W.choiceNoLabel 4, W.choiceNoLabel 3] := by decide +kernel

/-- `or_other_check` emits its warning iff some select row is spelled with or_other (`flag`) and some translatable
    column on either sheet carries a language. -/
theorem or_other_iff (svh chh : List (List Str)) (hsv : trShort surveyTrTable svh = true)
    (hch : trShort choicesTrTable chh = true) (flag : Bool) :
    orOtherCheck flag (findTranslations surveyTrTable svh) (findTranslations choicesTrTable chh) =
      if flag && (translated (trPairs surveyTrTable svh) || translated (trPairs choicesTrTable chh))
      then [W.orOther] else [] := by
  unfold orOtherCheck
  rw [seenDefaultOnly_iff _ _ (findTranslations_inv _ _ hsv), seenDefaultOnly_iff _ _ (findTranslations_inv _ _ hch)]
  simp

example : orOtherCheck true (findTranslations surveyTrTable [["label".toList, "fr".toList]])
    (findTranslations choicesTrTable [["label".toList]]) = [W.orOther] := by decide +kernel

/-- The conversion result does not depend on the warnings list passed in, and that list is
    only appended to. -/
theorem warnings_advisory (lower : Str → Str) (wb : WB) (v : View) (w0 : List W) :
    convertOn lower wb v w0 = (convertOn lower wb v []).map (fun p => (p.1, w0 ++ p.2)) := by
  rw [convertOn_eq, convertOn_eq lower wb v []]
  cases choicesWarnings (groupChoices (numberFrom 2 v.chRows)) with
  | error e => rfl
  | ok chW =>
    simp only [List.nil_append]
    have h := rowLoop_frame w0 v.svRows 2 { warnings := preRows lower wb v chW }
    simp only at h
    rw [h]
    cases rowLoop 2 v.svRows { warnings := preRows lower wb v chW } with
    | error e => rfl
    | ok st => simp [Except.map, List.append_assoc]

example : (convertOn lowerAscii
    { sheetNames := ["survey".toList, "setting".toList], surveyHeader := [], survey := [], choicesHeader := [], choices := [],
      settingsHeader := [], settingsRows := 0, hasEntities := false }
    { chHeaders := [], chRows := [], svHeaders := [["type".toList], ["name".toList]],
      svRows := [[(["type".toList], "simserial".toList), (["name".toList], "s".toList)]] } [W.orOther]).toOption.map (·.2)
    = some [W.orOther, W.misspell "settings".toList ["setting".toList], W.deprecated 2 "simserial".toList] := by decide +kernel

theorem misspell_eq (lower : Str → Str) (key : String) (names : List Str) :
    misspellW lower key names = misspellDue lev lower key names := by
  unfold misspellW findSheetMisspellings misspellDue
  rw [misspellCands_eq]
  cases names.filter (isMisspelling lev lower supported key.toList) <;> rfl

theorem mem_missingToW (sheet : String) (m : List (Str × List Str)) (w : W) :
    w ∈ missingToW sheet m ↔ ∃ l c, w = W.missingTr sheet.toList l c ∧ ∃ cols, (l, cols) ∈ m ∧ c ∈ cols := by
  simp only [missingToW, List.mem_flatMap, List.mem_map]
  constructor
  · rintro ⟨e, he, c, hc, rfl⟩; exact ⟨e.1, c, rfl, e.2, he, hc⟩
  · rintro ⟨l, c, rfl, cols, he, hc⟩; exact ⟨(l, cols), he, c, hc, rfl⟩

theorem mem_missingDue (sheet : String) (ps : List (Str × Str)) (w : W) :
    w ∈ missingDue sheet ps ↔ ∃ l c, w = W.missingTr sheet.toList l c ∧ trMissing ps l c = true := by
  simp only [missingDue, List.mem_flatMap, List.mem_map, List.mem_filter, mem_dedup]
  constructor
  · rintro ⟨l, _, c, ⟨_, h⟩, rfl⟩; exact ⟨l, c, rfl, h⟩
  · rintro ⟨l, c, rfl, h⟩
    obtain ⟨⟨c', hc'⟩, ⟨l', hl'⟩, _⟩ := (trMissing_iff ps l c).1 h
    exact ⟨l, ⟨(c', l), hc', rfl⟩, c, ⟨⟨(c, l'), hl', rfl⟩, h⟩, rfl⟩

example : (convertOn lowerAscii
    { sheetNames := ["survey".toList, "setting".toList], surveyHeader := [], survey := [], choicesHeader := [], choices := [],
      settingsHeader := [], settingsRows := 0, hasEntities := false }
    { chHeaders := [], chRows := [], svHeaders := [["type".toList], ["name".toList]],
      svRows := [[(["type".toList], "simserial".toList), (["name".toList], "s".toList)]] } []).toOption.map (·.2)
    = some [W.misspell "settings".toList ["setting".toList], W.deprecated 2 "simserial".toList] := by decide +kernel

theorem missing_perm (sheet : String) (tbl : Aliases) (hs : List (List Str)) (hsh : trShort tbl hs = true) :
    missingToW sheet (findMissing (findTranslations tbl hs)) ~ missingDue sheet (trPairs tbl hs) :=
  (List.perm_ext_iff_of_nodup
    (nodup_missingToW sheet _ (findTranslations_inv tbl hs hsh).langsNodup (findTranslations_inv tbl hs hsh).colsNodup)
    (nodup_missingDue sheet _)).mpr fun w => by
      simp only [mem_missingToW, mem_missingDue, missing_translation_iff tbl hs hsh]

/-- Whenever the model converts a workbook whose translatable headers are `col` / `col::lang` on both sheets, the
    warnings it emits are a permutation of those due by the specification: same warnings, same number of times each. -/
theorem model_meets_spec_perm (lower : Str → Str) (wb : WB) (v : View) (res : Res) (ws : List W)
    (hsv : trShort surveyTrTable v.svHeaders = true) (hch : trShort choicesTrTable v.chHeaders = true)
    (h : convertOn lower wb v [] = .ok (res, ws)) : ws ~ dueOn lev lower wb v := by
  rw [convertOn_eq] at h
  cases hcw : choicesWarnings (groupChoices (numberFrom 2 v.chRows)) with
  | error e => simp [hcw] at h
  | ok chW =>
    simp only [hcw, List.nil_append] at h
    cases hrl : rowLoop 2 v.svRows { warnings := preRows lower wb v chW } with
    | error e => simp [hrl] at h
    | ok st =>
      simp only [hrl, Except.ok.injEq, Prod.mk.injEq] at h
      obtain ⟨_, rfl⟩ := h
      obtain ⟨hw, ho⟩ := rowLoop_ok _ _ _ _ hrl
      simp only [Bool.false_or] at ho
      rw [hw, ho, or_other_iff _ _ hsv hch]
      have hchoice := choice_no_label_perm (numberFrom 2 v.chRows) chW hcw
      -- both lists are settings ++ choices ++ entities ++ missing (survey) ++ missing (choices) ++ rows ++ or_other; the
      -- order differs only inside the choices part and the two missing-translation parts
      unfold preRows dueOn missingCheck
      rw [misspell_eq, misspell_eq]
      refine List.Perm.append_right _ (List.Perm.append_right _ ?_)
      rw [← List.append_assoc]
      refine List.Perm.append (List.Perm.append (List.Perm.append_right _ (List.Perm.append_left _ ?_))
        (missing_perm "survey" _ _ hsv)) (missing_perm "choices" _ _ hch)
      cases hce : wb.choices.isEmpty with
      | true => simp
      | false =>
        simp only [Bool.false_eq_true, if_false]
        exact List.Perm.append_left _ hchoice

/-- the same for any way of computing the view (`view`, and `view2` of the extended fragment) -/
theorem via_view_perm (lower : Str → Str) (wb : WB) (x : Except Stop View) (res : Res) (ws : List W)
    (h : (match x with | .error e => Except.error e | .ok v => convertOn lower wb v []) = .ok (res, ws)) :
    ∃ v, x = .ok v ∧ (trShort surveyTrTable v.svHeaders = true → trShort choicesTrTable v.chHeaders = true →
      ws ~ dueOn lev lower wb v) := by
  cases x with
  | error e => cases h
  | ok v => exact ⟨v, rfl, fun hsv hch => model_meets_spec_perm lower wb v res ws hsv hch h⟩

/-- the same at the level of `workbook_to_json` -/
theorem workbook_meets_spec_perm (lower : Str → Str) (wb : WB) (res : Res) (ws : List W)
    (h : workbookToJson lower wb [] = .ok (res, ws)) :
    ∃ v, view wb = .ok v ∧ workbookDue lev lower wb = .ok (dueOn lev lower wb v) ∧
      (trShort surveyTrTable v.svHeaders = true → trShort choicesTrTable v.chHeaders = true →
        ws ~ dueOn lev lower wb v) := by
  obtain ⟨v, hv, hp⟩ := via_view_perm lower wb (view wb) res ws h
  exact ⟨v, hv, by simp [workbookDue, hv], hp⟩

/-- the same as sets: the warnings emitted are — every kind and subject — exactly those due by the trigger predicates
    of the specification. -/
theorem model_meets_spec (lower : Str → Str) (wb : WB) (v : View) (res : Res) (ws : List W)
    (hsv : trShort surveyTrTable v.svHeaders = true) (hch : trShort choicesTrTable v.chHeaders = true)
    (h : convertOn lower wb v [] = .ok (res, ws)) (w : W) :
    w ∈ ws ↔ w ∈ dueOn lev lower wb v :=
  (model_meets_spec_perm lower wb v res ws hsv hch h).mem_iff

/-- the same at the level of `workbook_to_json` -/
theorem workbook_meets_spec (lower : Str → Str) (wb : WB) (res : Res) (ws : List W)
    (h : workbookToJson lower wb [] = .ok (res, ws)) :
    ∃ v, view wb = .ok v ∧ workbookDue lev lower wb = .ok (dueOn lev lower wb v) ∧
      (trShort surveyTrTable v.svHeaders = true → trShort choicesTrTable v.chHeaders = true →
        ∀ w, w ∈ ws ↔ w ∈ dueOn lev lower wb v) := by
  obtain ⟨v, hv, hd, hp⟩ := workbook_meets_spec_perm lower wb res ws h
  exact ⟨v, hv, hd, fun hsv hch _ => (hp hsv hch).mem_iff⟩

theorem ianaWarning_names (isTag : Str → Bool) (langs : List Str) (l : Str) :
    (∃ bad, W.iana bad ∈ ianaWarning isTag langs ∧ l ∈ bad) ↔ l ∈ languagesWithBadTags isTag langs := by
  unfold ianaWarning
  cases languagesWithBadTags isTag langs <;> simp

/-- For a built survey inside the itext model's fragment, a language of ≥ 3 characters is
    named in the IANA warning iff it is the language of one of the `<translation>` blocks the itext model (C07)
    generates, is not `default`, and carries no registered `(code)`. -/
theorem iana_survey_iff (isTag : Str → Bool) (x : Itext.Survey) (o : Itext.Out) (h : Itext.run x = .ok o)
    (l : Str) (hlen : 3 ≤ l.length) :
    (∃ bad, W.iana bad ∈ ianaOfSurvey isTag x ∧ l ∈ bad) ↔
      (∃ t ∈ o.translations, t.lang = l) ∧ ianaDue isTag l = true := by
  have hl : surveyLanguages x = some (o.translations.map (·.lang)) := by simp [surveyLanguages, h]
  simp only [ianaOfSurvey, hl]
  rw [ianaWarning_names, iana_iff isTag _ l hlen, List.mem_map]

/-- non-vacuity: C07's example survey with a second choice labelled in "French" — inside the itext model's fragment,
    the uncoded language is reported -/
example : (match Itext.run (Pyxv.C07.ex1 (Pyxv.C07.tr [("French", "B")])) with | .ok _ => true | _ => false) = true ∧
    ianaOfSurvey (fun c => c = "en".toList) (Pyxv.C07.ex1 (Pyxv.C07.tr [("French", "B")])) = [W.iana ["French".toList]] := by
  decide +kernel

/-- when every form language has at least 3 characters (the complement of open finding F39) the IANA warning of the
    model is literally the one due -/
theorem iana_survey_eq (isTag : Str → Bool) (x : Itext.Survey)
    (hlen : ∀ langs, surveyLanguages x = some langs → ∀ l ∈ langs, 3 ≤ l.length) :
    ianaOfSurvey isTag x = Spec.ianaDueOfSurvey isTag x := by
  unfold ianaOfSurvey Spec.ianaDueOfSurvey
  cases hl : surveyLanguages x with
  | none => rfl
  | some langs =>
    have : languagesWithBadTags isTag langs = langs.filter (ianaDue isTag) :=
      List.filter_congr fun l hmem => badTag_eq_ianaDue isTag l (hlen langs hl l hmem)
    simp only [ianaWarning, Spec.ianaDueW, this]

/-- The oracle's statement: workbook warnings followed by the IANA warning of the built survey are a
    permutation of everything due, for every workbook the model converts whose
    translatable headers are `col` / `col::lang` and whose form languages have at least 3 characters. -/
theorem all_warnings_perm (lower : Str → Str) (isTag : Str → Bool) (wb : WB) (v : View) (x : Itext.Survey)
    (res : Res) (ws : List W)
    (hsv : trShort surveyTrTable v.svHeaders = true) (hch : trShort choicesTrTable v.chHeaders = true)
    (hlen : ∀ langs, surveyLanguages x = some langs → ∀ l ∈ langs, 3 ≤ l.length)
    (h : convertOn lower wb v [] = .ok (res, ws)) :
    ws ++ ianaOfSurvey isTag x ~ dueOn lev lower wb v ++ Spec.ianaDueOfSurvey isTag x := by
  rw [iana_survey_eq isTag x hlen]
  exact List.Perm.append_right _ (model_meets_spec_perm lower wb v res ws hsv hch h)

/-- non-vacuity: a survey whose languages are `French` and `English (en)` meets the length hypothesis; C07's `ex1`
    (languages `en`, `fr`, `es`) does not — there model and specification differ, which is open finding F39 -/
def exLangs : Itext.Survey :=
  { defaultLanguage := "default".toList
    lists := []
    root := .node (Pyxv.C07.q .group "data" .none .none .none) [
      .node (Pyxv.C07.q .control "a" (Pyxv.C07.tr [("French", "A"), ("English (en)", "B")]) .none .none) []] }

example : surveyLanguages exLangs = some ["French".toList, "English (en)".toList] ∧
    ianaOfSurvey (fun c => c = "en".toList) exLangs = [W.iana ["French".toList]] ∧
    ianaOfSurvey (fun c => c = "en".toList) exLangs = Spec.ianaDueOfSurvey (fun c => c = "en".toList) exLangs ∧
    ianaOfSurvey (fun c => c = "en".toList) (Pyxv.C07.ex1 (Pyxv.C07.tr [("French", "B")]))
      ≠ Spec.ianaDueOfSurvey (fun c => c = "en".toList) (Pyxv.C07.ex1 (Pyxv.C07.tr [("French", "B")])) := by
  decide +kernel

/-! ## the tables the triggers are read from are the documented sets -/

/-- the implementation's subtag reader (`read_tags`) agrees with a plain reading of the two IANA files (split on
    newlines, strip) at the table boundaries — first / last / shortest / longest entries and their near misses — and
    on the number of entries (table regenerated from the files and the reader of the source). -/
theorem iana_reader_agrees : ∀ e ∈ Pyxv.Gen.ianaBoundary, e.2.2.1 = e.2.2.2 := by decide +kernel
example : 20 ≤ Pyxv.Gen.ianaBoundary.length ∧ (Pyxv.Gen.ianaBoundary.any fun e => e.2.2.1) = true ∧
    (Pyxv.Gen.ianaBoundary.any fun e => !e.2.2.1) = true := by decide +kernel

theorem deprecated_pinned : deprecatedTypes = documentedDeprecated := deprecatedTypes_eq
theorem translatable_pinned :
    surveyTrTable.map (·.1) = ["label", "hint", "guidance_hint", "image", "big-image", "audio", "video",
      "jr:constraintMsg", "jr:requiredMsg"].map String.toList ∧
    choicesTrTable.map (·.1) = ["label", "image", "big-image", "audio", "video"].map String.toList := by
  simp only [surveyTrTable, choicesTrTable, gAliases, Pyxv.Gen.translatableSurveyColumns, Pyxv.Gen.translatableChoicesColumns,
    List.map_cons, List.map_nil, toList_lit rfl]
  decide +kernel
theorem default_language_pinned : defaultLang = "default".toList := by decide

end Pyxv.C20
