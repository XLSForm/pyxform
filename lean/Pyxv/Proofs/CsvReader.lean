import Pyxv.Model.Backends
import Pyxv.Model.Choices
/-!
# `csv.reader` and the `QUOTE_ALL` writer, modelled in `Pyxv.Choices` (C09) and in `Pyxv.Backends` (C12)

The reader of `Pyxv.Choices` inverts the writer (a fold over the text, one cell / row at a time); the two models of the
reader are one function (`parseCsv_eq_csvRead`, a simulation) and so are the two writers, which gives C12's round trip.
-/
namespace Pyxv.Choices
open Pyxv

theorem fold_quoted (cell : Str) : ∀ (fld : Str) (row : List Str) (acc : List (List Str)) (rest : Str),
    (escQ cell ++ rest).foldl stepCsv ⟨.inQuoted, fld, row, acc⟩ =
    rest.foldl stepCsv ⟨.inQuoted, fld ++ cell, row, acc⟩ := by
  induction cell with
  | nil => intro fld row acc rest; simp [escQ]
  | cons c cs ih =>
    intro fld row acc rest
    by_cases h : c = '"'
    · subst h
      simp only [escQ, if_true, List.cons_append, List.foldl_cons]
      have : stepCsv (stepCsv ⟨.inQuoted, fld, row, acc⟩ '"') '"' = ⟨.inQuoted, fld ++ ['"'], row, acc⟩ := by
        simp [stepCsv, PS.addChar]
      rw [this, ih]; simp
    · simp only [escQ, h, if_false, List.cons_append, List.foldl_cons]
      have : stepCsv ⟨.inQuoted, fld, row, acc⟩ c = ⟨.inQuoted, fld ++ [c], row, acc⟩ := by
        simp [stepCsv, PS.addChar, h]
      rw [this, ih]; simp

/-- a quoted cell read from a state in which `"` opens a quoted field -/
theorem fold_cell (st : CsvSt) (cell : Str) (row : List Str) (acc : List (List Str)) (rest : Str)
    (h1 : stepCsv ⟨st, [], row, acc⟩ '"' = ⟨.inQuoted, [], row, acc⟩) :
    (csvCell cell ++ rest).foldl stepCsv ⟨st, [], row, acc⟩ =
    rest.foldl stepCsv ⟨.quoteInQuoted, cell, row, acc⟩ := by
  simp only [csvCell, List.cons_append, List.foldl_cons, h1, List.append_assoc]
  rw [fold_quoted]
  simp [stepCsv]

/-- the text of a row after its first cell -/
def rowTail : List Str → Str
  | [] => ['\r', '\n']
  | d :: ds => ',' :: (csvCell d ++ rowTail ds)

theorem csvRow_cons (c : Str) (cs : List Str) : csvRow (c :: cs) = csvCell c ++ rowTail cs := by
  induction cs generalizing c with
  | nil => simp [csvRow, joinWith, rowTail]
  | cons d ds ih =>
    have := ih d
    simp only [csvRow, List.map_cons, joinWith, rowTail] at this ⊢
    simp at this ⊢
    simp [this]

theorem fold_rowTail (cs : List Str) : ∀ (cell : Str) (row : List Str) (acc : List (List Str)) (rest : Str),
    (rowTail cs ++ rest).foldl stepCsv ⟨.quoteInQuoted, cell, row, acc⟩ =
    rest.foldl stepCsv ⟨.startRecord, [], [], acc ++ [row ++ cell :: cs]⟩ := by
  induction cs with
  | nil =>
    intro cell row acc rest
    simp [rowTail, stepCsv, PS.saveField, PS.emit]
  | cons d ds ih =>
    intro cell row acc rest
    have h1 : stepCsv ⟨.quoteInQuoted, cell, row, acc⟩ ',' = ⟨.startField, [], row ++ [cell], acc⟩ := by
      simp [stepCsv, PS.saveField]
    simp only [rowTail, List.cons_append, List.foldl_cons, h1, List.append_assoc]
    rw [fold_cell _ _ _ _ _ (by simp [stepCsv, stepField]), ih]
    simp

theorem fold_row (cells : List Str) (acc : List (List Str)) (rest : Str) :
    (csvRow cells ++ rest).foldl stepCsv ⟨.startRecord, [], [], acc⟩ =
    rest.foldl stepCsv ⟨.startRecord, [], [], acc ++ [cells]⟩ := by
  cases cells with
  | nil => simp [csvRow, joinWith, stepCsv, stepRecord, PS.emit]
  | cons c cs =>
    rw [csvRow_cons, List.append_assoc, fold_cell _ _ _ _ _ (by simp [stepCsv, stepRecord, stepField]), fold_rowTail]
    simp

theorem fold_text (rows : List (List Str)) : ∀ (acc : List (List Str)) (rest : Str),
    (csvText rows ++ rest).foldl stepCsv ⟨.startRecord, [], [], acc⟩ =
    rest.foldl stepCsv ⟨.startRecord, [], [], acc ++ rows⟩ := by
  induction rows with
  | nil => intro acc rest; simp [csvText]
  | cons r rs ih =>
    intro acc rest
    have : csvText (r :: rs) = csvRow r ++ csvText rs := by simp [csvText]
    rw [this, List.append_assoc, fold_row, ih]
    simp

theorem parse_csvText (rows : List (List Str)) : parseCsv (csvText rows) = rows := by
  have := fold_text rows [] []
  simp only [List.append_nil, List.nil_append, List.foldl_nil] at this
  simp [parseCsv, initPS, this, finishCsv]

end Pyxv.Choices

namespace Pyxv.Backends.Csv
open Pyxv Pyxv.Backends

/-- the line-iterator machine (`Backends`) and the character machine (`Choices`) in step: after a `\r` the first
    has not yet emitted the record, the second has -/
def Sim (s : CsvSt) (p : Choices.PS) : Prop :=
  match s.mode, s.pendingCR with
  | .startRecord, false => s.fld = [] ∧ s.flds = [] ∧ p = ⟨.startRecord, [], [], s.out⟩
  | .eatCrnl, true => s.fld = [] ∧ p = ⟨.afterCr, [], [], s.out ++ [s.flds]⟩
  | .startField, false => s.fld = [] ∧ p = ⟨.startField, [], s.flds, s.out⟩
  | .inField, false => p = ⟨.inField, s.fld, s.flds, s.out⟩
  | .inQuoted, _ => p = ⟨.inQuoted, s.fld, s.flds, s.out⟩
  | .quoteInQuoted, false => p = ⟨.quoteInQuoted, s.fld, s.flds, s.out⟩
  | _, _ => False

theorem sim_step (s : CsvSt) (p : Choices.PS) (c : Char) (h : Sim s p) : Sim (feed s c) (Choices.stepCsv p c) := by
  obtain ⟨mode, pend, fld, flds, out⟩ := s
  have hc : c = '\r' ∨ c = '\n' ∨ c = '"' ∨ c = ',' ∨ (c ≠ '\r' ∧ c ≠ '\n' ∧ c ≠ '"' ∧ c ≠ ',') := by
    by_cases h1 : c = '\r' <;> by_cases h2 : c = '\n' <;> by_cases h3 : c = '"' <;> by_cases h4 : c = ',' <;> simp [*]
  -- five kinds of character, the seven modes with the pending-CR flag: each case is one evaluation of both machines
  rcases hc with rfl | rfl | rfl | rfl | ⟨h1, h2, h3, h4⟩ <;> cases mode <;> cases pend <;>
    simp_all [Sim, feed, feed1, stepChar, stepField, stepEol, emit, saveField, isNl,
      Choices.stepCsv, Choices.stepRecord, Choices.stepField, Choices.PS.emit, Choices.PS.saveField, Choices.PS.addChar]

theorem sim_fold (t : Str) : ∀ (s : CsvSt) (p : Choices.PS), Sim s p → Sim (t.foldl feed s) (t.foldl Choices.stepCsv p) := by
  induction t with
  | nil => exact fun _ _ h => h
  | cons c t ih => exact fun s p h => ih _ _ (sim_step s p c h)

theorem sim_finish (s : CsvSt) (p : Choices.PS) (h : Sim s p) : csvFinish s = Choices.finishCsv p := by
  obtain ⟨mode, pend, fld, flds, out⟩ := s
  cases mode <;> cases pend <;> simp_all [Sim, csvFinish, stepEol, emit, saveField, Choices.finishCsv]

theorem parseCsv_eq_csvRead (t : Str) : Choices.parseCsv t = csvRead t :=
  (sim_finish _ _ (sim_fold t csvInit Choices.initPS ⟨rfl, rfl, rfl⟩)).symm

theorem escQ_eq (s : Str) : Choices.escQ s = s.flatMap fun c => if c = '"' then ['"', '"'] else [c] := by
  induction s with
  | nil => rfl
  | cons c cs ih => by_cases h : c = '"' <;> simp [Choices.escQ, h, ih]

theorem csvText_eq_csvWrite (rows : List (List Str)) : Choices.csvText rows = csvWrite rows := by
  have hc : ∀ s, Choices.csvCell s = csvQuote s := fun s => by simp [Choices.csvCell, csvQuote, escQ_eq]
  have hr : ∀ r, Choices.csvRow r = csvRecord r := fun r => by simp only [Choices.csvRow, csvRecord, funext hc]
  simp only [Choices.csvText, csvWrite, funext hr]

/-- `csv.reader` inverts the `QUOTE_ALL` writer on all data. -/
theorem csvRead_write (rows : List (List Str)) : csvRead (csvWrite rows) = rows := by
  rw [← parseCsv_eq_csvRead, ← csvText_eq_csvWrite, Choices.parse_csvText]

end Pyxv.Backends.Csv
