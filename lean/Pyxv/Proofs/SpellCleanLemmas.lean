import Pyxv.Model.Spell
import Pyxv.Proofs.BaseLemmas
/-! Lemmas about `strip`, `collapse`, `unsmart` (cell cleaning). -/
namespace Pyxv.Spell
open Pyxv

abbrev sp (c : Char) : Bool := pyIsSpace c

theorem rstrip_nil : rstrip [] = [] := rfl
theorem lstrip_nil : lstrip [] = [] := rfl

/-- **outer whitespace is absorbed** -/
theorem strip_pad (pre x post : Str) (h1 : ∀ c ∈ pre, sp c = true) (h2 : ∀ c ∈ post, sp c = true) :
    strip (pre ++ x ++ post) = strip x :=
  _root_.Pyxv.strip_pad pre x post h1 h2

theorem collapse_cons (c : Char) (r : Str) :
    collapse (c :: r) = if c = ' ' ∧ r.head? = some ' ' then collapse r else c :: collapse r := by
  rw [collapse]

theorem collapse_head (x : Str) : (collapse x).head? = x.head? := by
  induction x with
  | nil => rfl
  | cons c r ih =>
    rw [collapse_cons]
    split
    · rename_i hc; rw [ih, hc.2, hc.1]; rfl
    · rfl

theorem collapse_ne_nil (x : Str) (h : x ≠ []) : collapse x ≠ [] := fun e => by
  have hh := collapse_head x
  rw [e] at hh
  cases x with
  | nil => exact h rfl
  | cons _ _ => cases hh

theorem sp_space : sp ' ' = true := by decide

theorem collapse_nil : collapse [] = [] := rfl

theorem lstrip_collapse (x : Str) : lstrip (collapse x) = collapse (lstrip x) := by
  induction x with
  | nil => rfl
  | cons c r ih =>
    by_cases hc : sp c = true
    · have e2 : lstrip (c :: r) = lstrip r := by rw [lstrip_cons]; simp [hc]
      rw [e2, collapse_cons]
      split
      · exact ih
      · rw [lstrip_cons]; simp [hc, ih]
    · have hne : c ≠ ' ' := by intro e; subst e; exact hc sp_space
      have e1 : collapse (c :: r) = c :: collapse r := by rw [collapse_cons]; simp [hne]
      have e2 : lstrip (c :: r) = c :: r := by rw [lstrip_cons]; simp [hc]
      rw [e1, e2, e1, lstrip_cons]; simp [hc]

theorem rstrip_collapse (x : Str) : rstrip (collapse x) = collapse (rstrip x) := by
  induction x with
  | nil => rfl
  | cons c r ih =>
    rw [rstrip_cons]
    by_cases h0 : rstrip r = [] ∧ sp c = true
    · simp only [h0, and_self, if_true]
      rw [collapse_cons]
      have hr : rstrip (collapse r) = [] := by rw [ih, h0.1]; rfl
      rw [collapse_nil]
      split
      · exact hr
      · rw [rstrip_cons]; simp [hr, h0.2]
    · simp only [h0, if_false]
      by_cases hr : rstrip r = []
      · have hc : ¬ sp c = true := fun hc => h0 ⟨hr, hc⟩
        have hne : c ≠ ' ' := by intro e; subst e; exact hc sp_space
        rw [collapse_cons, collapse_cons]
        simp only [hne, false_and, if_false]
        rw [rstrip_cons, ih, hr, collapse_nil]
        simp [hc]
      · have hh : (rstrip r).head? = r.head? := rstrip_head r hr
        rw [collapse_cons, collapse_cons, hh]
        split
        · exact ih
        · rw [rstrip_cons, ih]
          have : collapse (rstrip r) ≠ [] := collapse_ne_nil _ hr
          simp [this]

/-- stripping and collapsing inner runs of spaces commute -/
theorem strip_collapse (x : Str) : strip (collapse x) = collapse (strip x) := by
  unfold strip; rw [lstrip_collapse, rstrip_collapse]

theorem collapse_idem (x : Str) : collapse (collapse x) = collapse x := by
  induction x with
  | nil => rfl
  | cons c r ih =>
    rw [collapse_cons]
    split
    · exact ih
    · rename_i h
      rw [collapse_cons, collapse_head, ih]
      simp [h]

/-- a smart-quote table whose replacements are single, non-whitespace characters that are not
    themselves replaced, and whose keys are not whitespace (decidable; `decide` for the real table) -/
def tabOK (tab : List (Char × Str)) : Bool :=
  tab.all fun (k, r) =>
    match r with
    | [x] => !sp k && !sp x && (tab.find? (fun p => p.1 = x)).isNone
    | _ => false

/-- what `tab` cleans the character `c` to (itself, if it is not a key) -/
def gq (tab : List (Char × Str)) (c : Char) : Char :=
  match unsmartChar tab c with
  | [x] => x
  | _ => c

theorem unsmartChar_cases (tab : List (Char × Str)) (h : tabOK tab = true) (c : Char) :
    unsmartChar tab c = [gq tab c] ∧ sp (gq tab c) = sp c ∧ unsmartChar tab (gq tab c) = [gq tab c] ∧
      (gq tab c = c ∨ sp c = false) := by
  unfold gq unsmartChar
  cases hf : tab.find? (fun p => p.1 = c) with
  | none => simp [hf]
  | some p =>
    obtain ⟨k, r⟩ := p
    have hm := List.mem_of_find?_eq_some hf
    have hk : k = c := by simpa using List.find?_some hf
    have := List.all_eq_true.mp h (k, r) hm
    simp only at this
    match r, this with
    | [x], this =>
      simp only [Bool.and_eq_true, Bool.not_eq_eq_eq_not, Bool.not_true, Option.isNone_iff_eq_none] at this
      obtain ⟨⟨h1, h2⟩, h3⟩ := this
      subst hk
      simp [h1, h2, h3]

theorem gq_sp (tab : List (Char × Str)) (h : tabOK tab = true) (c : Char) : sp (gq tab c) = sp c :=
  (unsmartChar_cases tab h c).2.1

theorem unsmartWith_eq_map (tab : List (Char × Str)) (h : tabOK tab = true) (s : Str) :
    unsmartWith tab s = s.map (gq tab) := by
  induction s with
  | nil => rfl
  | cons c r ih =>
    simp only [unsmartWith, List.flatMap_cons, List.map_cons] at ih ⊢
    rw [(unsmartChar_cases tab h c).1, ih]; rfl

variable (g : Char → Char)

theorem collapse_map (hg : ∀ c, g c = ' ' ↔ c = ' ') (s : Str) : collapse (s.map g) = (collapse s).map g := by
  induction s with
  | nil => rfl
  | cons c r ih =>
    simp only [List.map_cons]; rw [collapse_cons, collapse_cons, ih]
    have hh : ((r.map g).head? = some ' ') ↔ (r.head? = some ' ') := by
      cases r with
      | nil => simp
      | cons d r' => simp [hg d]
    by_cases h : c = ' ' ∧ r.head? = some ' '
    · have : g c = ' ' ∧ (r.map g).head? = some ' ' := ⟨(hg c).mpr h.1, hh.mpr h.2⟩
      rw [if_pos h, if_pos this]
    · have : ¬ (g c = ' ' ∧ (r.map g).head? = some ' ') := by
        rintro ⟨a, b⟩; exact h ⟨(hg c).mp a, hh.mp b⟩
      rw [if_neg h, if_neg this]; rfl

theorem gq_space_iff (tab : List (Char × Str)) (h : tabOK tab = true) (c : Char) : gq tab c = ' ' ↔ c = ' ' := by
  -- a character is either kept or, being a key, not whitespace and mapped to a non-whitespace character
  obtain ⟨_, h2, _, h4⟩ := unsmartChar_cases tab h c
  constructor
  · intro e
    have hs : sp c = true := by rw [← h2, e]; exact sp_space
    rcases h4 with h4 | h4
    · rw [← h4, e]
    · rw [hs] at h4; cases h4
  · rintro rfl
    rcases h4 with h4 | h4
    · exact h4
    · rw [sp_space] at h4; cases h4

theorem cleanWith_eq (tab : List (Char × Str)) (h : tabOK tab = true) (s : Str) :
    unsmartWith tab (collapse (strip s)) = collapse (strip (s.map (gq tab))) := by
  have hg := gq_sp tab h
  rw [unsmartWith_eq_map tab h]
  unfold strip
  rw [lstrip_map _ hg, rstrip_map _ hg, collapse_map _ (gq_space_iff tab h)]

theorem gq_idem (tab : List (Char × Str)) (h : tabOK tab = true) (c : Char) : gq tab (gq tab c) = gq tab c := by
  have := (unsmartChar_cases tab h c).2.2.1
  have e : ∀ d x, unsmartChar tab d = [x] → gq tab d = x := by
    intro d x hd; unfold gq; rw [hd]
  exact e _ _ this

theorem unsmartWith_idem (tab : List (Char × Str)) (h : tabOK tab = true) (s : Str) :
    unsmartWith tab (unsmartWith tab s) = unsmartWith tab s := by
  rw [unsmartWith_eq_map tab h, unsmartWith_eq_map tab h]
  exact map_idem (gq_idem tab h) s

/-- the straightened characters are fixed by the table and keep blanks blank, so a second cleaning finds nothing to do -/
theorem cleanWith_idem (tab : List (Char × Str)) (h : tabOK tab = true) (s : Str) :
    unsmartWith tab (collapse (strip (unsmartWith tab (collapse (strip s))))) = unsmartWith tab (collapse (strip s)) := by
  rw [cleanWith_eq tab h s, cleanWith_eq tab h]
  have hg := gq_sp tab h
  have e : (collapse (strip (s.map (gq tab)))).map (gq tab) = collapse (strip (s.map (gq tab))) := by
    rw [← collapse_map _ (gq_space_iff tab h)]
    unfold strip
    rw [← rstrip_map _ hg, ← lstrip_map _ hg, map_idem (gq_idem tab h)]
  rw [e, ← strip_collapse, collapse_idem, strip_collapse, strip_idem]

end Pyxv.Spell
