import Pyxv.Proofs.C10
import Pyxv.Proofs.Rows17Lemmas
import Pyxv.Proofs.BaseLemmas
/-!
# C10 composed with the form core (`Pyxv.Form`, `Pyxv.Rows17`)

`exactly_once` needs "question paths pairwise different" and "no empty section".  Both follow for an element tree that
`Section.validate` / `Survey.validate` accept (`Rows17.validate17`), so the property holds for every accepted sheet.
-/
namespace Pyxv.C10
open Pyxv Pyxv.Defaults Pyxv.Form Pyxv.Rows17 List

/-- the element tree as `Pyxv.Form` sees it: names and nesting (what `parseRows` produces) -/
def shape : List El → List Item
  | [] => []
  | .q d :: rest =>
    Item.q { name := d.name, bind := true, control := shown d, node := true, tag := d.tag } :: shape rest
  | .grp n ks :: rest => Item.sec .group n false (shape ks) :: shape rest
  | .rep n ks :: rest => Item.sec .rep n false (shape ks) :: shape rest

def elName : El → Str
  | .q d => d.name
  | .grp n _ => n
  | .rep n _ => n

theorem shape_names : ∀ (els : List El), (shape els).map Item.name = els.map elName :=
  eq_map_of_eqns (gL := fun els => (shape els).map Item.name) (by rw [shape, List.map_nil])
    fun e _ => by cases e <;> simp [shape, Item.name, elName]

theorem shape_eq_nil : ∀ (els : List El), shape els = [] → els = []
  | [], _ => rfl
  | .q _ :: _, h => by simp [shape] at h
  | .grp _ _ :: _, h => by simp [shape] at h
  | .rep _ _ :: _, h => by simp [shape] at h

theorem noEmpty_shape : ∀ (els : List El), noEmptyL (shape els) = true → secsNonEmpty els = true := by
  intro els
  induction els using els_induction with
  | nil =>
    intro _
    simp [secsNonEmpty]
  | q d rest ih =>
    intro h
    simp only [shape, noEmptyL, noEmpty, Bool.true_and] at h
    simp only [secsNonEmpty]
    exact ih h
  | grp n ks rest ihk ih | rep n ks rest ihk ih =>
    intro h
    simp only [shape, noEmptyL, noEmpty_sec, Bool.and_eq_true] at h
    have : ks ≠ [] := fun h0 => by simp [h0, shape] at h
    simp only [secsNonEmpty, Bool.and_eq_true]
    exact ⟨⟨by simpa using this, ihk h.1.2⟩, ih h.2⟩

theorem names_nodup_of_lname (els : List El) (h : ((shape els).map lname).Nodup) : (els.map elName).Nodup := by
  have he : ((shape els).map Item.name).map lowerAscii = (shape els).map lname := by
    simp [List.map_map, Function.comp_def, lname]
  rw [← shape_names]
  exact nodup_of_map lowerAscii _ (he ▸ h)

theorem names_nodup_of_dupCheck (parent : Str) (els : List El) (h : liftDup parent (shape els) = .ok ()) :
    (els.map elName).Nodup :=
  names_nodup_of_lname els ((dupCheck_ok_iff parent _).1 ((liftDup_ok_iff parent _).1 h))

theorem qwn_prefix (els : List El) (pre : Path) (near : Option Path) (a : Path)
    (h : a ∈ (qwn pre near els).map (·.1)) : ∃ m ∈ els.map elName, (pre ++ [m]) <+: a := by
  obtain ⟨y, hy, rfl⟩ := List.mem_map.1 h
  exact qwn_mem_induct (P := fun pre _ els y => ∃ m ∈ els.map elName, (pre ++ [m]) <+: y.1)
    (fun _ _ d _ => ⟨d.name, by simp [elName], List.prefix_refl _⟩)
    (fun _ _ _ _ _ ⟨m, hm, hp⟩ => ⟨m, List.mem_cons_of_mem _ hm, hp⟩)
    (fun _ _ n _ _ _ ⟨_, _, hp⟩ => ⟨n, by simp [elName], (List.prefix_append _ _).trans hp⟩)
    (fun _ _ n _ _ _ ⟨_, _, hp⟩ => ⟨n, by simp [elName], (List.prefix_append _ _).trans hp⟩) els pre near y hy

theorem prefix_name_eq {pre p : Path} {n m : Str} (h1 : (pre ++ [n]) <+: p) (h2 : (pre ++ [m]) <+: p) : n = m := by
  have hl : (pre ++ [n]).length ≤ (pre ++ [m]).length := by simp
  have := (List.prefix_of_prefix_length_le h1 h2 hl).eq_of_length (by simp)
  simpa using this

theorem disjoint_paths (ks rest : List El) (pre : Path) (n : Str) (nk nr : Option Path)
    (hn : n ∉ rest.map elName) :
    ∀ a ∈ (qwn (pre ++ [n]) nk ks).map (·.1), ∀ b ∈ (qwn pre nr rest).map (·.1), a ≠ b := by
  intro a ha b hb hab
  obtain ⟨_, _, hpa⟩ := qwn_prefix ks (pre ++ [n]) nk a ha
  obtain ⟨m, hm, hpb⟩ := qwn_prefix rest pre nr b hb
  have h1 : (pre ++ [n]) <+: a := (List.prefix_append _ _).trans hpa
  rw [hab] at h1
  exact hn (prefix_name_eq h1 hpb ▸ hm)

theorem paths_nodup_of_sibs : ∀ (els : List El) (pre : Path) (near : Option Path),
    sibsEach (shape els) = true → (els.map elName).Nodup → ((qwn pre near els).map (·.1)).Nodup := by
  intro els
  induction els using els_induction with
  | nil =>
    intro _ _ _ _
    simp [qwn]
  | q d rest ih =>
    intro pre near hv hn
    simp only [shape, sibsEach, sibsItem, Bool.true_and] at hv
    simp only [List.map_cons, List.nodup_cons] at hn
    simp only [qwn, List.map_cons, List.nodup_cons]
    refine ⟨?_, ih pre near hv hn.2⟩
    intro hmem
    obtain ⟨m, hm, hp⟩ := qwn_prefix rest pre near _ hmem
    have : m = d.name := prefix_name_eq hp (List.prefix_refl _)
    exact hn.1 (by simpa [elName, this] using hm)
  | grp n ks rest ihk ih | rep n ks rest ihk ih =>
    intro pre near hv hn
    simp only [shape, sibsEach, sibsItem, Bool.and_eq_true, decide_eq_true_eq] at hv
    obtain ⟨⟨hd, he⟩, hr⟩ := hv
    simp only [List.map_cons, List.nodup_cons] at hn
    simp only [qwn, List.map_append]
    exact List.nodup_append.2 ⟨ihk (pre ++ [n]) _ he (names_nodup_of_lname ks hd),
      ih pre near hr hn.2, disjoint_paths ks rest pre n _ near (by simpa [elName] using hn.1)⟩

/-- **accepted ⇒ question paths pairwise different** -/
theorem paths_nodup : ∀ (els : List El) (pre : Path) (near : Option Path),
    validateEach17 (shape els) = .ok () → (els.map elName).Nodup → ((qwn pre near els).map (·.1)).Nodup :=
  fun els pre near hv hn =>
    paths_nodup_of_sibs els pre near ((validateEach_ok_iff _).1 ((validateEach17_ok_iff _).1 hv).2) hn

theorem paths_nodup_of_accepted (root : Str) (els : List El) (h : validate17 root (shape els) = .ok ()) :
    ((qwn [root] none els).map (·.1)).Nodup := by
  have hs := sibsOK_of_validate root _ ((validate17_ok_iff root _).1 h).2.2
  simp only [sibsOK, Bool.and_eq_true, decide_eq_true_eq] at hs
  exact paths_nodup_of_sibs els [root] none hs.2 (names_nodup_of_lname els hs.1)

theorem nonEmpty_of_accepted (root : Str) (els : List El) (h : validate17 root (shape els) = .ok ()) :
    secsNonEmpty els = true :=
  noEmpty_shape els ((validate17_ok_iff root _).1 h).2.1

/-- **exactly_once for accepted sheets**: the conclusions of `exactly_once` for a tree accepted by `Section.validate` /
    `Survey.validate`, no further hypotheses.  `_hrows` is not used: it only records where the tree comes from. -/
theorem exactly_once_of_rows (dyn : Q → Bool) (sub : Path → Str → Str) (root : Str)
    (rows : List (Nat × RowK)) (els : List El)
    (_hrows : parseRows rows = .ok (shape els))
    (hval : validate17 root (shape els) = .ok ())
    (y : Path × Option Path × Q) (hy : y ∈ qwn [root] none els) :
    (∀ l ∈ leaves [] false (gen dyn sub root els).inst, l.path = y.1 →
        l.text = (if !y.2.2.default.isEmpty && !dyn y.2.2 then y.2.2.default else [])) ∧
    expLeaf dyn false (y.1, y.2.2) ∈ leaves [] false (gen dyn sub root els).inst ∧
    (y.2.1.isSome = true → expLeaf dyn true (y.1, y.2.2) ∈ leaves [] false (gen dyn sub root els).inst) ∧
    (setFacts (gen dyn sub root els)).filter (fun f => decide (f.set.ref = y.1)) = expSetP dyn sub y :=
  exactly_once dyn sub root els y hy (paths_nodup_of_accepted root els hval) (nonEmpty_of_accepted root els hval)

/-! ## the `xls2json` stage in front: a photo's default (`process_image_default`) -/

theorem processImageDefault_mentions (v : Str) : isInfix imagePrefix (processImageDefault v) = true := by
  unfold processImageDefault
  split
  · assumption
  · simpa using isInfix_append [] imagePrefix v

/-- a cell that already mentions `jr://images/` is stored as it is -/
theorem processImageDefault_idem (v : Str) : processImageDefault (processImageDefault v) = processImageDefault v := by
  have h := processImageDefault_mentions v
  generalize processImageDefault v = w at h ⊢
  simp [processImageDefault, h]

theorem prepQ_same (d : Q) : (prepQ d).name = d.name ∧ shown (prepQ d) = shown d ∧ (prepQ d).tag = d.tag := by
  unfold prepQ
  split <;> simp [shown, hiddenQ]

theorem shape_prep : ∀ (els : List El), shape (prep els) = shape els := by
  intro els
  induction els using els_induction with
  | nil =>
    simp [prep, shape]
  | q d rest ih =>
    obtain ⟨h1, h3, h4⟩ := prepQ_same d
    simp [prep, shape, h1, h3, h4, ih]
  | grp n ks rest ihk ih | rep n ks rest ihk ih =>
    simp [prep, shape, ihk, ih]

theorem qwn_prep (els : List El) (pre : Path) (near : Option Path) :
    qwn pre near (prep els) = (qwn pre near els).map fun y => (y.1, y.2.1, prepQ y.2.2) := by
  rw [List.map_eq_flatMap]
  exact flatMap_qwn (f := fun pre near els => qwn pre near (prep els)) (fun _ _ => by rw [prep, qwn])
    (fun _ _ d _ => by rw [prep, qwn, (prepQ_same d).1]; rfl) (fun _ _ _ _ _ => by rw [prep, qwn])
    (fun _ _ _ _ _ => by rw [prep, qwn]) els pre near

/-- **exactly_once from the cells**: every question of an accepted sheet, with its default as `xls2json` stores it
    (`prepQ`: a photo's file name prefixed with `jr://images/`), satisfies the conclusions of `exactly_once` in the output
    of the mechanism run on the stored tree (`Defaults.runSheet`'s tree `prep els`) -/
theorem exactly_once_of_cells (dyn : Q → Bool) (sub : Path → Str → Str) (root : Str)
    (rows : List (Nat × RowK)) (els : List El)
    (hrows : parseRows rows = .ok (shape els)) (hval : validate17 root (shape els) = .ok ())
    (y : Path × Option Path × Q) (hy : y ∈ qwn [root] none els) :
    let y' : Path × Option Path × Q := (y.1, y.2.1, prepQ y.2.2)
    (∀ l ∈ leaves [] false (gen dyn sub root (prep els)).inst, l.path = y.1 →
        l.text = (if !y'.2.2.default.isEmpty && !dyn y'.2.2 then y'.2.2.default else [])) ∧
    (setFacts (gen dyn sub root (prep els))).filter (fun f => decide (f.set.ref = y.1)) = expSetP dyn sub y' := by
  intro y'
  have hy' : y' ∈ qwn [root] none (prep els) := by
    rw [qwn_prep]; exact List.mem_map.2 ⟨y, hy, rfl⟩
  have h := exactly_once_of_rows dyn sub root rows (prep els) (by rw [shape_prep]; exact hrows)
    (by rw [shape_prep]; exact hval) y' hy'
  exact ⟨h.1, h.2.2.2⟩

/-! ### non-vacuity: the example tree of `Pyxv.C10` comes from rows and is accepted -/
def exRows : List (Nat × RowK) :=
  [(2, .q { name := "a".toList, bind := true, control := true, node := true, tag := "input".toList } none),
   (3, .begin_ .rep "r".toList false none),
   (4, .q { name := "b".toList, bind := true, control := true, node := true, tag := "input".toList } none),
   (5, .begin_ .group "g".toList false none),
   (6, .q { name := "c".toList, bind := true, control := false, node := true, tag := "input".toList } none),
   (7, .end_ .group), (8, .end_ .rep),
   (9, .q { name := "z".toList, bind := true, control := true, node := true, tag := "input".toList } none)]

example : parseRows exRows = .ok (shape exTree) := by
  simp [exRows, exTree, exB, exC, shape, parseRows, Form.run, Form.step, push, pushOpt, shown, hiddenQ]
example : validate17 "data".toList (shape exTree) = .ok () := by
  simp [exTree, exB, exC, shape, validate17, validateEach17, validateItem17, liftDup, dupCheck, firstDup,
    firstDupStr, sectionNamesL, sectionNames, Item.name, lowerAscii]

-- a photo question: the stored default is the prefixed file name, which is static (URI_SCHEME, NAME, PATH_SEP, NAME)
example : (prepQ { name := "p".toList, type := "photo".toList, default := "a.png".toList }).default = "jr://images/a.png".toList
    ∧ Lexer.dynamicPinned "jr://images/a.png".toList "photo".toList = false := by
  simp only [toList_lit rfl]
  decide +kernel

end Pyxv.C10
