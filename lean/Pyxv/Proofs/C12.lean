import Pyxv.Proofs.BackendsLemmas
import Pyxv.Proofs.BackendsCsv
import Pyxv.Proofs.BackendsMd
import Pyxv.Proofs.BackendsExcel
/-!
# C12 — container format and delivery channel do not matter

Property theorems about `Pyxv/Model/Backends.lean` (the model of `pyxform/xls2json_backends.py`).  The round trips are
proved in `CsvReader.lean`, `BackendsCsv.lean`, `BackendsMd.lean`, `BackendsExcel.lean` (`Csv.*`, `Md.*`, `Excel.*`) and restated
here under the names to cite.
-/
namespace Pyxv.Backends
open Pyxv

/-! ## the limits and tables are the ones in the source (re-checked on every run) -/

theorem limits_are_60_20 : Gen.maxEmptyRowRun = 60 ∧ Gen.maxEmptyHeaderRun = 20 := by decide +kernel

theorem parser_order : allTypes = [.xlsx, .xlsm, .xls, .md, .csv] := by decide +kernel

theorem md_regex_sources :
    Gen.backendRegexSources =
      [("MD_CELL", "\\s*\\|(.*)\\|\\s*"), ("MD_COMMENT", "^\\s*#"), ("MD_COMMENT_INLINE", "^(.*)(#[^|]+)$"),
       ("MD_PIPE_OR_ESCAPE", "(?<!\\\\)\\|"), ("MD_SEPARATOR", "^[\\|-]+$"), ("RE_WHITESPACE", "( )+")] := rfl

/-- the keys kept for `DefinitionData`: exactly the supported sheets, their headers and `sheet_names` -/
theorem definition_fields :
    definitionFields = (["survey", "choices", "settings", "external_choices", "entities", "osm"].flatMap
      fun s => [s.toList, (s ++ "_header").toList]) ++ ["sheet_names".toList] := by
  unfold definitionFields Gen.definitionDataFields
  simp only [List.map_cons, List.map_nil, List.flatMap_cons, List.flatMap_nil, String.toList_append]
  decide_chars

theorem trimTrailing_removes_suffix {α} (l : List α) (n : Nat) :
    trimTrailing l n <+: l ∧ (trimTrailing l n).length = l.length - n :=
  ⟨trimTrailing_prefix l n, trimTrailing_length l n⟩

/-- trimming by a count of 0 changes nothing; it does not say that a trimmed list has no trailing empties left -/
theorem trimTrailing_idempotent {α} (l : List α) (n : Nat) :
    trimTrailing (trimTrailing l n) 0 = trimTrailing l n := trimTrailing_zero _

theorem stripTrailing_only_trailing_empties {α} (l : List (List α)) :
    (∃ t, l = stripTrailing (·.isEmpty) l ++ t ∧ ∀ x ∈ t, x.isEmpty = true) ∧
    stripTrailing (·.isEmpty) (stripTrailing (·.isEmpty) l) = stripTrailing (·.isEmpty) l :=
  ⟨stripTrailing_decomp _ l, stripTrailing_idem _ l⟩

example : stripTrailing (·.isEmpty) [[1], [], [2], [], []] = [[1], [], [2]] := by decide +kernel
example : trimTrailing [1, 2, 3, 4] 2 = [1, 2] := by decide +kernel

/-! ## rows: runs of up to 60 empty rows inside the data never truncate a sheet -/

/-- If every block of empty rows that is followed by data has at most 60 rows, `get_excel_rows` returns every cleaned row up to
the last non-empty one. -/
theorem getRows_spec (hdr : List (Option Str)) (rows : List (List Cell))
    (h : InteriorRunsLE 60 (rows.map fun r => rowDict hdr r [])) :
    getRows hdr rows = stripTrailing (·.isEmpty) (rows.map fun r => rowDict hdr r []) := by
  unfold getRows
  rw [limits_are_60_20.1]
  apply getRowsOf_spec
  exact runsInt_of_interior 60 _ 0 (by simpa using h)

theorem getRows_never_truncates (hdr : List (Option Str)) (rows : List (List Cell))
    (h : InteriorRunsLE 60 (rows.map fun r => rowDict hdr r [])) :
    (getRows hdr rows).filter (fun d => !d.isEmpty) =
      (rows.map fun r => rowDict hdr r []).filter (fun d => !d.isEmpty) := by
  rw [getRows_spec hdr rows h]
  exact stripTrailing_filter _ _

theorem getRowsOf_runsInt_spec {α} (lim : Nat) (ds : List (List α)) (h : runsInt lim 0 ds = true) :
    getRowsOf lim ds = stripTrailing (·.isEmpty) ds := getRowsOf_spec lim ds h

/-- non-vacuity: a run of exactly `lim` empties inside the data is kept (here `lim = 2`), one more truncates -/
example : getRowsOf 2 [[1], [], [], [5], []] = [[1], [], [], [5]] := by decide +kernel
example : runsInt 2 0 [[1], [], [], [5], []] = true := by decide +kernel
example : getRowsOf 2 [[1], [], [], [], [5]] = [[1]] := by decide +kernel
example : InteriorRunsLE 60 ([[1], [], [2]] : List (List Nat)) := by
  intro pre mid post x hd hm hx
  have : (pre ++ mid ++ x :: post).length = 3 := by rw [← hd]; rfl
  simp at this; omega

/-! ## headers: runs of up to 20 empty columns never truncate the header row -/

theorem getHeaders_ok {row hs : List (Option Str)} (h : getHeaders row = .ok hs) :
    ∃ res, headersLoop 20 0 [] row = .ok res ∧ hs = trimTrailing res.1 res.2 := by
  unfold getHeaders at h
  rw [limits_are_60_20.2] at h
  split at h
  · rename_i acc adj hl
    cases h
    exact ⟨(acc, adj), hl, rfl⟩
  · cases h

/-- If no run of empty header cells is longer than 20, the header list is the cleaned first row without its trailing empty cells. -/
theorem getHeaders_spec (row hs : List (Option Str)) (hr : runsAll 20 0 row = true)
    (h : getHeaders row = .ok hs) : hs = stripTrailing Option.isNone (row.map cleanOpt) := by
  obtain ⟨res, hl, rfl⟩ := getHeaders_ok h
  exact (headersLoop_trail 20 row 0 [] res rfl (runsIntH_of_runsAll 20 row 0 (by omega) hr) hl).2.elim id
    fun ⟨_, hf⟩ => by rw [hr] at hf; cases hf

example : (getHeaders [some "type".toList, none, some " na  me ".toList, none, none]).toOption =
    some [some "type".toList, none, some "na me".toList] := by decide_chars
example : runsAll 20 0 [some "type".toList, none, some " na  me ".toList, none, none] = true := by decide_chars

/-- If every run of empty header cells *followed by a header* has at most 20 cells (a trailing run may be arbitrarily long), the
result is the cleaned first row without its trailing empties, possibly followed by the one `None` the loop appends before it
stops inside a long trailing run: a prefix of the cleaned row holding every header of it. -/
theorem getHeaders_never_truncates (row hs : List (Option Str)) (hr : runsIntH 20 0 row = true)
    (h : getHeaders row = .ok hs) :
    (hs = stripTrailing Option.isNone (row.map cleanOpt) ∨
      hs = stripTrailing Option.isNone (row.map cleanOpt) ++ [none]) ∧
    hs <+: row.map cleanOpt ∧ hs.filterMap id = (row.map cleanOpt).filterMap id := by
  obtain ⟨⟨acc, adj⟩, hl, rfl⟩ := getHeaders_ok h
  obtain ⟨⟨t, hu, hn⟩, hc⟩ := headersLoop_trail 20 row 0 [] (acc, adj) rfl hr hl
  rw [List.nil_append] at hu hc
  -- the cleaned row is the result followed by `None`s only
  exact ⟨hc.imp id (·.1), ⟨t, hu.symm⟩, by
    rw [hu, List.filterMap_append, (List.filterMap_eq_nil_iff (f := id)).2 hn, List.append_nil]⟩

/-- non-vacuity with a small limit: the loop (limit 2) stops inside the trailing run and leaves one `None` -/
example : (headersLoop 2 0 [] [some "a".toList, none, none, some "b".toList, none, none, none, none, none]).toOption
    = some ([some "a".toList, none, none, some "b".toList, none, none, none], 2) := by decide_chars
example : runsIntH 20 0 ([some "a".toList] ++ List.replicate 20 none ++ [some "b".toList] ++ List.replicate 30 none) = true := by
  decide_chars
example : (getHeaders ([some "a".toList] ++ List.replicate 20 none ++ [some "b".toList] ++ List.replicate 30 none)).toOption
    = some ([some "a".toList] ++ List.replicate 20 none ++ [some "b".toList, none]) := by decide_chars

/-! ## typed cells are read as canonical text -/

theorem cellText_int (n : Int) : cellText (.int n) = some (intText n) := rfl

theorem cellText_integralFloat (n : Int) (r : Str) : cellText (.float (some n) r) = some (intText n) := rfl

/-- a non-integral float is spelled as Python's `str(float)` (a parameter of the model) -/
theorem cellText_decimal (r : Str) : cellText (.float none r) = some r := rfl

theorem cellText_bool (b : Bool) : cellText (.bool b) = some (if b then "TRUE".toList else "FALSE".toList) := by
  cases b <;> rfl

theorem allSpace_strip (s : Str) : allSpace (strip s) = allSpace s := by
  cases h : allSpace s with
  | true => exact List.all_eq_true.2 fun x hx => List.all_eq_true.1 h x (strip_subset hx)
  | false =>
    obtain ⟨x, hx, hp⟩ := List.all_eq_false.1 h
    exact List.all_eq_false.2 ⟨x, strip_keeps_nonspace s x hx (by simpa using hp), hp⟩

/-- A text cell that is not blank is read as its stripped text with every remaining U+00A0 replaced by a space. -/
theorem cellText_trim_nbsp (s : Str) (h : allSpace s = false) :
    cellText (.text s) = some (replaceNbsp (strip s)) ∧ nbsp ∉ replaceNbsp (strip s) := by
  constructor
  · simp [cellText, isEmptyCell, allSpace_strip, h, valueToStr]
  · unfold replaceNbsp
    intro hm
    rw [List.mem_map] at hm
    obtain ⟨c, _, hc⟩ := hm
    split at hc
    · exact absurd hc (by decide)
    · rename_i hne; exact hne hc

theorem cellText_blank (s : Str) (h : allSpace s = true) : cellText (.text s) = none := by
  simp [cellText, isEmptyCell, allSpace_strip, h]

example : cellText (.text [nbsp, ' ', 'A', nbsp, 'B', ' ', nbsp]) = some ['A', ' ', 'B'] := by decide +kernel
example : cellText (.int (-3)) = some "-3".toList := by decide_chars
example : cellText (.float (some 42) "42.0".toList) = some "42".toList := by decide_chars
example : cellText (.bool true) = some "TRUE".toList := by decide_chars

/-- `getXlsform` with its `let`s inlined -/
theorem getXlsform_eq (bin : FileType → Str → Except Err Book) (c : Channel) (content : Str) (ft : Option FileType) :
    getXlsform bin c content ft =
      match tryParsers bin (getDefinitionData c content).data
          (match (match ft with | some t => some t | none => (getDefinitionData c content).fileType) with
            | some t => [t] | none => allTypes) with
      | .error e => .error e
      | .ok b => .ok (toDefinition b, (getDefinitionData c content).stem) := by
  cases c <;> rfl

/-- a channel delivers the whole content: everything but an open file that is not at its start
(a caller's `BytesIO` at any position does) -/
def Channel.whole : Channel → Bool
  | .file pos => pos == 0
  | _ => true

theorem data_of_whole (c : Channel) (content : Str) (h : c.whole = true) :
    (getDefinitionData c content).data = content := by
  cases c with
  | file pos =>
    -- an open file delivers `content.drop pos`; `whole` says `pos = 0`
    have : pos = 0 := by simpa [Channel.whole] using h
    subst this; rfl
  | _ => rfl

theorem bytesIO_position_irrelevant (bin : FileType → Str → Except Err Book) (p q : Nat) (content : Str)
    (t : Option FileType) :
    getXlsform bin (.bytesIO p) content t = getXlsform bin (.bytesIO q) content t := rfl

def stemOf : Channel → Option Str
  | .path p => some (pathStem (pathName p))
  | _ => none

theorem tryParsers_single (bin : FileType → Str → Except Err Book) (d : Str) (t : FileType) :
    tryParsers bin d [t] = parser bin t d := by
  unfold tryParsers tryParsers
  split
  · next h => exact h.symm
  · rfl

theorem getXlsform_some (bin : FileType → Str → Except Err Book) (c : Channel) (content : Str) (t : FileType) :
    getXlsform bin c content (some t) =
      (parser bin t (getDefinitionData c content).data).map fun b => (toDefinition b, stemOf c) := by
  rw [getXlsform_eq, tryParsers_single]
  cases parser bin t (getDefinitionData c content).data with
  | error e => rfl
  | ok b => cases c <;> rfl

/-- with an explicit `file_type` the parsed workbook does not depend on the channel, as long as it delivers the whole content
(`Channel.whole`; a `BytesIO` at any position does) -/
theorem channel_independent_explicit (bin : FileType → Str → Except Err Book) (c₁ c₂ : Channel)
    (content : Str) (t : FileType) (h₁ : c₁.whole = true) (h₂ : c₂.whole = true) :
    (getXlsform bin c₁ content (some t)).map Prod.fst = (getXlsform bin c₂ content (some t)).map Prod.fst := by
  rw [getXlsform_some, getXlsform_some, data_of_whole c₁ content h₁, data_of_whole c₂ content h₂]
  cases parser bin t content <;> rfl

/-- A path supplies the stem of its file name (`PurePath.stem`) as the default form id, whatever its suffix; every other channel
supplies none. -/
theorem channel_stem (bin : FileType → Str → Except Err Book) (c : Channel) (content : Str)
    (t : Option FileType) (b : Book) (st : Option Str) (h : getXlsform bin c content t = .ok (b, st)) :
    st = stemOf c := by
  rw [getXlsform_eq] at h
  split at h
  · cases h
  · injection h with h
    injection h with _ h
    subst h
    cases c <;> rfl

theorem fileType_of_not_path (c : Channel) (content : Str) (h : ∀ n, c ≠ .path n) :
    (getDefinitionData c content).fileType = none ∧ (getDefinitionData c content).stem = none := by
  cases c with
  | path n => exact absurd rfl (h n)
  | _ => exact ⟨rfl, rfl⟩

/-- without `file_type`, the channels that are not paths and deliver the whole content are indistinguishable -/
theorem channel_independent_implicit (bin : FileType → Str → Except Err Book) (c₁ c₂ : Channel)
    (content : Str) (h₁ : ∀ n, c₁ ≠ .path n) (h₂ : ∀ n, c₂ ≠ .path n)
    (w₁ : c₁.whole = true) (w₂ : c₂.whole = true) :
    getXlsform bin c₁ content none = getXlsform bin c₂ content none := by
  rw [getXlsform_eq, getXlsform_eq, data_of_whole c₁ content w₁, data_of_whole c₂ content w₂,
    (fileType_of_not_path c₁ content h₁).1, (fileType_of_not_path c₂ content h₂).1,
    (fileType_of_not_path c₁ content h₁).2, (fileType_of_not_path c₂ content h₂).2]

/-- a path whose suffix names a supported type behaves like that explicit type -/
theorem path_suffix_is_file_type (bin : FileType → Str → Except Err Book) (name : Str) (content : Str)
    (t : FileType) (h : FileType.ofSuffix (pathSuffix (pathName name)) = some t) :
    getXlsform bin (.path name) content none = getXlsform bin (.path name) content (some t) := by
  simp [getXlsform, getDefinitionData, h]

/-- For a file name `base.ext` (`base` non-empty, may contain dots; `ext` non-empty, dot-free, recognised or not — `XLSX`, `txt`, `v2`)
delivered as a path, a successful parse carries `fallback_form_name = base`. -/
theorem channel_stem_any_suffix (bin : FileType → Str → Except Err Book) (dir base ext content : Str)
    (t : Option FileType) (b : Book) (st : Option Str) (hb : base ≠ []) (he : ext ≠ []) (hd : '.' ∉ ext)
    (hs : '/' ∉ base ++ '.' :: ext)
    (h : getXlsform bin (.path (dir ++ '/' :: (base ++ '.' :: ext))) content t = .ok (b, st)) : st = some base := by
  rw [channel_stem bin _ content t b st h]
  simp only [stemOf, pathName_join dir _ hs, (pathStem_ext base ext hb he hd).1]

/-- For a path `dir/name` the default form id is the stem of `name`, whatever `dir` is (length beyond 260 characters, dots,
spaces, non-ASCII letters). -/
theorem channel_stem_any_directory (bin : FileType → Str → Except Err Book) (dir name content : Str)
    (t : Option FileType) (b : Book) (st : Option Str) (hs : '/' ∉ name)
    (h : getXlsform bin (.path (dir ++ '/' :: name)) content t = .ok (b, st)) : st = some (pathStem name) := by
  rw [channel_stem bin _ content t b st h]
  simp only [stemOf, pathName_join dir name hs]

theorem directory_irrelevant (bin : FileType → Str → Except Err Book) (d₁ d₂ name content : Str)
    (t : Option FileType) (hs : '/' ∉ name) :
    getXlsform bin (.path (d₁ ++ '/' :: name)) content t = getXlsform bin (.path (d₂ ++ '/' :: name)) content t := by
  simp only [getXlsform, getDefinitionData, pathName_join _ name hs]

example : pathName "/tmp/v1.2/forms.md/My Documents/été.x/FORM.XLSX".toList = "FORM.XLSX".toList := by decide_chars
example : (List.replicate 300 'd' ++ '/' :: "a.md".toList).length > 260 ∧
    pathName (List.replicate 300 'd' ++ '/' :: "a.md".toList) = "a.md".toList :=
  ⟨by rw [List.length_append, List.length_replicate]; omega, pathName_join _ _ (by decide)⟩

/-- the suffix only selects the parser; the stem never depends on whether it is recognised -/
theorem stem_independent_of_file_type (bin : FileType → Str → Except Err Book) (name content : Str)
    (t₁ t₂ : Option FileType) (b₁ b₂ : Book) (s₁ s₂ : Option Str)
    (h₁ : getXlsform bin (.path name) content t₁ = .ok (b₁, s₁))
    (h₂ : getXlsform bin (.path name) content t₂ = .ok (b₂, s₂)) : s₁ = s₂ := by
  rw [channel_stem bin _ content t₁ b₁ s₁ h₁, channel_stem bin _ content t₂ b₂ s₂ h₂]

theorem pathStem_spec :
    (∀ n, pathStem n ++ pathSuffix n = n) ∧
    (∀ base ext, base ≠ [] → ext ≠ [] → '.' ∉ ext →
      pathStem (base ++ '.' :: ext) = base ∧ pathSuffix (base ++ '.' :: ext) = '.' :: ext) ∧
    (∀ n, '.' ∉ n → pathStem n = n ∧ pathSuffix n = []) ∧
    (∀ rest, '.' ∉ rest → pathStem ('.' :: rest) = '.' :: rest ∧ pathSuffix ('.' :: rest) = []) ∧
    (∀ base, pathStem (base ++ ['.']) = base ++ ['.'] ∧ pathSuffix (base ++ ['.']) = []) :=
  ⟨pathStem_append_pathSuffix, pathStem_ext, pathStem_no_dot, pathStem_leading_dot, pathStem_trailing_dot⟩

/-- the file-type hint is case-sensitive and exact (so `.XLSX`, `.Md`, `.txt` give no hint) -/
theorem ofSuffix_exact (s : Str) (t : FileType) (h : FileType.ofSuffix s = some t) :
    s = (match t with | .xlsx => ".xlsx" | .xlsm => ".xlsm" | .xls => ".xls" | .md => ".md" | .csv => ".csv").toList := by
  unfold FileType.ofSuffix at h
  iterate 5
    split at h
    · next e => cases h; exact e
  cases h

example : pathStem "a.tar.gz".toList = "a.tar".toList ∧ pathSuffix "a.tar.gz".toList = ".gz".toList := by decide_chars
example : pathStem ".hidden".toList = ".hidden".toList ∧ pathStem "name.".toList = "name.".toList ∧
    pathStem "FORM.XLSX".toList = "FORM".toList ∧ pathStem "..md".toList = ".".toList := by decide_chars
example : FileType.ofSuffix (pathSuffix "FORM.XLSX".toList) = none ∧
    FileType.ofSuffix (pathSuffix "form.backup.xlsx".toList) = some .xlsx := by decide_chars
example : (getXlsform (fun _ _ => .error .readError) (.path "my.form.MD".toList)
    "| survey |\n| | type | name |\n| | text | a |".toList none).toOption.map Prod.snd = some (some "my.form".toList) := by decide_chars

/-! ## the text containers read back the workbook they render -/

/-- `csv.reader` inverts the `QUOTE_ALL` writer on every list of records
(any characters: quotes, commas, CR, LF; empty records and fields). -/
theorem csvRead_csvWrite (rows : List (List Str)) : csvRead (csvWrite rows) = rows := Csv.csvRead_write rows

/-- For every workbook inside `Csv.CsvOK` whose rendering passes the `is_csv` sniffer, `csv_to_dict` of the rendered CSV is the
dict container of the workbook. -/
theorem csv_roundtrip (wb : Workbook) (h : Csv.CsvOK wb = true) (hc : isCsv (renderCsv wb) = true) :
    csvToDict (renderCsv wb) = .ok (toBook wb) := Csv.csv_roundtrip wb h hc

theorem md_roundtrip (wb : Workbook) (h : Md.MdOK wb = true) (hm : isMarkdownTable (renderMd wb) = true) :
    mdToDict (renderMd wb) = .ok (toBook wb) := Md.md_roundtrip wb h hm

theorem getXlsform_md (bin : FileType → Str → Except Err Book) (c : Channel) (wb : Workbook)
    (hw : c.whole = true) (h : Md.MdOK wb = true) (hm : isMarkdownTable (renderMd wb) = true) :
    getXlsform bin c (renderMd wb) (some .md) =
      .ok (toDefinition (toBook wb), stemOf c) := by
  rw [getXlsform_some, data_of_whole c _ hw]
  exact congrArg _ (md_roundtrip wb h hm)

theorem getXlsform_csv (bin : FileType → Str → Except Err Book) (c : Channel) (wb : Workbook)
    (hw : c.whole = true) (h : Csv.CsvOK wb = true) (hc : isCsv (renderCsv wb) = true) :
    getXlsform bin c (renderCsv wb) (some .csv) =
      .ok (toDefinition (toBook wb), stemOf c) := by
  rw [getXlsform_some, data_of_whole c _ hw]
  exact congrArg _ (csv_roundtrip wb h hc)

/-- table fact: every supported sheet and its header are `DefinitionData` fields (re-checked on every run) -/
theorem supported_are_fields :
    (supported.all fun s => definitionFields.contains s && definitionFields.contains (s ++ headerSuffix)) = true ∧
      definitionFields.contains sheetNamesKey = true := by
  unfold supported Gen.supportedSheetNames definitionFields Gen.definitionDataFields headerSuffix sheetNamesKey
  simp only [List.map_cons, List.map_nil]
  decide_chars

/-- the key filter of `definition_to_dict` keeps the whole dict container of a workbook whose sheets
are XLSForm sheets (in particular of every workbook inside `Md.MdOK`) -/
theorem toDefinition_toBook (wb : Workbook) (h : ∀ s ∈ wb, lowerAscii s.name ∈ supported) :
    toDefinition (toBook wb) = toBook wb := by
  unfold toDefinition
  rw [List.filter_eq_self]
  intro kv hkv
  have hs := supported_are_fields
  simp only [toBook, List.mem_cons, List.mem_flatMap] at hkv
  rcases hkv with rfl | ⟨s, hsw, he⟩
  · exact hs.2
  · have hsup := h s hsw
    have := (List.all_eq_true.1 hs.1) _ hsup
    simp only [Bool.and_eq_true] at this
    simp only [sheetEntries, List.mem_cons, List.not_mem_nil, or_false] at he
    rcases he with rfl | rfl
    · exact this.1
    · exact this.2

/-- A workbook inside both guards, rendered as Markdown or as CSV and delivered through any two channels that deliver the whole
content (with the container's `file_type`), is parsed to the same structure `toBook wb`; the only trace of the channel is the stem
a path supplies. -/
theorem channel_independent (bin : FileType → Str → Except Err Book) (c₁ c₂ : Channel) (wb : Workbook)
    (w₁ : c₁.whole = true) (w₂ : c₂.whole = true)
    (hmd : Md.MdOK wb = true) (hm : isMarkdownTable (renderMd wb) = true)
    (hcsv : Csv.CsvOK wb = true) (hc : isCsv (renderCsv wb) = true) :
    (getXlsform bin c₁ (renderMd wb) (some .md)).map Prod.fst =
      (getXlsform bin c₂ (renderCsv wb) (some .csv)).map Prod.fst := by
  rw [getXlsform_md bin c₁ wb w₁ hmd hm, getXlsform_csv bin c₂ wb w₂ hcsv hc]
  rfl

/-- non-vacuity: a two-sheet workbook inside both guards; both channels give `toBook` -/
def exBoth : Workbook :=
  [⟨"survey".toList, ["type".toList, "name".toList, "label".toList],
     [["text".toList, "a".toList, "A|B \"q\"".toList], ["note".toList, [], "N".toList]]⟩,
   ⟨"choices".toList, ["list_name".toList, "name".toList], [["l".toList, "x".toList]]⟩]

theorem exBoth_ok : Md.MdOK exBoth = true ∧ Csv.CsvOK exBoth = true ∧ isMarkdownTable (renderMd exBoth) = true ∧
    isCsv (renderCsv exBoth) = true := by unfold exBoth; decide_chars

example : Md.MdOK exBoth = true ∧ Csv.CsvOK exBoth = true ∧ isMarkdownTable (renderMd exBoth) = true ∧
    isCsv (renderCsv exBoth) = true := exBoth_ok

example : (getXlsform (fun _ _ => .error .readError) (.path "f.md".toList) (renderMd exBoth) (some .md)).toOption
    = some (toBook exBoth, some "f".toList) := by
  rw [getXlsform_md _ _ exBoth rfl exBoth_ok.1 exBoth_ok.2.2.1,
    toDefinition_toBook exBoth (Md.supported_of_MdOK exBoth exBoth_ok.1)]
  exact congrArg (fun st => some (toBook exBoth, st))
    (by decide_chars : stemOf (.path "f.md".toList) = some "f".toList)

/-! ## Markdown lines are split on U+000A only -/

/-- `mdstr.split("\n")` cuts the rendered workbook exactly at the row
boundaries as soon as no cell contains U+000A — whatever other line-separator characters
(U+2028, U+2029, U+0085, VT, FF, CR) the cells contain. -/
theorem md_lines_split_only_on_LF (wb : Workbook) (hne : wb ≠ []) (h : Md.NoNl wb) :
    splitOnChar '\n' (renderMd wb) = mdLines wb := Md.splitOnChar_renderMd wb hne h

/-- a cell whose first and last characters are not whitespace and which contains no U+000A is inside
the guard of `md_roundtrip` and is read back exactly — its interior is arbitrary. -/
theorem md_cell_interior_arbitrary (a b : Char) (mid : Str) (ha : pyIsSpace a = false)
    (hb : pyIsSpace b = false) (hn : '\n' ∉ a :: (mid ++ [b])) :
    Md.cellOK (a :: (mid ++ [b])) = true ∧ mdStrp (mdCellPad (a :: (mid ++ [b]))) = some (a :: (mid ++ [b])) := by
  have hs : strip (a :: (mid ++ [b])) = a :: (mid ++ [b]) := strip_eq_self rfl (u := a :: mid) rfl ha hb
  exact ⟨(Md.cellOK_iff _).2 ⟨hs, hn⟩, Md.mdStrp_pad _ hs (by simp)⟩

/-- the separators of `str.splitlines` other than LF / CR-LF -/
def exoticSeparators : Str := [Char.ofNat 0x2028, Char.ofNat 0x2029, Char.ofNat 0x85, Char.ofNat 0x0B, Char.ofNat 0x0C]

/-- non-vacuity: a label holding all of U+2028, U+2029, U+0085, VT, FF survives the md round trip -/
def exExotic : Workbook :=
  [⟨"survey".toList, ["type".toList, "name".toList, "label".toList],
     [["text".toList, "a".toList, 'x' :: (exoticSeparators ++ ['y'])],
      ["note".toList, "n".toList, ('p' :: Char.ofNat 0x2028 :: "q r".toList)]]⟩]

theorem exExotic_ok : Md.MdOK exExotic = true ∧ isMarkdownTable (renderMd exExotic) = true := by
  unfold exExotic; decide_chars
example : Md.MdOK exExotic = true ∧ isMarkdownTable (renderMd exExotic) = true := exExotic_ok
example : mdToDict (renderMd exExotic) = .ok (toBook exExotic) := md_roundtrip exExotic exExotic_ok.1 exExotic_ok.2
example : (splitOnChar '\n' (renderMd exExotic)).length = 4 := by
  rw [md_lines_split_only_on_LF exExotic (by decide) (Md.noNl_of_MdOK _ exExotic_ok.1)]; rfl

/-- Whatever typed grids the (third-party) decoder delivers — integers, floats, booleans, padded text, missing cells, ragged rows —
as long as they *show* the workbook (`Excel.ShowsAll`) and the workbook is inside `Excel.ExcelOK`, `xlsx_to_dict` / `xls_to_dict`
return the dict container; blank rows inside the data are kept. -/
theorem excel_roundtrip (wb : Workbook) (gs : List Grid) (hs : Excel.ShowsAll wb gs)
    (h : Excel.ExcelOK wb = true) : excelToDict (Excel.sheetsOf wb gs) = .ok (toBook wb) :=
  Excel.excel_roundtrip wb gs hs h

/-- text cells that show a text: stripped, without U+00A0 (`cellText` would replace it) -/
theorem text_cell_shows (t : Str) (hs : strip t = t) (hn : nbsp ∉ t) : cellText (.text t) = Md.toOpt t := by
  by_cases ht : t = []
  · subst ht; rfl
  · have hsp : allSpace t = false := by
      obtain ⟨⟨a, r, rfl, ha⟩, _⟩ := tight_of_strip hs ht
      simp [allSpace, ha]
    rw [(cellText_trim_nbsp t hsp).1, hs, replaceNbsp_of_not_mem t hn]
    simp [Md.toOpt, ht]

/-- One workbook inside the three guards: its Markdown rendering, its CSV rendering and every decoded spreadsheet showing it are
read as the same structure `toBook wb`, which `definition_to_dict`'s key filter keeps whole. -/
theorem container_independent (wb : Workbook) (gs : List Grid)
    (hmd : Md.MdOK wb = true) (hm : isMarkdownTable (renderMd wb) = true)
    (hcsv : Csv.CsvOK wb = true) (hc : isCsv (renderCsv wb) = true)
    (hx : Excel.ExcelOK wb = true) (hs : Excel.ShowsAll wb gs) :
    mdToDict (renderMd wb) = .ok (toBook wb) ∧ csvToDict (renderCsv wb) = .ok (toBook wb) ∧
      excelToDict (Excel.sheetsOf wb gs) = .ok (toBook wb) ∧ toDefinition (toBook wb) = toBook wb := by
  refine ⟨md_roundtrip wb hmd hm, csv_roundtrip wb hcsv hc, excel_roundtrip wb gs hs hx, ?_⟩
  exact toDefinition_toBook wb fun s hsw => ((Excel.ExcelOK_unpack hx).1 s hsw).sup

/-- non-vacuity: typed cells (int, integral float, decimal, bool, padded and nbsp-padded text, a
missing cell, an over-long row) showing `exTyped`, which is inside all three guards -/
def exTyped : Workbook :=
  [⟨"survey".toList, ["type".toList, "name".toList, "label".toList, "default".toList],
     [["integer".toList, "a".toList, "42".toList, "7".toList],
      ["decimal".toList, "b".toList, "TRUE".toList, "1.5".toList, "beyond".toList],
      ["text".toList, "c".toList, "x y".toList]]⟩]

def exTypedGrid : Grid :=
  [[.text "type".toList, .text "name".toList, .text "label".toList, .text "default".toList],
   [.text " integer ".toList, .text "a".toList, .int 42, .float (some 7) "7.0".toList],
   [.text "decimal".toList, .text [nbsp, 'b', nbsp], .bool true, .float none "1.5".toList, .text "beyond".toList],
   [.text "text".toList, .text "c".toList, .text " x y".toList]]

theorem exTyped_shows : Excel.ShowsAll exTyped [exTypedGrid] :=
  .cons ⟨_, rfl, by decide +kernel⟩ .nil

theorem exTyped_ok : Md.MdOK exTyped = true ∧ Csv.CsvOK exTyped = true ∧ Excel.ExcelOK exTyped = true ∧
    isMarkdownTable (renderMd exTyped) = true ∧ isCsv (renderCsv exTyped) = true := by unfold exTyped; decide_chars

example : Md.MdOK exTyped = true ∧ Csv.CsvOK exTyped = true ∧ Excel.ExcelOK exTyped = true ∧
    isMarkdownTable (renderMd exTyped) = true ∧ isCsv (renderCsv exTyped) = true := exTyped_ok

example : excelToDict (Excel.sheetsOf exTyped [exTypedGrid]) = .ok (toBook exTyped) :=
  excel_roundtrip exTyped [exTypedGrid] exTyped_shows exTyped_ok.2.2.1

/-- a workbook with blank rows *inside* the data is inside all
three guards, and every container reads the same structure with the blank rows kept -/
def exBlankRows : Workbook :=
  [⟨"survey".toList, ["type".toList, "name".toList, "label".toList],
     [["text".toList, "a".toList, "A".toList], [[], [], []], [[]],
      ["note".toList, "n".toList, "N".toList]]⟩]

def exBlankRowsGrid : Grid :=
  [[.text "type".toList, .text "name".toList, .text "label".toList],
   [.text "text".toList, .text "a".toList, .text "A".toList],
   [.none, .text "  ".toList, .none], [.none],
   [.text "note".toList, .text "n".toList, .text "N".toList]]

theorem exBlankRows_ok : Md.MdOK exBlankRows = true ∧ Csv.CsvOK exBlankRows = true ∧ Excel.ExcelOK exBlankRows = true ∧
    isMarkdownTable (renderMd exBlankRows) = true ∧ isCsv (renderCsv exBlankRows) = true ∧
    Excel.showsAllB exBlankRows [exBlankRowsGrid] = true := by unfold exBlankRowsGrid exBlankRows; decide_chars

example : Md.MdOK exBlankRows = true ∧ Csv.CsvOK exBlankRows = true ∧ Excel.ExcelOK exBlankRows = true ∧
    isMarkdownTable (renderMd exBlankRows) = true ∧ isCsv (renderCsv exBlankRows) = true ∧
    Excel.showsAllB exBlankRows [exBlankRowsGrid] = true := exBlankRows_ok

example : mdToDict (renderMd exBlankRows) = .ok (toBook exBlankRows) ∧
    csvToDict (renderCsv exBlankRows) = .ok (toBook exBlankRows) ∧
    excelToDict (Excel.sheetsOf exBlankRows [exBlankRowsGrid]) = .ok (toBook exBlankRows) ∧
    toDefinition (toBook exBlankRows) = toBook exBlankRows :=
  have ⟨hmd, hcsv, hx, hm, hc, hs⟩ := exBlankRows_ok
  container_independent exBlankRows [exBlankRowsGrid] hmd hm hcsv hc hx (Excel.showsAll_of_showsAllB _ _ hs)

/-- a U+00A0 inside a value is read as a plain space by the dict container of the readers -/
example : toBook [⟨"survey".toList, ["label".toList], [[['A', nbsp, 'B']]]⟩] =
    [(sheetNamesKey, .names ["survey".toList]), ("survey".toList, .rows [[(some "label".toList, "A B".toList)]]),
     ("survey_header".toList, .header [["label".toList]])] := by decide_chars

end Pyxv.Backends
