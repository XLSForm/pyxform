import Pyxv.Model.WarningsExt
import Pyxv.Proofs.DictLemmas
/-!
# Lemmas for C20

Levenshtein: the programme extends prefixes at their end, `lev` recurses at the front, so prefixes are held reversed:
`specRow ra pre bs` is the row of the distance matrix for the reversed prefix `ra`, `rowGo` maps it to the row of `c :: ra`,
and `lev` does not change when both strings are reversed (`lev_reverse`).  Translations: the record kept by
`findTranslations` agrees with the (column, language) pairs of the headers (`TrInv`).  Row loop: what one row appends is
what is due for it; `convertOn` in writer form.  Then the distinctness and permutation facts behind C20's multiset statements.
-/
namespace Pyxv.Warn
open Pyxv Pyxv.Warn.Spec
open scoped List

/-! ### the textbook equations hold for `lev` -/

@[simp] theorem lev_nil_left (b : Str) : lev [] b = b.length := rfl

@[simp] theorem lev_nil_right (a : Str) : lev a [] = a.length := by
  cases a <;> simp [lev, levInner]

theorem lev_cons_cons (x y : Char) (a b : Str) :
    lev (x :: a) (y :: b)
      = min3 (lev a (y :: b) + 1) (lev (x :: a) b + 1) (if x = y then lev a b else lev a b + 1) := rfl

/- from here on `lev` is used through the three equations above only: `rw` and `simp` are to treat `lev ra pre` as an atom -/
attribute [local irreducible] lev

/-- the row of `ra` from the column of `pre` (the passed part of `b`, reversed) on: `[lev ra pre, lev ra (b₀ :: pre), …]` -/
def specRow (ra : Str) : Str → Str → List Nat
  | pre, [] => [lev ra pre]
  | pre, bj :: bs => lev ra pre :: specRow ra (bj :: pre) bs

theorem specRow_head (ra pre bs : Str) : ∃ t, specRow ra pre bs = lev ra pre :: t := by
  cases bs <;> simp [specRow]

theorem rowGo_spec (c : Char) (ra : Str) : ∀ (bs pre : Str),
    lev (c :: ra) pre :: rowGo c bs (specRow ra pre bs) (lev (c :: ra) pre) = specRow (c :: ra) pre bs
  | [], pre => by simp [specRow, rowGo]
  | bj :: bs, pre => by
    obtain ⟨t, ht⟩ := specRow_head ra (bj :: pre) bs
    have ih := rowGo_spec c ra bs (bj :: pre)
    rw [ht] at ih
    simp only [specRow, ht, rowGo]
    rw [← lev_cons_cons, ih]

theorem specRow_nil (bs : Str) : ∀ pre : Str, specRow [] pre bs = List.range' pre.length (bs.length + 1) := by
  induction bs with
  | nil => intro pre; simp [specRow]
  | cons bj bs ih => intro pre; simp [specRow, ih, List.range'_succ]

theorem levRows_spec (b : Str) : ∀ (cs ra : Str),
    levRows b cs (specRow ra [] b) ra.length = specRow (cs.reverse ++ ra) [] b
  | [], ra => by simp [levRows]
  | c :: cs, ra => by
    have h := rowGo_spec c ra b []
    simp only [lev_nil_right, List.length_cons] at h
    have ih := levRows_spec b cs (c :: ra)
    simp only [List.length_cons] at ih
    simp only [levRows, nextRow, h, ih, List.reverse_cons, List.append_assoc, List.singleton_append]

theorem specRow_last (ra : Str) : ∀ (bs pre : Str),
    (specRow ra pre bs)[bs.length]? = some (lev ra (bs.reverse ++ pre))
  | [], pre => by simp [specRow]
  | bj :: bs, pre => by
    have ih := specRow_last ra bs (bj :: pre)
    simp [specRow, ih]

theorem levenshtein_eq_lev_reverse (a b : Str) : levenshtein a b = lev a.reverse b.reverse := by
  unfold levenshtein
  have h0 : List.range (b.length + 1) = specRow [] [] b := by
    rw [specRow_nil]; simp [List.range_eq_range']
  have h1 := levRows_spec b a []
  simp only [List.length_nil, List.append_nil] at h1
  rw [h0, h1, specRow_last]
  simp

/-! ### the textbook recursion does not care about the direction -/

theorem lev_snoc : ∀ (a b : Str) (x y : Char),
    lev (a ++ [x]) (b ++ [y])
      = min3 (lev a (b ++ [y]) + 1) (lev (a ++ [x]) b + 1) (if x = y then lev a b else lev a b + 1) := by
  intro a
  induction a with
  | nil =>
    intro b
    induction b with
    | nil => intro x y; simp [lev_cons_cons, min3]
    | cons b0 bs ihb =>
      intro x y
      have h := ihb x y
      simp only [List.nil_append, List.cons_append, lev_cons_cons, lev_nil_left, List.length_cons,
        List.length_append, List.length_nil, min3] at h ⊢
      rw [h]
      grind  -- linear arithmetic with `min`
  | cons a0 a1 iha =>
    intro b
    induction b with
    | nil =>
      intro x y
      have h := iha [] x y
      simp only [List.nil_append, List.cons_append, lev_cons_cons, lev_nil_right, List.length_cons,
        List.length_append, List.length_nil, min3] at h ⊢
      rw [h]
      grind
    | cons b0 bs ihb =>
      intro x y
      have h1 := iha (b0 :: bs) x y
      have h2 := ihb x y
      have h3 := iha bs x y
      simp only [List.cons_append] at h1 h2 h3 ⊢
      rw [lev_cons_cons, h1, h2, h3]
      simp only [lev_cons_cons, min3]
      -- both sides are the minimum over the same nine cells: `+ 1` distributes over `min`, the rest is AC
      generalize lev a1 (b0 :: (bs ++ [y])) = A1
      generalize lev (a1 ++ [x]) (b0 :: bs) = A2
      generalize lev a1 (b0 :: bs) = A3
      generalize lev (a0 :: a1) (bs ++ [y]) = B1
      generalize lev (a0 :: (a1 ++ [x])) bs = B2
      generalize lev (a0 :: a1) bs = B3
      generalize lev a1 (bs ++ [y]) = C1
      generalize lev (a1 ++ [x]) bs = C2
      generalize lev a1 bs = C3
      split <;> split <;> simp only [← Nat.add_min_add_right] <;> ac_rfl

theorem lev_reverse : ∀ (a b : Str), lev a.reverse b.reverse = lev a b := by
  intro a
  induction a with
  | nil => intro b; simp
  | cons a0 a1 iha =>
    intro b
    induction b with
    | nil => simp
    | cons b0 bs ihb =>
      have h1 := iha (b0 :: bs)
      have h3 := iha bs
      simp only [List.reverse_cons] at h1 ihb ⊢
      rw [lev_snoc, h1, ihb, h3, lev_cons_cons]

/-- `d[k].append(x)` on a `defaultdict(list)` -/
def app {α : Type} (x : α) : Option (List α) → List α
  | some v => v ++ [x]
  | none => [x]

/-- the hand-written upsert of `addSeen` / `groupChoices` is `AList.upd` with `app` on distinct keys -/
theorem upsert_eq_upd {α : Type} (k : Str) (x : α) {l : List (Str × List α)} (hn : (l.map (·.1)).Nodup) :
    (if l.any (fun e => e.1 = k) then l.map fun e => if e.1 = k then (e.1, e.2 ++ [x]) else e else l ++ [(k, [x])]) =
      AList.upd k (app x) l := by
  -- on distinct keys the value written is known beforehand: `AList.write` with it
  rw [upd_congr_of_lookup (g := fun _ => app x (lookup k l)) rfl]
  refine Eq.trans ?_ (AList.write_eq_set hn k _)
  unfold AList.write
  split
  · refine List.map_congr_left fun e he => ?_
    split
    · next hk => subst hk; rw [lookup_of_mem hn he]; rfl
    · rfl
  · next h => rw [(lookup_eq_none_iff k l).2 fun hm => h (AList.any_fst_eq.2 hm)]; rfl

theorem addSeen_eq {seen : List (Str × List Str)} (hn : (seen.map (·.1)).Nodup) (l n : Str) :
    addSeen seen l n = AList.upd l (app n) seen :=
  upsert_eq_upd l n hn

/-- what `findTranslations` has recorded agrees with the (column, language) pairs read so far; no language and no
    column is recorded twice -/
structure TrInv (t : Tr) (ps : List (Str × Str)) : Prop where
  seen : ∀ l cs, AList.get l t.seen = some cs → ∀ c, c ∈ cs ↔ (c, l) ∈ ps
  keys : ∀ l, l ∈ t.seen.map (·.1) ↔ ∃ c, (c, l) ∈ ps
  cols : ∀ c, c ∈ t.cols ↔ ∃ l, (c, l) ∈ ps
  langsNodup : (t.seen.map (·.1)).Nodup
  colsNodup : t.cols.Nodup

theorem TrInv.add {t : Tr} {ps : List (Str × Str)} (h : TrInv t ps) (l n : Str) :
    TrInv { seen := addSeen t.seen l n, cols := if t.cols.contains n then t.cols else t.cols ++ [n] }
      (ps ++ [(n, l)]) where
  seen := by
    intro l' cs hg c
    rw [addSeen_eq h.langsNodup, AList.get_upd] at hg
    by_cases e : l' = l
    · subst e
      rw [if_pos rfl, Option.some.injEq] at hg
      subst hg
      cases hs : AList.get l' t.seen with
      | none =>
        have : (c, l') ∉ ps := fun hm => AList.get_eq_none_iff.1 hs ((h.keys l').2 ⟨c, hm⟩)
        simp [app, this]
      | some cs0 => simp [app, h.seen l' cs0 hs c]
    · rw [if_neg e] at hg
      simp [h.seen l' cs hg c, e]
  keys := by
    intro l'
    rw [addSeen_eq h.langsNodup, AList.mem_keys_upd, h.keys l']
    simp only [List.mem_append, List.mem_singleton, Prod.mk.injEq, exists_or, exists_and_right, exists_eq, true_and]
  cols := by
    intro c
    have : c ∈ (if t.cols.contains n then t.cols else t.cols ++ [n]) ↔ c ∈ t.cols ∨ c = n := by
      split
      · rename_i hn
        exact ⟨.inl, fun h => h.elim id fun e => e ▸ by simpa using hn⟩
      · simp
    rw [this, h.cols c]
    simp only [List.mem_append, List.mem_singleton, Prod.mk.injEq, exists_or, exists_and_left, exists_eq, and_true]
  langsNodup := addSeen_eq h.langsNodup l n ▸ AList.nodup_upd h.langsNodup
  colsNodup := by
    split
    · exact h.colsNodup
    · rename_i hc
      have hc' : n ∉ t.cols := by simpa using hc
      exact List.nodup_append.mpr ⟨h.colsNodup, by simp, fun a ha b hb => by
        rw [List.mem_singleton.mp hb]; exact fun e => hc' (e ▸ ha)⟩

theorem TrInv.step (tbl : Aliases) {t : Tr} {ps : List (Str × Str)} (h : TrInv t ps) (hd : List Str)
    (hshort : (match trStrip hd with | h0 :: _ :: _ :: _ => (trName tbl h0).isNone | _ => true) = true) :
    TrInv (trHead tbl t (trStrip hd)) (ps ++ (trPair tbl hd).toList) := by
  unfold trPair trHead
  cases hs : trStrip hd with
  | nil => simpa using h
  | cons h0 rest =>
    rw [hs] at hshort
    cases hn : trName tbl h0 with
    | none => cases rest with
      | nil => simpa [hn] using h
      | cons l r2 => cases r2 <;> simpa [hn] using h
    | some n =>
      cases rest with
      | nil => simpa [hn] using h.add defaultLang n
      | cons l r2 =>
        cases r2 with
        | nil => simpa [hn] using h.add l n
        | cons x y => simp [hn] at hshort

theorem TrInv.fold (tbl : Aliases) : ∀ (hs : List (List Str)) (t : Tr) (ps : List (Str × Str)),
    TrInv t ps → trShort tbl hs = true →
    TrInv (hs.foldl (fun t h => trHead tbl t (trStrip h)) t) (ps ++ trPairs tbl hs)
  | [], t, ps, h, _ => by simpa [trPairs] using h
  | hd :: hs, t, ps, h, hsh => by
    simp only [trShort, List.all_cons, Bool.and_eq_true] at hsh
    have h1 := h.step tbl hd hsh.1
    have h2 := TrInv.fold tbl hs _ _ h1 (by simpa [trShort] using hsh.2)
    simp only [List.foldl_cons]
    have : ps ++ trPairs tbl (hd :: hs) = ps ++ (trPair tbl hd).toList ++ trPairs tbl hs := by
      simp only [trPairs, List.filterMap_cons]
      cases trPair tbl hd <;> simp
    rw [this]; exact h2

theorem TrInv.init : TrInv {} [] where
  seen := by intro l cs h; cases h
  keys := by intro l; simp
  cols := by intro c; simp
  langsNodup := by simp
  colsNodup := by simp

theorem findTranslations_inv (tbl : Aliases) (hs : List (List Str)) (hsh : trShort tbl hs = true) :
    TrInv (findTranslations tbl hs) (trPairs tbl hs) := by
  have := TrInv.fold tbl hs {} [] TrInv.init hsh
  simpa [findTranslations] using this

/-! ### the row loop: what one row appends is what is due for it -/

theorem deprecatedTypes_eq : deprecatedTypes = documentedDeprecated := by decide

/-- the part of `rowDue` that belongs to a typed, active row -/
def typedDue (n : Nat) (rb : PRow) (t : Str) (pkeys : List Str) : List W :=
  (if documentedDeprecated.contains t && t ≠ "audit".toList then [W.deprecated n t] else []) ++
  (match Rows.matchControl "begin" true t with
   | some ct => if !settingsTypes.contains t && t ≠ "audit".toList && (Rows.matchControl "end" false t).isNone
                   && noLabelCond rb ct then [W.noLabel n ct] else []
   | none => []) ++
  (if plainQuestion t && isSelectExternal t && !keyIn rb "choice_filter" then [W.extNoFilter n] else []) ++
  (if plainQuestion t && (Rows.matchSelect t).isNone && t = "photo".toList && !pkeys.contains "max-pixels".toList
   then [W.noMaxPixels n] else [])

theorem typed_of_rowType {r : PRow} {t : Str} (hne : t ≠ []) (hty : rowType r = some t) : typed r = true := by
  cases t with
  | nil => exact absurd rfl hne
  | cons c cs => simp [typed, hty]

theorem rowDue_typed (n : Nat) (r0 : PRow) (t : Str) (pkeys : List Str)
    (hact : active r0 = true) (hne : t ≠ []) (hty : rowType r0 = some t)
    (hpk : paramKeys ((val1 (body r0) "parameters").getD []) = some pkeys) :
    rowDue n r0 = (if keyIn r0 "disabled" then [W.disabled n] else []) ++ typedDue n (body r0) t pkeys := by
  have htyped := typed_of_rowType hne hty
  simp only [rowDue, typedDue, skippedTrig, deprecatedTrig, noLabelTrig, extNoFilterTrig, noMaxPixelsTrig,
    hact, htyped, hty, hpk, Bool.true_and, Bool.not_true, Bool.false_and, Option.getD_some, List.append_assoc,
    Bool.false_eq_true, if_false, List.nil_append, decide_true]
  cases Rows.matchControl "begin" true t <;> simp only [eq_self, decide_true, Bool.and_true]

theorem rowDue_inactive (n : Nat) (r : PRow) (h : active r = false) :
    rowDue n r = (if keyIn r "disabled" then [W.disabled n] else []) ∧ orOtherRow r = false := by
  simp only [rowDue, skippedTrig, deprecatedTrig, noLabelTrig, extNoFilterTrig, noMaxPixelsTrig, orOtherRow, h,
    Bool.false_and, Bool.false_eq_true, if_false, List.append_nil, and_true]
  cases rowType r with
  | none => simp only [List.append_nil]
  | some t =>
    simp only [List.append_nil]
    cases Rows.matchControl "begin" true t <;> simp only [List.append_nil]

theorem rowDue_untyped (n : Nat) (r : PRow) (hact : active r = true) (hty : typed r = false) :
    rowDue n r = (if keyIn r "disabled" then [W.disabled n] else []) ++
        (if !(keyIn (body r) "name" || keyIn (body r) "label") then [W.skipped n] else []) ∧
      orOtherRow r = false := by
  simp only [rowDue, skippedTrig, deprecatedTrig, noLabelTrig, extNoFilterTrig, noMaxPixelsTrig, orOtherRow, hact, hty,
    Bool.true_and, Bool.false_and, Bool.not_false, Bool.false_eq_true, if_false, List.append_nil, and_true]
  unfold typed at hty
  cases hr : rowType r with
  | none => simp only [List.append_nil]
  | some t =>
    cases t with
    | cons c cs => simp [hr] at hty
    | nil =>
      have : documentedDeprecated.contains ([] : Str) = false := by decide
      simp only [this, Bool.and_false, Bool.false_and, Bool.false_eq_true, if_false, List.append_nil]
      cases Rows.matchControl "begin" true [] <;> simp only [List.append_nil]

/-- the or_other flag of a typed row -/
def typedOther (t : Str) : Bool :=
  plainQuestion t && (match Rows.matchSelect t with | some (_, _, o) => o | none => false)

theorem typedOut_eq (n : Nat) (rb : PRow) (t : Str) (pkeys : List Str) (o : RowOut)
    (h : typedOut n rb t pkeys = .ok o) :
    o.ws = typedDue n rb t pkeys ∧ o.orOther = typedOther t := by
  unfold typedOut at h
  rw [deprecatedTypes_eq] at h
  unfold typedDue typedOther plainQuestion isSelectExternal
  -- the literals as variables, so that `simp` does not evaluate the comparisons with them
  generalize "audit".toList = A at *
  generalize "photo".toList = P at *
  generalize "loop".toList = L at *
  generalize "select one external".toList = E at *
  generalize "max-pixels".toList = M at *
  by_cases ha : t = A
  · simp only [ha, if_true] at h
    cases h
    subst ha
    simp only [List.contains_eq_mem, ne_eq, not_true_eq_false, decide_false, Bool.and_false, Bool.false_eq_true,
      ↓reduceIte, Bool.false_and, List.nil_append, List.append_nil, List.nil_eq, and_true]
    split <;> simp
  · simp only [ha, if_false] at h
    by_cases hs : settingsTypes.contains t = true
    · simp only [hs, if_true] at h
      cases h
      have hsm : t ∈ settingsTypes := by simpa using hs
      simp only [List.contains_eq_mem, decide_eq_true_eq, ne_eq, ha, not_false_eq_true, decide_true, Bool.and_true,
        hsm, Bool.not_true, Bool.false_and, Bool.false_eq_true, ↓reduceIte, List.append_nil, List.self_eq_append_right,
        and_true]
      split <;> rfl
    · simp only [hs] at h
      have hs' : t ∉ settingsTypes := by simpa using hs
      cases he : Rows.matchControl "end" false t with
      | some e =>
        simp only [he, Option.isSome_some, if_true] at h
        cases h
        simp only [List.contains_eq_mem, decide_eq_true_eq, ne_eq, ha, not_false_eq_true, decide_true, Bool.and_true,
          hs', decide_false, Bool.not_false, Bool.and_self, Option.isNone_some, Bool.and_false, Bool.false_and,
          Bool.false_eq_true, ↓reduceIte, List.append_nil, List.self_eq_append_right, and_true]
        split <;> simp
      | none =>
        simp only [he, Option.isSome_none, Bool.false_eq_true, if_false] at h
        cases hb : Rows.matchControl "begin" true t with
        | some ct =>
          simp only [hb] at h
          split at h
          · cases h
          · split at h
            · cases h
            · cases h
              simp [ha, hs']
        | none =>
          simp only [hb] at h
          cases hm : Rows.matchSelect t with
          | some x =>
            obtain ⟨sel, ln, other⟩ := x
            simp only [hm] at h
            cases h
            simp [ha, hs']
          | none =>
            simp only [hm] at h
            cases h
            simp [ha, hs']

theorem orOtherRow_typed (r0 : PRow) (t : Str) (hact : active r0 = true) (hne : t ≠ []) (hty : rowType r0 = some t) :
    orOtherRow r0 = typedOther t := by
  have htyped := typed_of_rowType hne hty
  simp only [orOtherRow, typedOther, hact, htyped, hty, Bool.true_and]
  rfl

theorem rowOut_ok (n : Nat) (r0 : PRow) (o : RowOut) (h : rowOut n r0 = .ok o) :
    o.ws = rowDue n r0 ∧ o.orOther = orOtherRow r0 := by
  unfold rowOut at h
  split at h
  · cases h
  · simp only at h
    cases hd : disabledYes r0 with
    | true =>
      simp only [hd, if_true] at h
      cases h
      exact (rowDue_inactive n r0 (by simp [active, hd])).imp Eq.symm Eq.symm
    | false =>
      simp only [hd, Bool.false_eq_true, if_false] at h
      cases hempty : (body r0).isEmpty with
      | true =>
        simp only [hempty, if_true] at h
        cases h
        exact (rowDue_inactive n r0 (by simp [active, hempty])).imp Eq.symm Eq.symm
      | false =>
        have hact : active r0 = true := by simp [active, hd, hempty]
        simp only [hempty, Bool.false_eq_true, if_false] at h
        -- the two shapes of "no type": no cell, or an empty one
        have untyped (hty : typed r0 = false) {e : Except Stop RowOut}
            (h : (if !(keyIn (body r0) "name" || keyIn (body r0) "label") then
                .ok { ws := (if keyIn r0 "disabled" then [W.disabled n] else []) ++ [W.skipped n] } else e) = .ok o)
            (he : e ≠ .ok o) : o.ws = rowDue n r0 ∧ o.orOther = orOtherRow r0 := by
          have hdue := rowDue_untyped n r0 hact hty
          split at h
          · rename_i hnl
            cases h
            rw [if_pos hnl] at hdue
            exact hdue.imp Eq.symm Eq.symm
          · exact absurd h he
        split at h
        · cases h
        · split at h
          · rename_i hty
            exact untyped (by simp [typed, hty]) h (by simp)
          · rename_i hty
            exact untyped (by simp [typed, hty]) h (by simp)
          · rename_i c cs hty
            split at h
            · cases h
            · split at h
              · cases h
              · rename_i pkeys hpk
                split at h
                · rename_i o' ho'
                  cases h
                  obtain ⟨h1, h2⟩ := typedOut_eq n (body r0) (c :: cs) pkeys o' ho'
                  rw [rowDue_typed n r0 (c :: cs) pkeys hact (by simp) hty hpk,
                    orOtherRow_typed r0 (c :: cs) hact (by simp) hty]
                  exact ⟨by simp [h1], h2⟩
                · cases h

theorem rowLoop_ok : ∀ (rs : List PRow) (n : Nat) (st st' : St), rowLoop n rs st = .ok st' →
    st'.warnings = st.warnings ++ rowsDue n rs ∧ st'.orOther = (st.orOther || rs.any orOtherRow)
  | [], n, st, st', h => by
    simp only [rowLoop, Except.ok.injEq] at h
    subst h; simp [rowsDue]
  | r :: rs, n, st, st', h => by
    simp only [rowLoop, rowStep] at h
    cases ho : rowOut n r with
    | error e => simp [ho] at h
    | ok o =>
      simp only [ho] at h
      obtain ⟨h1, h2⟩ := rowOut_ok n r o ho
      obtain ⟨h3, h4⟩ := rowLoop_ok rs (n + 1) _ st' h
      simp [h3, h4, h1, h2, rowsDue, Bool.or_assoc]

theorem mem_rowsDue (w : W) (rs : List PRow) (n : Nat) :
    w ∈ rowsDue n rs ↔ ∃ i r, rs[i]? = some r ∧ w ∈ rowDue (n + i) r :=
  mem_of_counted_eqns (g := rowDue) (fun _ => rfl) fun _ _ _ => rfl

theorem rowLoop_frame (w0 : List W) : ∀ (rs : List PRow) (n : Nat) (st : St),
    rowLoop n rs { st with warnings := w0 ++ st.warnings } =
      (rowLoop n rs st).map (fun s => { s with warnings := w0 ++ s.warnings })
  | [], n, st => by simp [rowLoop, Except.map]
  | r :: rs, n, st => by
    simp only [rowLoop, rowStep]
    cases ho : rowOut n r with
    | error e => simp [Except.map]
    | ok o =>
      simp only []
      have := rowLoop_frame w0 rs (n + 1) { warnings := st.warnings ++ o.ws, orOther := st.orOther || o.orOther, kept := st.kept ++ o.kept }
      simp only [List.append_assoc] at this ⊢
      exact this

/-- the spelling check for one sheet name: the warning, if any -/
def misspellW (lower : Str → Str) (key : String) (names : List Str) : List W :=
  match findSheetMisspellings lower supported key.toList names with
  | some c => [W.misspell key.toList c]
  | none => []

/-- the warnings emitted before the row loop, from an empty list -/
def preRows (lower : Str → Str) (wb : WB) (v : View) (chW : List W) : List W :=
  (if wb.settingsRows > 0 then
      (if wb.settingsHeader.contains "id_string".toList && wb.settingsHeader.contains "form_id".toList
       then [W.dupId] else [])
    else misspellW lower "settings" wb.sheetNames) ++
  (if wb.choices.isEmpty then [] else choiceHeaderWarnings v.chHeaders ++ chW) ++
  (if wb.hasEntities then [] else misspellW lower "entities" wb.sheetNames) ++
  missingCheck (findTranslations surveyTrTable v.svHeaders) (findTranslations choicesTrTable v.chHeaders)

theorem ite_append_left {α : Type} (c : Prop) [Decidable c] (w x y : List α) :
    (if c then w ++ x else w ++ y) = w ++ if c then x else y := by split <;> rfl

theorem ite_append_self {α : Type} (c : Prop) [Decidable c] (w x : List α) :
    (if c then w ++ x else w) = w ++ if c then x else [] := by split <;> simp

theorem ite_self_append {α : Type} (c : Prop) [Decidable c] (w x : List α) :
    (if c then w else w ++ x) = w ++ if c then [] else x := by split <;> simp

/-- `convertOn` in writer form -/
theorem convertOn_eq (lower : Str → Str) (wb : WB) (v : View) (w0 : List W) :
    convertOn lower wb v w0 =
      match choicesWarnings (groupChoices (numberFrom 2 v.chRows)) with
      | .error e => .error e
      | .ok chW =>
        match rowLoop 2 v.svRows { warnings := w0 ++ preRows lower wb v chW } with
        | .error e => .error e
        | .ok st => .ok ({ kept := st.kept, orOther := st.orOther },
            st.warnings ++ orOtherCheck st.orOther (findTranslations surveyTrTable v.svHeaders)
              (findTranslations choicesTrTable v.chHeaders)) := by
  unfold convertOn preRows misspellW
  cases findSheetMisspellings lower supported "settings".toList wb.sheetNames <;>
  cases findSheetMisspellings lower supported "entities".toList wb.sheetNames <;>
  simp only [ite_append_self, ite_self_append, ite_append_left, List.append_assoc, List.append_nil,
    ite_self] <;>
  rfl

def gstep (acc : List (Str × List (Nat × PRow))) (nr : Nat × PRow) : List (Str × List (Nat × PRow)) :=
  match val1 nr.2 "list name" with
  | none => acc
  | some ln =>
    if acc.any (fun e => e.1 = ln) then acc.map fun e => if e.1 = ln then (e.1, e.2 ++ [nr]) else e
    else acc ++ [(ln, [nr])]

theorem groupChoices_eq (rows : List (Nat × PRow)) : groupChoices rows = rows.foldl gstep [] := rfl

theorem seenDefaultOnly_iff (t : Tr) (ps : List (Str × Str)) (inv : TrInv t ps) :
    seenDefaultOnly t = !translated ps := by
  have hnd := inv.langsNodup
  -- both sides say that every recorded language is `default`
  have htr : translated ps = false ↔ ∀ e ∈ t.seen, e.1 = defaultLang := by
    simp only [translated, List.any_eq_false, decide_eq_true_eq, Classical.not_not]
    constructor
    · intro h e he
      obtain ⟨c, hc⟩ := (inv.keys e.1).mp (List.mem_map_of_mem he)
      exact h _ hc
    · intro h p hp
      obtain ⟨e, he, hk⟩ := List.mem_map.1 ((inv.keys p.2).mpr ⟨p.1, hp⟩)
      exact hk ▸ h e he
  -- and with distinct keys that leaves at most one entry
  have hsdo : seenDefaultOnly t = true ↔ ∀ e ∈ t.seen, e.1 = defaultLang := by
    unfold seenDefaultOnly
    match t.seen, hnd with
    | [], _ => simp
    | [e], _ => simp
    | e :: e2 :: r, hnd =>
      simp only [List.map_cons, List.nodup_cons, List.mem_cons, not_or] at hnd
      have : ¬ (e.1 = defaultLang ∧ e2.1 = defaultLang) := fun h => hnd.1.1 (h.1.trans h.2.symm)
      simp
      intro h1 h2; exact absurd ⟨h1, h2⟩ this
  have h := hsdo.trans htr.symm
  cases hs : seenDefaultOnly t <;> cases ht : translated ps <;> simp [hs, ht] at h ⊢

theorem mem_dedup (a : Str) : ∀ l : List Str, a ∈ dedup l ↔ a ∈ l
  | [] => by simp [dedup]
  | x :: xs => by
    unfold dedup
    cases hx : xs.contains x with
    | true =>
      simp only [if_true, mem_dedup a xs, List.mem_cons]
      constructor
      · exact Or.inr
      · rintro (rfl | h)
        · simpa using hx
        · exact h
    | false => simp only [Bool.false_eq_true, if_false, List.mem_cons, mem_dedup a xs]

theorem nodup_dedup : ∀ l : List Str, (dedup l).Nodup
  | [] => by simp [dedup]
  | x :: xs => by
    unfold dedup
    cases hx : xs.contains x with
    | true => simp only [if_true]; exact nodup_dedup xs
    | false =>
      simp only [Bool.false_eq_true, if_false, List.nodup_cons, mem_dedup]
      exact ⟨by simpa using hx, nodup_dedup xs⟩

def noLabelW (nr : Nat × PRow) : Option W := if !keyIn nr.2 "label" then some (W.choiceNoLabel nr.1) else none

theorem choiceListWarnings_eq : ∀ (opts : List (Nat × PRow)) (ws : List W), choiceListWarnings opts = .ok ws →
    ws = opts.filterMap noLabelW
  | [], ws, h => by simp [choiceListWarnings] at h; subst h; rfl
  | (n, r) :: rest, ws, h => by
    unfold choiceListWarnings at h
    split at h
    · cases h
    · cases hr : choiceListWarnings rest with
      | error e => simp [hr] at h
      | ok ws' =>
        simp only [hr, Except.ok.injEq] at h
        have ih := choiceListWarnings_eq rest ws' hr
        subst h
        cases hl : keyIn r "label" with
        | true => simp [hl, ih, noLabelW]
        | false => simp [hl, ih, noLabelW]

theorem choicesWarnings_eq : ∀ (gs : List (Str × List (Nat × PRow))) (ws : List W), choicesWarnings gs = .ok ws →
    ws = (gs.flatMap (·.2)).filterMap noLabelW
  | [], ws, h => by simp [choicesWarnings] at h; subst h; rfl
  | (ln, opts) :: rest, ws, h => by
    unfold choicesWarnings at h
    cases h1 : choiceListWarnings opts with
    | error e => simp [h1] at h
    | ok w1 =>
      cases h2 : choicesWarnings rest with
      | error e => simp [h1, h2] at h
      | ok w2 =>
        simp only [h1, h2, Except.ok.injEq] at h
        subst h
        simp [choiceListWarnings_eq opts w1 h1, choicesWarnings_eq rest w2 h2, List.flatMap_cons, List.filterMap_append]

def hasList (nr : Nat × PRow) : Bool := (val1 nr.2 "list name").isSome

theorem choiceDue_eq (rows : List (Nat × PRow)) : choiceDue rows = (rows.filter hasList).filterMap noLabelW := by
  unfold choiceDue
  rw [List.filterMap_filter]
  refine filterMap_congr fun nr _ => ?_
  unfold hasList noLabelW
  cases (val1 nr.2 "list name").isSome <;> rfl

theorem flatMap_upd_app {α : Type} (k : Str) (x : α) : ∀ l : List (Str × List α),
    (AList.upd k (app x) l).flatMap (·.2) ~ l.flatMap (·.2) ++ [x]
  | [] => by simp [AList.upd, app]
  | (k', v) :: r => by
    by_cases hk : k = k'
    · simp only [AList.upd, hk, if_true, List.flatMap_cons, app, List.append_assoc]
      exact List.Perm.append_left _ List.perm_append_comm
    · simp only [AList.upd, hk, if_false, List.flatMap_cons, List.append_assoc]
      exact List.Perm.append_left _ (flatMap_upd_app k x r)

theorem gstep_perm (acc : List (Str × List (Nat × PRow))) (nr : Nat × PRow) (hnd : (acc.map (·.1)).Nodup) :
    (gstep acc nr).flatMap (·.2) ~ acc.flatMap (·.2) ++ (if hasList nr then [nr] else []) ∧
      ((gstep acc nr).map (·.1)).Nodup := by
  unfold gstep hasList
  cases hln : val1 nr.2 "list name" with
  | none => simp [hnd]
  | some ln =>
    simp only [upsert_eq_upd ln nr hnd, Option.isSome_some, if_true]
    exact ⟨flatMap_upd_app ln nr acc, AList.nodup_upd hnd⟩

theorem foldl_gstep_perm : ∀ (rows : List (Nat × PRow)) (acc : List (Str × List (Nat × PRow))),
    (acc.map (·.1)).Nodup → (rows.foldl gstep acc).flatMap (·.2) ~ acc.flatMap (·.2) ++ rows.filter hasList
  | [], acc, _ => by simp
  | nr :: rows, acc, hnd => by
    obtain ⟨h1, h2⟩ := gstep_perm acc nr hnd
    have ih := foldl_gstep_perm rows (gstep acc nr) h2
    simp only [List.foldl_cons]
    refine ih.trans ?_
    refine (List.Perm.append_right _ h1).trans ?_
    cases hh : hasList nr with
    | true => simp [hh]
    | false => simp [hh]

theorem choice_no_label_perm (rows : List (Nat × PRow)) (ws : List W)
    (h : choicesWarnings (groupChoices rows) = .ok ws) : ws ~ choiceDue rows := by
  rw [choicesWarnings_eq _ ws h, choiceDue_eq, groupChoices_eq]
  apply List.Perm.filterMap
  have := foldl_gstep_perm rows [] (by simp)
  simpa using this

theorem nodup_missing_flatMap {ι : Type} (sheet : String) (lang : ι → Str) (cols : ι → List Str) (is : List ι)
    (hl : (is.map lang).Nodup) (hc : ∀ i, (cols i).Nodup) :
    (is.flatMap fun i => (cols i).map fun c => W.missingTr sheet.toList (lang i) c).Nodup := by
  unfold List.Nodup at hl ⊢
  rw [List.pairwise_map] at hl
  rw [List.pairwise_flatMap]
  constructor
  · intro i _
    exact List.Pairwise.map _ (fun a b hab h => hab (by injection h)) (hc i)
  · exact List.Pairwise.imp (fun {a b} hab x hx y hy => by
      simp only [List.mem_map] at hx hy
      obtain ⟨c1, _, rfl⟩ := hx
      obtain ⟨c2, _, rfl⟩ := hy
      intro h; injection h with _ h2 _; exact hab h2) hl

theorem nodup_missingDue (sheet : String) (ps : List (Str × Str)) : (missingDue sheet ps).Nodup := by
  unfold missingDue
  exact nodup_missing_flatMap sheet id (fun l => (dedup (ps.map (·.1))).filter fun c => trMissing ps l c)
    (dedup (ps.map (·.2))) (by rw [List.map_id]; exact nodup_dedup _)
    (fun l => List.Nodup.sublist List.filter_sublist (nodup_dedup _))

/-- `findMissing`'s `filterMap` (`g`) drops only the languages that lack nothing (`F e = []`): they contribute no warning -/
theorem missingToW_filterMap (sheet : String) (g : Str × List Str → Option (Str × List Str))
    (F : Str × List Str → List Str)
    (hg : ∀ e, (F e = [] ∧ g e = none) ∨ g e = some (e.1, F e)) : ∀ (seen : List (Str × List Str)),
    missingToW sheet (seen.filterMap g) =
      seen.flatMap fun e => (F e).map fun c => W.missingTr sheet.toList e.1 c :=
  eq_flatMap_of_eqns rfl fun e rest => by
    unfold missingToW
    rcases hg e with ⟨h1, h2⟩ | h2
    · rw [List.filterMap_cons, h2, h1]; rfl
    · rw [List.filterMap_cons, h2, List.flatMap_cons]

theorem nodup_missingToW (sheet : String) (t : Tr) (hk : (t.seen.map (·.1)).Nodup) (hc : t.cols.Nodup) :
    (missingToW sheet (findMissing t)).Nodup := by
  unfold findMissing
  split
  · simp [missingToW]
  · rw [missingToW_filterMap sheet _ (fun e => t.cols.filter (fun c => !e.2.contains c))
      (by
        intro e
        cases h : t.cols.filter (fun c => !e.2.contains c) with
        | nil => left; exact ⟨rfl, by simp only []⟩
        | cons a m => right; simp only [])]
    exact nodup_missing_flatMap sheet (fun e : Str × List Str => e.1) _ _ hk
      fun e => List.Nodup.sublist List.filter_sublist hc

/-! ### the complete `process_header` (Model/WarningsExt): the delimiter step -/

theorem splitC_no_colon (h acc : Str) (hc : ':' ∉ h) : splitC acc h = [acc.reverse ++ h] := by
  induction h generalizing acc with
  | nil => simp [splitC]
  | cons c r ih =>
    have hc1 : c ≠ ':' := fun e => hc (by simp [e])
    have hc2 : ':' ∉ r := fun m => hc (List.mem_cons_of_mem _ m)
    rw [splitC]
    · rw [ih _ hc2]; simp
    · intro e; exact hc1 e

theorem processHeader2_tail_ne_raises (al : Aliases) (cols : List Str) (t0 : Str) (rest : List Str) :
    (match lookup (toSnake t0) al with
      | some (a :: as) => HdrRes.ok ((a :: as) ++ rest)
      | _ => if cols.contains (toSnake t0) then HdrRes.ok (toSnake t0 :: rest) else HdrRes.ok (t0 :: rest)) ≠ .raises := by
  split
  · simp
  · split <;> simp

theorem headerTokens_extends (useDC : Bool) (h : Str) (ts : List Str) (hjr : strip h ≠ jrTok)
    (ho : (if useDC || isInfix "::".toList h then some ((splitDC [] h).map strip)
      else if h.contains ':' then none else some [strip h]) = some ts) :
    headerTokens useDC h = some ts := by
  unfold headerTokens
  split at ho
  · rw [if_pos ‹_›]; exact ho
  · rw [if_neg ‹_›]
    split at ho
    · cases ho
    · rename_i hc
      cases ho
      rw [splitC_no_colon h [] (by simpa using hc)]
      simp [jrMerge, hjr]

end Pyxv.Warn
