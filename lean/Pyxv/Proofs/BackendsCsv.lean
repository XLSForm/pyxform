import Pyxv.Model.BackendsGuards
import Pyxv.Proofs.BackendsLemmas
import Pyxv.Proofs.CsvReader
/-!
# CSV backend: the `csv_to_dict` round trip (`csv.reader` against the QUOTE_ALL writer: `csvRead_write` in `CsvReader.lean`)
-/
namespace Pyxv.Backends.Csv
open Pyxv

example : csvRead (csvWrite [["a,\"b\r\n".toList, []], [], [[]], ["\r".toList, "\n\"\"".toList]])
    = [["a,\"b\r\n".toList, []], [], [[]], ["\r".toList, "\n\"\"".toList]] := csvRead_write _
example : csvWrite [["a\"".toList, []], []] = "\"a\"\"\",\"\"\r\n\r\n".toList := by decide_chars

theorem firstColumn_any (r : List Str) (hne : r ≠ []) :
    firstColumn ([] :: r)
      = (none, if (r.map strip).any (· ≠ []) = true then some (r.map strip) else none) := by
  cases r with
  | nil => exact absurd rfl hne
  | cons c r =>
    have hs : strip ([] : Str) = [] := by decide
    simp only [firstColumn, hs]
    simp

theorem firstColumn_cells (r : List Str) (h : cellsOK r = true) :
    firstColumn ([] :: r) = (none, some r) := by
  simp only [cellsOK, Bool.and_eq_true] at h
  have hne : r ≠ [] := by rintro rfl; simp at h
  have hs : r.map strip = r :=
    (List.map_congr_left fun c hc => by simpa using List.all_eq_true.1 h.1 c hc).trans (List.map_id _)
  rw [firstColumn_any r hne, hs, if_pos h.2]

theorem zipDict_strip : ∀ (hdr r : List Str) (acc : KRow),
    (r.take hdr.length).all (fun c => strip c = c) = true →
    zipDict hdr (r.map strip) acc = zipDict hdr r acc
  | [], r, acc, _ => by cases r <;> simp [zipDict]
  | _ :: _, [], acc, _ => by simp [zipDict]
  | h :: hs, v :: vs, acc, hh => by
    simp only [List.length_cons, List.take_succ_cons, List.all_cons, Bool.and_eq_true,
      decide_eq_true_eq] at hh
    simp only [List.map_cons, zipDict, hh.1]
    exact zipDict_strip hs vs _ hh.2

theorem csvRow_data (P Q : Book) (low : Str) (l : List KRow) (hdr r : List Str)
    (hr : rowOK hdr r = true) (hP : low ∉ P.map (·.1)) :
    csvRow ⟨P ++ (low, .rows l) :: Q, some low, some hdr⟩ ([] :: r)
      = .ok ⟨P ++ (low, .rows (l ++ [sheetRow hdr r])) :: Q, some low, some hdr⟩ := by
  simp only [rowOK, Bool.and_eq_true, Bool.not_eq_true', List.isEmpty_eq_false_iff] at hr
  have hlen : 0 < r.length := List.length_pos_iff.mpr hr.1
  by_cases hb : (r.map strip).any (· ≠ []) = true
  · have hfc : firstColumn ([] :: r) = (none, some (r.map strip)) := by
      rw [firstColumn_any r hr.1, if_pos hb]
    -- no title, content (`hfc`): headers are set, so the row dict is appended to the sheet `low`, found and rewritten in place
    simp [csvRow, hfc, dget_mid low _ Q P hP, dset_mid low _ _ Q P hP, sheetRow,
      zipDict_strip hdr r [] hr.2]
  · have hall : ∀ c ∈ r.map strip, c = [] := by simpa using hb
    have hz : zipDict hdr r [] = [] := by
      rw [← zipDict_strip hdr r [] hr.2]; exact zipDict_blank _ _ _ hall
    have hfc : firstColumn ([] :: r) = (none, none) := by
      rw [firstColumn_any r hr.1, if_neg hb]
    -- no title, no content (`hfc`), more than the title field (`hlen`), headers set: the blank-row branch appends `{}` (`hz`)
    simp [csvRow, hfc, dget_mid low _ Q P hP, dset_mid low _ _ Q P hP, sheetRow, hz, hlen]

theorem csvRow_header (B : Book) (low : Str) (hdr : List Str)
    (hr : cellsOK hdr = true) (hB : low ++ headerSuffix ∉ B.map (·.1)) :
    csvRow ⟨B, some low, none⟩ ([] :: hdr)
      = .ok ⟨B ++ [(low ++ headerSuffix, .header (l2dl hdr))], some low, some hdr⟩ := by
  simp [csvRow, firstColumn_cells hdr hr, optStr, dset_fresh _ _ B hB]

theorem csvRow_title (ns : List Str) (E : Book) (sh : Option Str) (hd : Option (List Str)) (nm : Str)
    (h0 : nm ≠ []) (hw : weirdName nm = false)
    (h1 : nm ∉ sheetNamesKey :: E.map (·.1)) (h2 : lowerAscii nm ∉ sheetNamesKey :: E.map (·.1)) :
    csvRow ⟨(sheetNamesKey, .names ns) :: E, sh, hd⟩ [nm]
      = .ok ⟨(sheetNamesKey, .names (ns ++ [nm])) :: E ++ [(lowerAscii nm, .rows [])], some (lowerAscii nm), none⟩ := by
  have hg : dget nm ((sheetNamesKey, Val.names ns) :: E) = none := dget_fresh nm _ (by simpa using h1)
  simp only [List.mem_cons, not_or] at h2
  have hne : ¬ sheetNamesKey = lowerAscii nm := fun e => h2.1 e.symm
  simp only [dget] at hg
  -- the record is a title (`firstColumn`), the name is new (`hg`): `sheet_names` is updated in place at the head
  -- (`hne`: it is not the sheet's own key) and the empty row list is appended (`dset_fresh`)
  simp [csvRow, firstColumn, hw, h0, dhas, hg, bookNames, dget, dset, hne, dset_fresh _ _ E h2.2]

theorem csvProcess_data (P Q : Book) (low : Str) (hdr : List Str) (rest : List (List Str))
    (hP : low ∉ P.map (·.1)) : ∀ (rows : List (List Str)) (l : List KRow),
    rows.all (rowOK hdr) = true →
    csvProcess ⟨P ++ (low, .rows l) :: Q, some low, some hdr⟩ (rows.map ([] :: ·) ++ rest)
      = csvProcess ⟨P ++ (low, .rows (l ++ rows.map (sheetRow hdr))) :: Q, some low, some hdr⟩ rest
  | [], l, _ => by simp
  | r :: rows, l, h => by
    simp only [List.all_cons, Bool.and_eq_true] at h
    have ih := csvProcess_data P Q low hdr rest hP rows (l ++ [sheetRow hdr r]) h.2
    simp only [List.map_cons, List.cons_append, csvProcess, csvRow_data P Q low l hdr r h.1 hP, ih]
    simp

/-- the character map of `lowerAscii`, named so that `lc_small` can enumerate the ASCII code points -/
def lc (c : Char) : Char := if 'A' ≤ c ∧ c ≤ 'Z' then Char.ofNat (c.toNat + 32) else c

theorem lc_small : ∀ n : Fin 128, lc (lc (Char.ofNat n.val)) = lc (Char.ofNat n.val) := by decide +kernel

theorem lc_idem (c : Char) : lc (lc c) = lc c := by
  by_cases h : ('A' ≤ c ∧ c ≤ 'Z')
  · have h2 : c.toNat < 128 := by
      have := h.2
      rw [Char.le_def] at this
      have h3 : c.val.toNat ≤ ('Z' : Char).val.toNat := UInt32.le_iff_toNat_le.mp this
      have : ('Z' : Char).val.toNat = 90 := by decide
      simp only [Char.toNat]; omega
    have := lc_small ⟨c.toNat, h2⟩
    simpa [Char.ofNat_toNat] using this
  · have : lc c = c := by simp [lc, h]
    rw [this, this]

theorem lowerAscii_eq (s : Str) : lowerAscii s = s.map lc := rfl

theorem lowerAscii_idem (s : Str) : lowerAscii (lowerAscii s) = lowerAscii s := by
  simp [lowerAscii_eq, List.map_map, Function.comp_def, lc_idem]

theorem not_weird {n : Str} (h : weirdName n = false) :
    lowerAscii n ≠ sheetNamesKey ∧ endsWith (lowerAscii n) headerSuffix = false := by
  simp only [weirdName, Bool.or_eq_false_iff, decide_eq_false_iff_not] at h
  exact ⟨h.1.2, h.2⟩

/-- the dict keys in use after the sheets named `prev` -/
def keysOf (prev : List Str) : List Str :=
  sheetNamesKey :: prev.flatMap fun m => [lowerAscii m, lowerAscii m ++ headerSuffix]

theorem mem_keysOf (prev : List Str) (x : Str) :
    x ∈ keysOf prev ↔ x = sheetNamesKey ∨ ∃ m ∈ prev, x = lowerAscii m ∨ x = lowerAscii m ++ headerSuffix := by
  simp [keysOf, List.mem_flatMap]

/-- Inside the modelled fragment a sheet's lower-cased name is new iff none of the three dict keys it needs is in use
(the raw name, which `sheet_name not in _dict` tests, the lower-cased key, the `_header` key). -/
theorem CsvOK_iff_keys (prev : List Str) (hprev : ∀ m ∈ prev, weirdName m = false) (n : Str)
    (hw : weirdName n = false) :
    lowerAscii n ∉ prev.map lowerAscii ↔
      n ∉ keysOf prev ∧ lowerAscii n ∉ keysOf prev ∧ lowerAscii n ++ headerSuffix ∉ keysOf prev := by
  refine ⟨fun hd => ?_, fun h hm => ?_⟩
  · obtain ⟨hn1, hn2⟩ := not_weird hw
    have hsk : lowerAscii sheetNamesKey = sheetNamesKey := by decide
    have hhs : lowerAscii headerSuffix = headerSuffix := by decide
    have hskh : endsWith sheetNamesKey headerSuffix = false := by decide
    have hdist : ∀ m ∈ prev, lowerAscii n ≠ lowerAscii m := fun m hm e => hd (e ▸ List.mem_map_of_mem hm)
    refine ⟨?_, ?_, ?_⟩ <;> rw [mem_keysOf]
    · rintro (e | ⟨m, hm, e | e⟩)
      · exact hn1 (by rw [e, hsk])
      · exact hdist m hm (by rw [e, lowerAscii_idem])
      · rw [e, lowerAscii_append, lowerAscii_idem, hhs, endsWith_append_self] at hn2; cases hn2
    · rintro (e | ⟨m, hm, e | e⟩)
      · exact hn1 e
      · exact hdist m hm e
      · rw [e, endsWith_append_self] at hn2; cases hn2
    · rintro (e | ⟨m, hm, e | e⟩)
      · rw [← e, endsWith_append_self] at hskh; cases hskh
      · have := (not_weird (hprev m hm)).2
        rw [← e, endsWith_append_self] at this; cases this
      · exact hdist m hm (List.append_cancel_right e)
  · obtain ⟨m, hm, e⟩ := List.mem_map.1 hm
    exact h.2.1 ((mem_keysOf prev _).2 (.inr ⟨m, hm, .inl e.symm⟩))

theorem okNames_cons {prev : List Str} {s : Sheet} {wb : Workbook} (h : okNames prev (s :: wb) = true) :
    (s.name ≠ [] ∧ weirdName s.name = false ∧ lowerAscii s.name ∉ prev.map lowerAscii ∧
      cellsOK s.header = true ∧ s.rows.all (rowOK s.header) = true ∧ noTrailingBlank s = true) ∧
    okNames (prev ++ [s.name]) wb = true := by
  simp only [okNames, Bool.and_eq_true, Bool.not_eq_true', List.contains_eq_mem,
    decide_eq_false_iff_not, List.isEmpty_eq_false_iff] at h
  obtain ⟨⟨⟨⟨⟨⟨h0, hw⟩, hd⟩, hh⟩, hr⟩, ht⟩, hrest⟩ := h
  exact ⟨⟨h0, hw, hd, hh, hr, ht⟩, hrest⟩

theorem csvProcess_sheet (ns : List Str) (E : Book) (sh : Option Str) (hd : Option (List Str))
    (s : Sheet) (rest : List (List Str)) (h0 : s.name ≠ []) (hw : weirdName s.name = false)
    (h1 : s.name ∉ sheetNamesKey :: E.map (·.1)) (h2 : lowerAscii s.name ∉ sheetNamesKey :: E.map (·.1))
    (h3 : lowerAscii s.name ++ headerSuffix ∉ sheetNamesKey :: E.map (·.1))
    (hh : cellsOK s.header = true) (hr : s.rows.all (rowOK s.header) = true) :
    csvProcess ⟨(sheetNamesKey, .names ns) :: E, sh, hd⟩
        ([s.name] :: ([] :: s.header) :: s.rows.map ([] :: ·) ++ rest)
      = csvProcess ⟨(sheetNamesKey, .names (ns ++ [s.name])) :: (E ++ sheetEntries s),
          some (lowerAscii s.name), some s.header⟩ rest := by
  have happ : lowerAscii s.name ++ headerSuffix ≠ lowerAscii s.name :=
    fun e => absurd (List.append_right_eq_self.mp e) (by decide)
  have hB : lowerAscii s.name ++ headerSuffix ∉
      (((sheetNamesKey, Val.names (ns ++ [s.name])) :: (E ++ [(lowerAscii s.name, Val.rows [])])).map (·.1)) := by
    simpa [happ] using h3
  have hP : lowerAscii s.name ∉ (((sheetNamesKey, Val.names (ns ++ [s.name])) :: E).map (·.1)) := by
    simpa using h2
  have hdat := csvProcess_data ((sheetNamesKey, Val.names (ns ++ [s.name])) :: E)
    [(lowerAscii s.name ++ headerSuffix, .header (l2dl s.header))] (lowerAscii s.name) s.header rest hP
    s.rows [] hr
  simp only [List.cons_append, csvProcess, csvRow_title ns E sh hd s.name h0 hw h1 h2,
    csvRow_header _ _ _ hh hB]
  simp only [List.cons_append, List.append_assoc, List.nil_append] at hdat ⊢
  rw [hdat]
  simp [sheetEntries]

/-- the invariant of the loop over the sheets: the keys of the book are those of the sheets read so far -/
theorem csvProcess_from : ∀ (wb : Workbook) (prev ns : List Str) (E : Book) (sh : Option Str)
    (hd : Option (List Str)), sheetNamesKey :: E.map (·.1) = keysOf prev →
    (∀ m ∈ prev, weirdName m = false) → okNames prev wb = true →
    csvProcess ⟨(sheetNamesKey, .names ns) :: E, sh, hd⟩ (csvRows wb)
      = .ok (csvTrim ((sheetNamesKey, .names (ns ++ wb.map (·.name))) :: (E ++ wb.flatMap sheetEntries)))
  | [], _, ns, E, sh, hd, _, _, _ => by simp [csvRows, csvProcess]
  | s :: wb, prev, ns, E, sh, hd, hE, hprev, h => by
    obtain ⟨⟨h0, hw, hd', hh, hr, _⟩, hrest⟩ := okNames_cons h
    obtain ⟨k1, k2, k3⟩ := (CsvOK_iff_keys prev hprev s.name hw).1 hd'
    rw [← hE] at k1 k2 k3
    have hs := csvProcess_sheet ns E sh hd s (csvRows wb) h0 hw k1 k2 k3 hh hr
    have ih := csvProcess_from wb (prev ++ [s.name]) (ns ++ [s.name]) (E ++ sheetEntries s)
      (some (lowerAscii s.name)) (some s.header)
      (by simp only [keysOf, List.cons.injEq, true_and] at hE ⊢; simp [hE, sheetEntries])
      (fun m hm => (List.mem_append.1 hm).elim (hprev m) fun hm => List.mem_singleton.1 hm ▸ hw) hrest
    simp only [csvRows, List.flatMap_cons, List.cons_append, List.map_cons] at hs ih ⊢
    rw [hs, ih]
    simp

/-! ## the final trimming loop changes nothing under the guard -/

theorem csvTrim_toBook (wb : Workbook) (h : ∀ s ∈ wb, noTrailingBlank s = true) :
    csvTrim (toBook wb) = toBook wb := by
  refine (List.map_congr_left fun kv hkv => ?_).trans (List.map_id _)
  simp only [toBook, List.mem_cons, List.mem_flatMap, sheetEntries, List.not_mem_nil, or_false] at hkv
  rcases hkv with rfl | ⟨s, hs, rfl | rfl⟩
  · rfl
  · have h' : stripTrailing (·.isEmpty) (s.rows.map (sheetRow s.header)) = s.rows.map (sheetRow s.header) :=
      (noTrailingBlank_iff s).1 (h s hs)
    simp only [h']
    split <;> rfl
  · rfl

theorem noTrailing_of_okNames : ∀ (wb : Workbook) (prev : List Str), okNames prev wb = true →
    ∀ s ∈ wb, noTrailingBlank s = true
  | [], _, _, s, hs => by simp at hs
  | t :: wb, prev, h, s, hs => by
    obtain ⟨⟨_, _, _, _, _, ht⟩, hrest⟩ := okNames_cons h
    rcases List.mem_cons.mp hs with rfl | hs
    · exact ht
    · exact noTrailing_of_okNames wb _ hrest s hs

theorem csvProcess_rows (wb : Workbook) (h : CsvOK wb = true) :
    csvProcess csvAcc0 (csvRows wb) = .ok (toBook wb) := by
  have := csvProcess_from wb [] [] [] none none rfl (by simp) h
  rw [← csvTrim_toBook wb (noTrailing_of_okNames wb _ h)]
  simpa [csvAcc0, toBook] using this

theorem csv_roundtrip (wb : Workbook) (h : CsvOK wb = true) (hc : isCsv (renderCsv wb) = true) :
    csvToDict (renderCsv wb) = .ok (toBook wb) := by
  simp only [csvToDict, hc, Bool.not_true, Bool.false_eq_true, if_false]
  rw [renderCsv, csvRead_write, csvProcess_rows wb h]

/-! ## non-vacuity -/

def wbDemo : Workbook :=
  [⟨"Survey".toList, ["type".toList, "name".toList, "label".toList],
     [["text".toList, "q1".toList, "a \"quoted\", label\r\nline 2".toList], [[], "q2".toList]]⟩,
   ⟨"choices".toList, ["list_name".toList, [], "name".toList], [["l".toList, [], "a".toList]]⟩,
   ⟨"x y".toList, ["h".toList], []⟩]

theorem wbDemo_ok : CsvOK wbDemo = true := by unfold wbDemo; decide_chars
theorem wbDemo_csv : isCsv (renderCsv wbDemo) = true := by unfold wbDemo; decide_chars
example : CsvOK wbDemo = true := wbDemo_ok
example : isCsv (renderCsv wbDemo) = true := wbDemo_csv
theorem wbDemo_rt : csvToDict (renderCsv wbDemo) = .ok (toBook wbDemo) := csv_roundtrip wbDemo wbDemo_ok wbDemo_csv
example : csvToDict (renderCsv wbDemo) = .ok (toBook wbDemo) := wbDemo_rt
example : csvProcess csvAcc0 (csvRows wbDemo) = .ok (toBook wbDemo) := csvProcess_rows wbDemo wbDemo_ok
-- the guard is not trivially true: trailing blank rows, empty row lists, unstripped cells, clashing names
example : CsvOK [⟨"a".toList, ["h".toList], [[[]]]⟩] = false := by decide_chars
example : CsvOK [⟨"a".toList, ["h".toList], [["v".toList], [[]]]⟩] = false := by decide_chars
example : CsvOK [⟨"a".toList, ["h".toList], [["v".toList], []]⟩] = false := by decide_chars
example : CsvOK [⟨"a".toList, ["h ".toList], []⟩] = false := by decide_chars
example : CsvOK [⟨"a".toList, ["h".toList], [[" v".toList]]⟩] = false := by decide_chars
example : CsvOK [⟨"A".toList, ["h".toList], []⟩, ⟨"a".toList, ["h".toList], []⟩] = false := by decide_chars
example : CsvOK [⟨"a_header".toList, ["h".toList], []⟩] = false := by decide_chars

-- a cell beyond the header need not be stripped
example : CsvOK [⟨"a".toList, ["h".toList], [["v".toList, " x ".toList]]⟩] = true := by decide_chars

def isOkWith (r : Except Err Book) (b : Book) : Bool := match r with | .ok b' => b' = b | .error _ => false

theorem isOkWith_ok (b : Book) : isOkWith (.ok b) b = true := decide_eq_true rfl

-- blank rows amongst the data are inside the guard and are kept as `{}` (also a blank row whose cell
-- beyond the header is a space)
def wbInterior : Workbook :=
  [⟨"a".toList, ["h".toList, "i".toList], [["a".toList], [[]], [[], [], " ".toList], ["b".toList]]⟩]
theorem wbInterior_ok : CsvOK wbInterior = true := by unfold wbInterior; decide_chars
example : CsvOK wbInterior = true := wbInterior_ok
example : toBook wbInterior =
    [(sheetNamesKey, .names ["a".toList]),
     ("a".toList, .rows [[(some "h".toList, "a".toList)], [], [], [(some "h".toList, "b".toList)]]),
     ("a_header".toList, .header (l2dl ["h".toList, "i".toList]))] := by unfold wbInterior; decide_chars
theorem wbInterior_rt : csvToDict (renderCsv wbInterior) = .ok (toBook wbInterior) :=
  csv_roundtrip wbInterior wbInterior_ok (by unfold wbInterior; decide_chars)
example : csvToDict (renderCsv wbInterior) = .ok (toBook wbInterior) := wbInterior_rt
example : isOkWith (csvToDict (renderCsv wbInterior)) (toBook wbInterior) = true := by
  rw [wbInterior_rt]; exact isOkWith_ok _

-- a cell with an interior U+00A0 is inside the guard; both sides read it as a space
def wbNbsp : Workbook := [⟨"a".toList, ["h".toList, "i".toList], [[['x', Char.ofNat 160, 'y'], "z".toList]]⟩]
theorem wbNbsp_ok : CsvOK wbNbsp = true := by unfold wbNbsp; decide_chars
example : CsvOK wbNbsp = true := wbNbsp_ok
example : toBook wbNbsp =
    [(sheetNamesKey, .names ["a".toList]),
     ("a".toList, .rows [[(some "h".toList, "x y".toList), (some "i".toList, "z".toList)]]),
     ("a_header".toList, .header (l2dl ["h".toList, "i".toList]))] := by unfold wbNbsp; decide_chars
example : csvToDict (renderCsv wbNbsp) = .ok (toBook wbNbsp) :=
  csv_roundtrip wbNbsp wbNbsp_ok (by unfold wbNbsp; decide_chars)

-- outside the guard the round trip really fails: a trailing blank data row is dropped, and a second
-- sheet whose name differs only in case is merged into the first
def wbBlank : Workbook := [⟨"a".toList, ["h".toList, "i".toList, "j".toList], [["v".toList], [[]]]⟩]
def wbCase : Workbook := [⟨"A".toList, ["h".toList, "i".toList], []⟩, ⟨"a".toList, ["h".toList, "i".toList], []⟩]
example : isOkWith (csvToDict (renderCsv wbDemo)) (toBook wbDemo) = true := by
  rw [wbDemo_rt]; exact isOkWith_ok _
example : CsvOK wbBlank = false ∧ isOkWith (csvToDict (renderCsv wbBlank)) (toBook wbBlank) = false := by
  unfold wbBlank; decide_chars
example : CsvOK wbCase = false ∧ isOkWith (csvToDict (renderCsv wbCase)) (toBook wbCase) = false := by
  unfold wbCase; decide_chars

end Pyxv.Backends.Csv
