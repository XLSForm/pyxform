import Pyxv.Model.BackendsGuards
import Pyxv.Proofs.Literals
import Pyxv.Proofs.BaseLemmas
/-! Shared by the backend proofs: trailing trims, the empty-run loops, the Python dict, one sheet added to the book
(`toBook_add`), `PurePath`. -/
namespace Pyxv.Backends
open Pyxv

/-- kernel evaluation after the string literals have become character lists (`Pyxv/Proofs/Literals.lean`) -/
macro "decide_chars" : tactic => `(tactic| (simp only [toList_lit rfl]; decide +kernel))

theorem stripTrailing_nil {α} (p : α → Bool) : stripTrailing p [] = [] := rfl

theorem stripTrailing_snoc_neg {α} (p : α → Bool) (l : List α) (x : α) (h : p x = false) :
    stripTrailing p (l ++ [x]) = l ++ [x] := by
  simp [stripTrailing, h]

theorem stripTrailing_snoc_pos {α} (p : α → Bool) (l : List α) (x : α) (h : p x = true) :
    stripTrailing p (l ++ [x]) = stripTrailing p l := by
  simp [stripTrailing, h]

theorem stripTrailing_append_all {α} (p : α → Bool) (l t : List α) (h : ∀ x ∈ t, p x = true) :
    stripTrailing p (l ++ t) = stripTrailing p l :=
  dropEnd_append_all p l t h

/-- number of trailing elements satisfying `p`: what `adjacent_empty_cols` / `adjacent_empty_rows` count of the list kept so far -/
def trail {α} (p : α → Bool) (l : List α) : Nat := (l.reverse.takeWhile p).length

theorem trail_snoc {α} (p : α → Bool) (l : List α) (x : α) :
    trail p (l ++ [x]) = if p x then trail p l + 1 else 0 := by
  unfold trail
  rw [List.reverse_append, List.reverse_singleton, List.singleton_append, List.takeWhile_cons]
  split <;> rfl

theorem trail_decomp {α} (p : α → Bool) (l : List α) :
    ∃ t, l = stripTrailing p l ++ t ∧ t.length = trail p l ∧ ∀ x ∈ t, p x = true :=
  dropEnd_decomp p l

theorem stripTrailing_decomp {α} (p : α → Bool) (l : List α) :
    ∃ t, l = stripTrailing p l ++ t ∧ ∀ x ∈ t, p x = true :=
  let ⟨t, h, _, hall⟩ := trail_decomp p l
  ⟨t, h, hall⟩

theorem stripTrailing_last_not {α} (p : α → Bool) {l u : List α} {b : α}
    (h : stripTrailing p l = u ++ [b]) : p b = false :=
  dropEnd_last_not p h

theorem stripTrailing_idem {α} (p : α → Bool) (l : List α) :
    stripTrailing p (stripTrailing p l) = stripTrailing p l :=
  dropEnd_idem p l

theorem stripTrailing_filter {α} (p : α → Bool) (l : List α) :
    (stripTrailing p l).filter (fun x => !p x) = l.filter (fun x => !p x) := by
  obtain ⟨t, ht, hall⟩ := stripTrailing_decomp p l
  conv => rhs; rw [ht]
  rw [List.filter_append]
  have : t.filter (fun x => !p x) = [] := by
    rw [List.filter_eq_nil_iff]
    intro x hx
    simp [hall x hx]
  simp [this]

theorem trimTrailing_zero {α} (l : List α) : trimTrailing l 0 = l := by simp [trimTrailing]

theorem trimTrailing_eq_take {α} (l : List α) (n : Nat) : trimTrailing l n = l.take (l.length - n) := by
  unfold trimTrailing
  split
  · rfl
  · next hn => rw [Nat.eq_zero_of_not_pos hn, Nat.sub_zero, List.take_length]

theorem trimTrailing_length {α} (l : List α) (n : Nat) : (trimTrailing l n).length = l.length - n := by
  rw [trimTrailing_eq_take, List.length_take, Nat.min_eq_left (Nat.sub_le _ _)]

theorem trimTrailing_prefix {α} (l : List α) (n : Nat) : trimTrailing l n <+: l :=
  trimTrailing_eq_take l n ▸ List.take_prefix _ _

theorem trimTrailing_append_length {α} {l a t : List α} (h : l = a ++ t) : trimTrailing l t.length = a := by
  rw [trimTrailing_eq_take, h, List.length_append, Nat.add_sub_cancel, List.take_left]

theorem trimTrailing_trail {α} (p : α → Bool) (l : List α) : trimTrailing l (trail p l) = stripTrailing p l := by
  obtain ⟨t, h, hl, -⟩ := trail_decomp p l
  exact hl ▸ trimTrailing_append_length h

theorem trail_append_replicate {α} (p : α → Bool) {pre : List α} {x : α} (hp : stripTrailing p pre = pre) (hx : p x = true) :
    ∀ n, trail p (pre ++ List.replicate n x) = n
  | 0 => by
    obtain ⟨t, h, hl, -⟩ := trail_decomp p pre
    rw [hp] at h
    rw [List.replicate_zero, List.append_nil, ← hl, List.self_eq_append_right.1 h]; rfl
  | n + 1 => by
    rw [List.replicate_succ', ← List.append_assoc, trail_snoc, if_pos hx, trail_append_replicate p hp hx n]

/-- the state at the `break` of `headersLoop` (the appended `x` is not counted): the run goes, the new `x` stays -/
theorem trimTrailing_snoc_trail {α} (p : α → Bool) {x : α} (hx : ∀ y, p y = true → y = x) (l : List α) :
    trimTrailing (l ++ [x]) (trail p l) = stripTrailing p l ++ [x] ∧
      ∃ t, l ++ [x] = stripTrailing p l ++ [x] ++ t ∧ ∀ y ∈ t, p y = true := by
  obtain ⟨t, h, hl, hall⟩ := trail_decomp p l
  have ht : l ++ [x] = stripTrailing p l ++ [x] ++ t := by
    conv => lhs; rw [h]
    rw [List.eq_replicate_iff.2 ⟨rfl, fun y hy => hx y (hall y hy)⟩, List.append_assoc,
      List.append_assoc, ← List.replicate_succ', List.replicate_succ]; rfl
  exact ⟨hl ▸ trimTrailing_append_length ht, t, ht, hall⟩

/-- declarative form: any block of empty rows followed by a non-empty row has at most `lim` rows -/
def InteriorRunsLE {α} (lim : Nat) (ds : List (List α)) : Prop :=
  ∀ pre mid post x, ds = pre ++ mid ++ x :: post → (∀ r ∈ mid, r = []) → x ≠ [] → mid.length ≤ lim

theorem runsInt_of_interior {α} (lim : Nat) : ∀ (rest : List (List α)) (k : Nat),
    InteriorRunsLE lim (List.replicate k [] ++ rest) → runsInt lim k rest = true
  | [], _, _ => rfl
  | r :: rest, k, h => by
    unfold runsInt
    split
    · rename_i he
      have hr : r = [] := List.isEmpty_iff.1 he
      subst hr
      apply runsInt_of_interior lim rest (k + 1)
      have : List.replicate (k + 1) ([] : List α) ++ rest = List.replicate k [] ++ [] :: rest := by
        rw [List.replicate_succ', List.append_assoc]; rfl
      rw [this]; exact h
    · rename_i he
      have hr : r ≠ [] := fun hh => he (List.isEmpty_iff.2 hh)
      have hk : k ≤ lim := by
        have := h [] (List.replicate k []) rest r (by simp) (by intro x hx; exact (List.eq_of_mem_replicate hx)) hr
        simpa using this
      simp only [hk, decide_true, Bool.true_and]
      apply runsInt_of_interior lim rest 0
      intro pre mid post x hd hm hx
      apply h (List.replicate k [] ++ [r] ++ pre) mid post x _ hm hx
      simp at hd
      simp [hd]

theorem runsInt_all_empty {α} (lim : Nat) : ∀ (rest : List (List α)) (k : Nat), lim < k →
    runsInt lim k rest = true → ∀ r ∈ rest, r.isEmpty = true
  | [], _, _, _ => by simp
  | r :: rest, k, hk, h => by
    unfold runsInt at h
    split at h
    · rename_i he
      exact List.forall_mem_cons.2 ⟨he, runsInt_all_empty lim rest (k + 1) (by omega) h⟩
    · simp at h; omega

theorem rowsLoop_spec {α} (lim : Nat) : ∀ (rest : List (List α)) (adj : Nat) (acc : List (List α)),
    adj = trail (·.isEmpty) acc → runsInt lim adj rest = true →
    trimTrailing (rowsLoop lim adj acc rest).1 (rowsLoop lim adj acc rest).2 = stripTrailing (·.isEmpty) (acc ++ rest)
  | [], adj, acc, ha, _ => by rw [rowsLoop, ha, trimTrailing_trail, List.append_nil]
  | r :: rest, adj, acc, ha, hr => by
    unfold runsInt at hr
    unfold rowsLoop
    by_cases he : r.isEmpty = true
    · rw [if_pos he] at hr ⊢
      by_cases hlim : lim = adj
      · -- the break: everything that follows is empty
        rw [if_pos hlim, ha, trimTrailing_trail, stripTrailing_append_all]
        exact List.forall_mem_cons.2 ⟨he, runsInt_all_empty lim rest (adj + 1) (by omega) hr⟩
      · rw [if_neg hlim, rowsLoop_spec lim rest (adj + 1) (acc ++ [r]) (by rw [trail_snoc, if_pos he, ha]) hr,
          List.append_assoc]; rfl
    · rw [if_neg he] at hr ⊢
      rw [rowsLoop_spec lim rest 0 (acc ++ [r]) (by rw [trail_snoc, if_neg he]) (Bool.and_eq_true _ _ ▸ hr).2,
        List.append_assoc]; rfl

theorem getRowsOf_spec {α} (lim : Nat) (ds : List (List α)) (h : runsInt lim 0 ds = true) :
    getRowsOf lim ds = stripTrailing (·.isEmpty) ds :=
  rowsLoop_spec lim ds 0 [] rfl h

/-- a header cell as `get_excel_column_headers` stores it -/
def cleanOpt (h : Option Str) : Option Str :=
  match h with
  | some s => if allSpace s then none else some (cleanHeader s)
  | none => none

/-- every run of empty header cells (trailing ones included) has length ≤ `lim` -/
def runsAll (lim : Nat) : Nat → List (Option Str) → Bool
  | _, [] => true
  | k, h :: rest => if isEmptyVal h then decide (k < lim) && runsAll lim (k + 1) rest else runsAll lim 0 rest

theorem cleanOpt_none_of_empty (h : Option Str) (he : isEmptyVal h = true) : cleanOpt h = none := by
  cases h with
  | none => rfl
  | some s => simp [isEmptyVal] at he; simp [cleanOpt, he]

theorem cleanOpt_some_of_nonempty (s : Str) (he : isEmptyVal (some s) = false) :
    cleanOpt (some s) = some (cleanHeader s) := by
  simp [isEmptyVal] at he; simp [cleanOpt, he]

/-! ### header cells: interior runs only (a trailing run may be arbitrarily long) -/

/-- every run of empty header cells that is *followed by a non-empty one* has length ≤ `lim` -/
def runsIntH (lim : Nat) : Nat → List (Option Str) → Bool
  | _, [] => true
  | k, h :: rest => if isEmptyVal h then runsIntH lim (k + 1) rest else decide (k ≤ lim) && runsIntH lim 0 rest

theorem runsIntH_eq (lim : Nat) : ∀ (l : List (Option Str)) (k : Nat),
    runsIntH lim k l = runsInt lim k (l.map fun h => if isEmptyVal h then [] else [()])
  | [], _ => rfl
  | h :: l, k => by
    rw [runsIntH, List.map_cons, runsInt, runsIntH_eq lim l, runsIntH_eq lim l]
    by_cases he : isEmptyVal h = true
    · rw [if_pos he, if_pos he]; rfl
    · rw [if_neg he, if_neg he]; rfl

theorem runsIntH_all_empty (lim : Nat) (rest : List (Option Str)) (k : Nat) (hk : lim < k)
    (h : runsIntH lim k rest = true) : ∀ x ∈ rest, isEmptyVal x = true := fun x hx => by
  have := runsInt_all_empty lim _ k hk (runsIntH_eq lim rest k ▸ h) _ (List.mem_map_of_mem hx)
  by_cases he : isEmptyVal x = true
  · exact he
  · rw [if_neg he] at this; cases this

/-- With only the interior runs bounded the loop may stop inside a long trailing run: the result is then the cleaned row without
    its trailing empties plus the one `None` appended before the limit test (the case flagged `runsAll … = false`). -/
theorem headersLoop_trail (lim : Nat) : ∀ (rest : List (Option Str)) (adj : Nat) (acc : List (Option Str))
    (res : List (Option Str) × Nat),
    adj = trail Option.isNone acc → runsIntH lim adj rest = true → headersLoop lim adj acc rest = .ok res →
    (∃ t, acc ++ rest.map cleanOpt = trimTrailing res.1 res.2 ++ t ∧ ∀ x ∈ t, x = none) ∧
    (trimTrailing res.1 res.2 = stripTrailing Option.isNone (acc ++ rest.map cleanOpt) ∨
      trimTrailing res.1 res.2 = stripTrailing Option.isNone (acc ++ rest.map cleanOpt) ++ [none] ∧
        runsAll lim adj rest = false)
  | [], adj, acc, res, ha, _, h => by
    cases h
    obtain ⟨t, h, -, hall⟩ := trail_decomp Option.isNone acc
    simp only [List.map_nil, List.append_nil, ha, trimTrailing_trail]
    exact ⟨⟨t, h, fun x hx => Option.isNone_iff_eq_none.1 (hall x hx)⟩, .inl trivial⟩
  | x :: rest, adj, acc, res, ha, hr, h => by
    unfold runsIntH at hr
    unfold headersLoop at h
    by_cases he : isEmptyVal x = true
    · rw [if_pos he] at hr h
      have hx : cleanOpt x = none := cleanOpt_none_of_empty x he
      rw [List.map_cons, hx]
      by_cases hlim : lim = adj
      · -- the break: the `None` is appended, everything that follows is empty
        rw [if_pos hlim] at h
        cases h
        have hrest : ∀ y ∈ rest.map cleanOpt, y = none := fun y hy => by
          obtain ⟨z, hz, rfl⟩ := List.mem_map.1 hy
          exact cleanOpt_none_of_empty z (runsIntH_all_empty lim rest (adj + 1) (by omega) hr z hz)
        obtain ⟨h1, t, h2, ht⟩ := trimTrailing_snoc_trail Option.isNone (fun _ => Option.isNone_iff_eq_none.1) acc
        replace ht := fun y hy => Option.isNone_iff_eq_none.1 (ht y hy)
        have e : acc ++ none :: rest.map cleanOpt = acc ++ [none] ++ rest.map cleanOpt := by simp
        have hf : runsAll lim adj (x :: rest) = false := by simp [runsAll, he, hlim]
        simp only [ha, h1] at hf ⊢
        refine ⟨⟨t ++ rest.map cleanOpt, by rw [e, h2, List.append_assoc],
          fun y hy => (List.mem_append.1 hy).elim (ht y) (hrest y)⟩, .inr ⟨?_, hf⟩⟩
        rw [stripTrailing_append_all _ acc _ fun y hy => by
          rw [(List.mem_cons.1 hy).elim id (hrest y)]; rfl]
      · rw [if_neg hlim] at h
        have ih := headersLoop_trail lim rest (adj + 1) (acc ++ [none]) res (by rw [trail_snoc, ha]; rfl) hr h
        rw [List.append_assoc] at ih
        exact ⟨ih.1, ih.2.imp id fun ⟨h1, h2⟩ => ⟨h1, by simp [runsAll, he, h2]⟩⟩
    · rw [if_neg he] at hr h
      cases x with
      | none => exact absurd rfl he
      | some s =>
        simp only at h
        split at h
        · cases h
        · have ih := headersLoop_trail lim rest 0 (acc ++ [some (cleanHeader s)]) res (by rw [trail_snoc]; rfl)
            (Bool.and_eq_true _ _ ▸ hr).2 h
          rw [List.append_assoc] at ih
          rw [List.map_cons, cleanOpt_some_of_nonempty s (by simpa using he)]
          exact ⟨ih.1, ih.2.imp id fun ⟨h1, h2⟩ => ⟨h1, by simp [runsAll, he, h2]⟩⟩

theorem runsIntH_of_runsAll (lim : Nat) : ∀ (rest : List (Option Str)) (k : Nat), k ≤ lim →
    runsAll lim k rest = true → runsIntH lim k rest = true
  | [], _, _, _ => rfl
  | x :: rest, k, hk, h => by
    unfold runsAll at h
    unfold runsIntH
    split at h
    · rename_i he
      simp only [Bool.and_eq_true, decide_eq_true_eq] at h
      rw [if_pos he]
      exact runsIntH_of_runsAll lim rest (k + 1) h.1 h.2
    · rename_i he
      rw [if_neg he, Bool.and_eq_true, decide_eq_true_eq]
      exact ⟨hk, runsIntH_of_runsAll lim rest 0 (Nat.zero_le _) h⟩

/-- `headersLoop_trail` for an accumulator written as its kept part followed by the counted `None`s -/
theorem headersLoop_interior (lim : Nat) (rest : List (Option Str)) (adj : Nat) (pre : List (Option Str))
    (res : List (Option Str) × Nat) (_ : adj ≤ lim) (hp : stripTrailing Option.isNone pre = pre)
    (hr : runsIntH lim adj rest = true) (h : headersLoop lim adj (pre ++ List.replicate adj none) rest = .ok res) :
    trimTrailing res.1 res.2 = stripTrailing Option.isNone (pre ++ List.replicate adj none ++ rest.map cleanOpt) ∨
    (trimTrailing res.1 res.2 = stripTrailing Option.isNone (pre ++ List.replicate adj none ++ rest.map cleanOpt) ++ [none] ∧
      (∃ t, pre ++ List.replicate adj none ++ rest.map cleanOpt =
          stripTrailing Option.isNone (pre ++ List.replicate adj none ++ rest.map cleanOpt) ++ none :: t ∧
        ∀ x ∈ t, x = none) ∧
      runsAll lim adj rest = false) := by
  obtain ⟨⟨t, hu, hn⟩, hc⟩ := headersLoop_trail lim rest adj _ res (trail_append_replicate _ hp rfl adj).symm hr h
  exact hc.imp id fun ⟨h1, h2⟩ => ⟨h1, ⟨t, hu.trans (by rw [h1, List.append_assoc]; rfl), hn⟩, h2⟩

/-! ### Python dict: `dset` / `dget` are `AList.set` / `AList.get` (`DictLemmas.lean`) -/

/-- the equations of `AList.set`, with the key test written `k' = k` -/
theorem dset_eq {κ β} [DecidableEq κ] (k : κ) (v : β) : ∀ l : List (κ × β), dset k v l = AList.set k v l :=
  AList.set_of_eqns rfl fun _ _ _ => ite_congr (propext eq_comm) (fun _ => rfl) fun _ => rfl

theorem dget_eq {κ β} [DecidableEq κ] (k : κ) : ∀ l : List (κ × β), dget k l = AList.get k l :=
  AList.get_of_eqns rfl fun _ _ _ => ite_congr (propext eq_comm) (fun _ => rfl) fun _ => rfl

theorem dset_fresh {κ β} [DecidableEq κ] (k : κ) (v : β) (l : List (κ × β)) (h : k ∉ l.map (·.1)) :
    dset k v l = l ++ [(k, v)] :=
  dset_eq k v l ▸ AList.set_of_not_mem v h

theorem dset_mid {κ β} [DecidableEq κ] (k : κ) (v v' : β) (r l : List (κ × β)) (h : k ∉ l.map (·.1)) :
    dset k v (l ++ (k, v') :: r) = l ++ (k, v) :: r :=
  dset_eq k v _ ▸ AList.upd_append_cons _ v' r h

theorem dget_mid {κ β} [DecidableEq κ] (k : κ) (v' : β) (r l : List (κ × β)) (h : k ∉ l.map (·.1)) :
    dget k (l ++ (k, v') :: r) = some v' := by
  rw [dget_eq, AList.get_append, AList.get_eq_none_iff.2 h, Option.none_or, AList.get_cons_self]

theorem dget_fresh {κ β} [DecidableEq κ] (k : κ) (l : List (κ × β)) (h : k ∉ l.map (·.1)) : dget k l = none :=
  dget_eq k l ▸ AList.get_eq_none_iff.2 h

theorem dset_dset {κ β} [DecidableEq κ] (k : κ) (v v' : β) (l : List (κ × β)) :
    dset k v (dset k v' l) = dset k v l := by
  simp only [dset_eq, AList.set_set]

theorem replaceNbsp_of_not_mem (t : Str) (h : nbsp ∉ t) : replaceNbsp t = t := by
  unfold replaceNbsp
  conv => rhs; rw [← List.map_id t]
  exact List.map_congr_left fun c hc => if_neg fun (e : c = nbsp) => h (e ▸ hc)

theorem zipDict_blank : ∀ (hs vs : List Str) (acc : KRow), (∀ c ∈ vs, c = []) → zipDict hs vs acc = acc
  | [], vs, acc, _ => by cases vs <;> simp [zipDict]
  | _ :: _, [], acc, _ => by simp [zipDict]
  | h :: hs, v :: vs, acc, hh => by
    have hv : v = [] := hh v (by simp)
    simp only [zipDict, hv, if_true]
    exact zipDict_blank hs vs acc (fun c hc => hh c (by simp [hc]))

theorem noTrailingBlank_iff (s : Sheet) :
    noTrailingBlank s = true ↔ stripTrailing (·.isEmpty) (dictRows s) = dictRows s := by
  simp [noTrailingBlank]

/-! ### the dict container, sheet by sheet: the three assignments of `process_md_data` / `process_workbook` -/

abbrev lw (s : Sheet) : Str := lowerAscii s.name

/-- a supported sheet name is not `sheet_names`, and no `<name>_header` key is `sheet_names` or a supported name -/
def supportedKeysOK : Bool :=
  supported.all fun a =>
    a != sheetNamesKey && (a ++ headerSuffix) != sheetNamesKey &&
      supported.all fun b => a != b ++ headerSuffix

theorem Md.supported_keys_ok : supportedKeysOK = true := by
  unfold supportedKeysOK supported Gen.supportedSheetNames sheetNamesKey headerSuffix
  simp only [List.map_cons, List.map_nil]
  decide_chars

theorem supported_keys {a : Str} (ha : a ∈ supported) :
    a ≠ sheetNamesKey ∧ a ++ headerSuffix ≠ sheetNamesKey ∧
      ∀ b ∈ supported, a ≠ b ++ headerSuffix := by
  have h := Md.supported_keys_ok
  simp only [supportedKeysOK, List.all_eq_true, Bool.and_eq_true, bne_iff_ne, ne_eq] at h
  obtain ⟨⟨h1, h2⟩, h3⟩ := h a ha
  exact ⟨h1, h2, h3⟩

theorem keys_entries {k : Str} {pre : Workbook}
    (h : k ∈ (pre.flatMap sheetEntries).map (·.1)) :
    ∃ p ∈ pre, k = lw p ∨ k = lw p ++ headerSuffix := by
  simp only [List.mem_map, List.mem_flatMap] at h
  obtain ⟨⟨k', v⟩, ⟨p, hp, hkv⟩, rfl⟩ := h
  refine ⟨p, hp, ?_⟩
  simp only [sheetEntries, List.mem_cons, Prod.mk.injEq, List.not_mem_nil, or_false] at hkv
  exact hkv.imp (·.1) (·.1)

theorem bookNames_toBook (pre : Workbook) : bookNames (toBook pre) = pre.map (·.name) := by
  simp [bookNames, toBook, dget]

theorem toBook_add (pre : Workbook) (s : Sheet) (hpre : ∀ p ∈ pre, lw p ∈ supported)
    (hs : lw s ∈ supported) (hfresh : lw s ∉ pre.map lw) :
    dset (lw s ++ headerSuffix) (.header (l2dl s.header)) (dset (lw s) (.rows (dictRows s))
      (dset sheetNamesKey (.names (bookNames (toBook pre) ++ [s.name])) (toBook pre))) =
    toBook (pre ++ [s]) := by
  obtain ⟨k1, k2, k3⟩ := supported_keys hs
  have f1 : lw s ∉ (pre.flatMap sheetEntries).map (·.1) := by
    intro hm
    obtain ⟨p, hp, h | h⟩ := keys_entries hm
    · exact hfresh (h ▸ List.mem_map_of_mem hp)
    · exact k3 _ (hpre p hp) h
  have f2 : lw s ++ headerSuffix ∉ (pre.flatMap sheetEntries ++ [(lw s, Val.rows (dictRows s))]).map (·.1) := by
    intro hm
    simp only [List.map_append, List.map_cons, List.map_nil, List.mem_append, List.mem_singleton] at hm
    rcases hm with hm | hm
    · obtain ⟨p, hp, h | h⟩ := keys_entries hm
      · exact (supported_keys (hpre p hp)).2.2 _ hs h.symm
      · exact hfresh (List.append_cancel_right h ▸ List.mem_map_of_mem hp)
    · exact k3 _ hs hm.symm
  rw [bookNames_toBook]
  simp only [toBook, dset, if_true, Ne.symm k1, Ne.symm k2, if_false, dset_fresh _ _ _ f1, dset_fresh _ _ _ f2]
  simp [sheetEntries, dictRows]

/-- the invariant of the loops over the sheets (earlier keys supported, all keys pairwise different), one step -/
theorem keys_step {pre wb : Workbook} {s : Sheet} (hpre : ∀ p ∈ pre, lw p ∈ supported)
    (hs : lw s ∈ supported) (hd : ((pre ++ s :: wb).map lw).Nodup) :
    lw s ∉ pre.map lw ∧ (∀ p ∈ pre ++ [s], lw p ∈ supported) ∧ ((pre ++ [s] ++ wb).map lw).Nodup :=
  ⟨fun hm => (List.nodup_append.1 (List.map_append ▸ hd)).2.2 _ hm _ (by simp) rfl,
    fun p hp => (List.mem_append.1 hp).elim (hpre p) fun hp => List.mem_singleton.1 hp ▸ hs,
    by simpa using hd⟩

theorem distinctB_iff : ∀ l : List Str, Md.distinctB l = true ↔ l.Nodup
  | [] => by simp [Md.distinctB]
  | x :: xs => by simp [Md.distinctB, distinctB_iff xs, List.nodup_cons]

theorem all_ne_of_not_mem {c : Char} {l : Str} (h : c ∉ l) : ∀ a ∈ l, decide (a ≠ c) = true :=
  fun _ ha => decide_eq_true fun e => h (e ▸ ha)

theorem takeWhile_ne_append (c : Char) (l t : Str) (h : c ∉ l) : (l ++ c :: t).takeWhile (· ≠ c) = l := by
  rw [List.takeWhile_append_of_pos (all_ne_of_not_mem h)]; simp

theorem dropWhile_ne_append (c : Char) (l t : Str) (h : c ∉ l) : (l ++ c :: t).dropWhile (· ≠ c) = c :: t := by
  rw [List.dropWhile_append_of_pos (all_ne_of_not_mem h)]; simp

theorem takeWhile_ne_all (c : Char) (l : Str) (h : c ∉ l) : l.takeWhile (· ≠ c) = l := by
  simpa using List.takeWhile_append_of_pos (l₂ := []) (all_ne_of_not_mem h)

theorem dropWhile_ne_none (c : Char) (l : Str) (h : c ∉ l) : l.dropWhile (· ≠ c) = [] :=
  dropWhile_eq_nil (all_ne_of_not_mem h)

theorem splitLastDot_append (base ext : Str) (h : '.' ∉ ext) :
    splitLastDot (base ++ '.' :: ext) = some (base, ext) := by
  have hr : (base ++ '.' :: ext).reverse = ext.reverse ++ '.' :: base.reverse := by simp
  have hn : '.' ∉ ext.reverse := by simpa using h
  simp only [splitLastDot, hr, dropWhile_ne_append _ _ _ hn, takeWhile_ne_append _ _ _ hn, List.reverse_reverse]

theorem splitLastDot_none (n : Str) (h : '.' ∉ n) : splitLastDot n = none := by
  have hn : '.' ∉ n.reverse := by simpa using h
  simp only [splitLastDot, dropWhile_ne_none _ _ hn]

theorem splitLastDot_some (n b a : Str) (h : splitLastDot n = some (b, a)) : n = b ++ '.' :: a ∧ '.' ∉ a := by
  unfold splitLastDot at h
  simp only at h
  split at h
  · cases h
  · rename_i x beforeRev hd
    cases h
    have hx : x = '.' := by simpa using dropWhile_head_not _ hd
    have h1 := List.takeWhile_append_dropWhile (p := (· ≠ '.')) (l := n.reverse)
    rw [hd, hx] at h1
    refine ⟨by simpa using (congrArg List.reverse h1).symm, fun hm => ?_⟩
    simpa using List.all_eq_true.1 (List.all_takeWhile (p := (· ≠ '.'))) '.' (List.mem_reverse.1 hm)

theorem pathStem_append_pathSuffix (n : Str) : pathStem n ++ pathSuffix n = n := by
  unfold pathStem pathSuffix
  cases h : splitLastDot n with
  | none => simp
  | some ba =>
    obtain ⟨b, a⟩ := ba
    simp only
    split
    · simp
    · exact (splitLastDot_some n b a h).1.symm

theorem pathStem_ext (base ext : Str) (hb : base ≠ []) (he : ext ≠ []) (hd : '.' ∉ ext) :
    pathStem (base ++ '.' :: ext) = base ∧ pathSuffix (base ++ '.' :: ext) = '.' :: ext := by
  have hb' : base.isEmpty = false := by cases base <;> simp_all
  have he' : ext.isEmpty = false := by cases ext <;> simp_all
  simp [pathStem, pathSuffix, splitLastDot_append base ext hd, hb', he']

theorem pathStem_no_dot (n : Str) (h : '.' ∉ n) : pathStem n = n ∧ pathSuffix n = [] := by
  simp [pathStem, pathSuffix, splitLastDot_none n h]

theorem pathStem_leading_dot (rest : Str) (h : '.' ∉ rest) :
    pathStem ('.' :: rest) = '.' :: rest ∧ pathSuffix ('.' :: rest) = [] := by
  have := splitLastDot_append [] rest h
  simp only [List.nil_append] at this
  simp [pathStem, pathSuffix, this]

theorem pathStem_trailing_dot (base : Str) :
    pathStem (base ++ ['.']) = base ++ ['.'] ∧ pathSuffix (base ++ ['.']) = [] := by
  have := splitLastDot_append base [] (by simp)
  simp [pathStem, pathSuffix, this]

theorem pathName_join (dir name : Str) (h : '/' ∉ name) : pathName (dir ++ '/' :: name) = name := by
  have hr : (dir ++ '/' :: name).reverse = name.reverse ++ '/' :: dir.reverse := by simp
  have hn : '/' ∉ name.reverse := by simpa using h
  simp only [pathName, hr, takeWhile_ne_append _ _ _ hn, List.reverse_reverse]

theorem pathName_no_slash (name : Str) (h : '/' ∉ name) : pathName name = name := by
  have hn : '/' ∉ name.reverse := by simpa using h
  simp only [pathName, takeWhile_ne_all _ _ hn, List.reverse_reverse]

end Pyxv.Backends
