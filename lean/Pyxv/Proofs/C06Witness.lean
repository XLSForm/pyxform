import Pyxv.Proofs.C06
/-!
# C06: kernel-evaluated witnesses (what the modelled code does with instance() expressions)

The evaluations run the whole lexer; string literals are turned into character lists first (`toList_lit`).
-/
namespace Pyxv.C06
open Pyxv.Xml Pyxv.Chan

/-! The property demands: the expression, as typed, is the value of one `output`; the text around it is text; further
references are further outputs.  The theorems state what the model of the code computes instead (the open findings as
exact witnesses).  The same inputs are in the check's directed stream. -/

def okNode : Outcome Node → Option Node
  | .ok n => some n
  | _ => none

def outp (v : String) : Node := outputNode v.toList
def txt (s : String) : Node := .text true s.toList

/-- a well-behaved cell: expression with a reference in its predicate, text around it, a second reference -/
theorem instance_expr_ok :
    okNode (mixedChannel exRefs "label".toList "x instance('l')/root/item[name = ${a}]/label y ${b2}".toList) =
      some (.elem "label".toList []
        [txt "x ", outp "instance('l')/root/item[name =  /data/a ]/label", txt " y ", outp " /data/g/b2 "]) := by
  rw [mixedChannel_pinned]
  unfold exRefs txt outp
  simp only [toList_lit rfl]
  decide +kernel

/-- **F15**: ` and ${a}` after the path is swallowed into the output's value (demanded:
    `[outp "instance('l')/root/item[name = 'c1']/label", txt " and ", outp " /data/a ", txt " tail"]`) -/
theorem F15_witness :
    okNode (mixedChannel exRefs "label".toList "instance('l')/root/item[name = 'c1']/label and ${a} tail".toList) =
      some (.elem "label".toList []
        [outp "instance('l')/root/item[name = 'c1']/label and  /data/a ", txt " tail"]) := by
  rw [mixedChannel_pinned]
  unfold exRefs txt outp
  simp only [toList_lit rfl]
  decide +kernel

/-- **F39**: the expression is escaped twice; the reader finds `&lt;` where `<` was typed -/
theorem F39_witness :
    okNode (mixedChannel exRefs "label".toList "x instance('l')/root/item[name < 3]/label y".toList) =
      some (.elem "label".toList []
        [txt "x ", outp "instance('l')/root/item[name &lt; 3]/label", txt " y"]) := by
  rw [mixedChannel_pinned]
  unfold exRefs txt outp
  simp only [toList_lit rfl]
  decide +kernel

/-- **F40**: a quote before the expression hides it from `find_boundaries`: no output at all -/
theorem F40_witness :
    okNode (mixedChannel exRefs "label".toList "it's instance('l')/root/item[name = 1]/label".toList) =
      some (nodeText "label".toList "it's instance('l')/root/item[name = 1]/label".toList) := by
  rw [mixedChannel_pinned]
  unfold exRefs
  simp only [toList_lit rfl]
  decide +kernel

/-- the boundaries themselves, for the F15 input: ONE expression spanning up to the end of ` /data/a`'s
    source `${a}` (positions in the escaped text) -/
theorem F15_boundaries :
    (Lexer.parseExpression "instance('l')/root/item[name = 'c1']/label and ${a} tail".toList).map
      (fun r => findBoundaries r.1) = some [(0, 51)] := by
  unfold Lexer.parseExpression
  rw [activeRules_pinned]
  simp only [toList_lit rfl]
  decide +kernel


end Pyxv.C06
