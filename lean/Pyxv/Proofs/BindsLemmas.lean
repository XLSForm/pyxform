import Pyxv.Model.Binds
import Pyxv.Model.BindsRefs
import Pyxv.Proofs.Literals
import Pyxv.Proofs.BaseLemmas
import Pyxv.Proofs.SpellLemmas
/-! Lemmas about `Pyxv.Binds` (C05, C13): the header strings, the cell loop, the begin/end walk, and the one loop
behind `renderAll`, `renderAllR`, `attrsOf`, `attrsOfG` (`renderBy`: when it goes through it is a `filterMap`). -/
namespace Pyxv.Binds
open Pyxv

theorem dictSet_eq {β} (k : Str) (v : β) : ∀ d : List (Str × β), dictSet d k v = AList.set k v d :=
  AList.set_of_eqns rfl fun _ _ _ => rfl

theorem dictUpdate_eq {β} (d e : List (Str × β)) : dictUpdate d e = AList.update d e := by
  induction e generalizing d with
  | nil => rfl
  | cons p r ih => rw [dictUpdate, ih, dictSet_eq, AList.update_cons]

theorem lookupToks_eq (t : List Str) : ∀ tk : List (List Str × Str), lookupToks t tk = AList.get t tk :=
  AList.get_of_eqns rfl fun _ _ _ => rfl

theorem lookup_map_s (k : Str) (tt : List (Str × Str)) :
    lookup k (tt.map fun (k, v) => (k, BVal.s v)) = (lookup k tt).map BVal.s :=
  lookup_map_values BVal.s k tt

theorem lookup_map_toList {α β} (f : α → β) (s : String) (T : List (String × α)) :
    lookup s.toList (T.map fun (k, v) => (k.toList, f v)) = (T.find? (·.1 = s)).map (f ·.2) := by
  induction T with
  | nil => rfl
  | cons p rest ih =>
    obtain ⟨k, v⟩ := p
    simp only [List.map_cons, lookup, List.find?_cons, ih]
    by_cases hk : s = k
    · subst hk; simp
    · rw [if_neg fun e => hk (String.toList_injective e), decide_eq_false fun e => hk e.symm]

theorem splitWs_eq (s : Str) : splitWs s = Spell.splitWs s :=
  Spell.splitWs_acc splitWsAux (fun _ => rfl) (fun _ _ _ => rfl) s

theorem toSnakeCase_strip (s : Str) : toSnakeCase (strip s) = toSnakeCase s := by
  unfold toSnakeCase
  rw [splitWs_eq, splitWs_eq, Spell.splitWs_strip]

theorem mem_toSnakeCase (c : Char) (h : Str) (hm : c ∈ h) (hs : pyIsSpace c = false)
    (hu : ¬ ('A' ≤ c ∧ c ≤ 'Z')) : c ∈ toSnakeCase h := by
  unfold toSnakeCase lowerAscii
  rw [splitWs_eq]
  exact Spell.mem_snake _ c h hm hs (by simp [hu])

theorem splitOnChar_ne_nil (d : Char) : ∀ (s : Str), splitOnChar d s ≠ [] :=
  fun s => _root_.Pyxv.splitOnChar_ne_nil d s

theorem splitOn2_cons2 (d c1 c2 : Char) (cs : Str) :
    splitOn2 d (c1 :: c2 :: cs) =
      if c1 = d ∧ c2 = d then [] :: splitOn2 d cs
      else match splitOn2 d (c2 :: cs) with
        | [] => [[c1]]
        | f :: fs => (c1 :: f) :: fs :=
  splitOn2.eq_3 d c1 c2 cs

theorem splitOn2_of_noDouble : ∀ (a : Str), isInfix "::".toList a = false → splitOn2 ':' a = [a]
  | [], _ => rfl
  | [_], _ => rfl
  | c1 :: c2 :: cs, h => by
    rw [isInfix, Bool.or_eq_false_iff] at h
    have hne : ¬ (c1 = ':' ∧ c2 = ':') := by
      rintro ⟨rfl, rfl⟩
      simp [startsWith] at h
    rw [splitOn2_cons2, if_neg hne, splitOn2_of_noDouble (c2 :: cs) h.2]

theorem splitOn2_prefix (a : Str) : ∀ (pre : Str), (∀ c ∈ pre, c ≠ ':') →
    splitOn2 ':' (pre ++ ':' :: ':' :: a) = pre :: splitOn2 ':' a
  | [], _ => by rw [List.nil_append, splitOn2_cons2]; simp
  | c :: p, hc => by
    obtain ⟨h1, hp⟩ := List.forall_mem_cons.mp hc
    have ih := splitOn2_prefix a p hp
    -- the second character is the head of `p`, or the first colon
    cases p <;> simp only [List.cons_append, List.nil_append] at ih ⊢ <;>
      rw [splitOn2_cons2, if_neg (fun h => h1 h.1), ih]

/-- `surveyAliases` with its strings as character lists.  A subtype, so that the converted table is what the tactic
    computes (`toList_lit`), not a second copy written out; C05's table facts rewrite with `.2` before they evaluate. -/
def surveyAliasesC : { l : List (Str × List Str) // surveyAliases = l } := by
  refine ⟨?_, ?_⟩
  rotate_left
  unfold surveyAliases Pyxv.Gen.aliasSurveyHeader
  simp only [List.map, toList_lit rfl]
  rfl

def surveyColumnsC : { l : List Str // surveyColumns = l } := by
  refine ⟨?_, ?_⟩
  rotate_left
  unfold surveyColumns Pyxv.Gen.selectQuestionFields
  simp only [List.map, toList_lit rfl]
  rfl

/-- the invariant of the cell loop -/
def bindNodup (r : PRow) : Prop := ((r.bind.getD []).map (·.1)).Nodup

theorem setBind_eq {dl : Str} {b b' : BindDict} {a : Str} {v : BVal} (hs : setBind dl b a v = some b') :
    ∃ nv, b' = dictSet b a nv ∧
      match lookup a b with
      | none => nv = v
      | some old => mergeVal dl old v = some nv := by
  unfold setBind at hs
  split at hs
  · next hl =>
    cases hs
    exact ⟨v, by rw [dictSet_eq, AList.set_of_not_mem v ((lookup_eq_none_iff a b).1 hl)], by rw [hl]⟩
  · next old hl =>
    cases hm : mergeVal dl old v with
    | none => simp [hm] at hs
    | some nv =>
      simp only [hm, Option.map_some, Option.some.injEq] at hs
      exact ⟨nv, hs.symm, by rw [hl]; exact hm⟩

theorem ok_of_ite {ε α} {c : Prop} [Decidable c] {a b : Except ε α} {x : α} {P : Prop}
    (ha : a = .ok x → P) (hb : b = .ok x → P) : (if c then a else b) = .ok x → P := by
  split
  · exact ha
  · exact hb

theorem stepScalar_bind (r r' : PRow) (k v : Str) (h : stepScalar r k v = .ok r') : r'.bind = r.bind := by
  unfold stepScalar at h
  generalize hr : (if k = "disabled".toList then r else { r with keys := r.keys + 1 }) = r1 at h
  have hb : r1.bind = r.bind := by rw [← hr, apply_ite PRow.bind, ite_self]
  -- every branch answers `{ r1 with slot := _ }` for a slot other than `bind`, or an error
  -- (`split at h` is very slow on this chain of structure updates)
  revert h
  repeat' apply ok_of_ite
  all_goals intro h; cases h <;> exact hb

theorem stepOther_bind (r r' : PRow) (k a : Str) (rest : List Str) (v : Str)
    (h : stepOther r k a rest v = .ok r') : r'.bind = r.bind := by
  unfold stepOther at h
  revert h
  repeat' apply ok_of_ite
  all_goals intro h; cases h <;> rfl

/-- the value a `bind` cell nests under its attribute (`nv` of `stepBindCell`) -/
def cellVal (rest : List Str) (v : Str) : Option BVal :=
  match rest with
  | [] => some (.s v)
  | [l] => some (.d [(l, v)])
  | _ => none

theorem cellVal_some {rest : List Str} {v : Str} {nv : BVal} (h : cellVal rest v = some nv) :
    rest = [] ∧ nv = .s v ∨ ∃ l, rest = [l] ∧ nv = .d [(l, v)] := by
  match rest, h with
  | [], h => exact .inl ⟨rfl, (Option.some.inj h).symm⟩
  | [l], h => exact .inr ⟨l, rfl, (Option.some.inj h).symm⟩
  | _ :: _ :: _, h => cases h

theorem stepBindCell_eq (dl : Str) (r : PRow) (a : Str) (rest : List Str) (v : Str) :
    stepBindCell dl r a rest v =
      match cellVal rest v with
      | none => .error "bind cell nested deeper than bind::attr::lang"
      | some nv =>
        match setBind dl (r.bind.getD []) a nv with
        | none => .error "bind leaf collision"
        | some b => .ok { r with bind := some b, keys := r.keys + 1 } := rfl

theorem stepTokens_bind {dl : Str} {r r' : PRow} {v : Str} {toks : List Str} (h : stepTokens dl r v toks = .ok r') :
    (∃ t ts, toks = t :: ts ∧ t ≠ "bind".toList ∧ r'.bind = r.bind) ∨
    ∃ a rest nv b', toks = "bind".toList :: a :: rest ∧
      cellVal rest v = some nv ∧
      setBind dl (r.bind.getD []) a nv = some b' ∧ r'.bind = some b' := by
  match toks with
  | [] => cases h
  | [k] =>
    refine Or.inl ⟨k, [], rfl, ?_, stepScalar_bind _ _ _ _ h⟩
    rintro rfl
    simp [stepTokens, stepScalar] at h
  | k :: a :: rest =>
    simp only [stepTokens] at h
    split at h
    · next hk =>
      subst hk
      rw [stepBindCell_eq] at h
      split at h
      · cases h
      · next nv hnv =>
        split at h
        · cases h
        · next b' hb => cases h; exact Or.inr ⟨a, rest, nv, b', rfl, hnv, hb, rfl⟩
    · next hk => exact Or.inl ⟨k, _, rfl, hk, stepOther_bind _ _ _ _ _ _ h⟩

theorem stepCell_ok {dl : Str} {key : List (Str × List Str)} {r r' : PRow} {h v : Str}
    (hs : stepCell dl key r h v = .ok r') :
    cleanCell v ≠ [] ∧ ∃ toks, lookup h key = some toks ∧ stepTokens dl r (cleanCell v) toks = .ok r' := by
  unfold stepCell at hs
  simp only at hs
  split at hs
  · cases hs
  next hne =>
  split at hs
  · cases hs
  split at hs
  · cases hs
  · next toks hl => exact ⟨fun e => by simp [e] at hne, toks, hl, hs⟩

theorem stepCell_nodup (dl : Str) (key : List (Str × List Str)) (r r' : PRow) (h v : Str)
    (hn : bindNodup r) (hs : stepCell dl key r h v = .ok r') : bindNodup r' := by
  obtain ⟨_, toks, _, ht⟩ := stepCell_ok hs
  unfold bindNodup
  rcases stepTokens_bind ht with ⟨_, _, _, _, hb⟩ | ⟨a, rs, nv, b', _, _, hsb, hb⟩
  · rw [hb]; exact hn
  · obtain ⟨nv', rfl, _⟩ := setBind_eq hsb
    rw [hb]
    exact dictSet_eq .. ▸ AList.nodup_set hn

theorem processRow_nodup (dl : Str) (key : List (Str × List Str)) (cells : List (Str × Str)) :
    ∀ (r r' : PRow), bindNodup r → processRow dl key r cells = .ok r' → bindNodup r' := by
  induction cells with
  | nil => intro r r' hn h; simp only [processRow, Except.ok.injEq] at h; subst h; exact hn
  | cons c rest ih =>
    intro r r' hn h
    obtain ⟨hd, v⟩ := c
    simp only [processRow] at h
    split at h
    · next r1 h1 => exact ih r1 r' (stepCell_nodup dl key r r1 hd v hn h1) h
    · cases h

theorem processRows_cons_ok {dl : Str} {key : List (Str × List Str)} {lists : List Str} {n : Nat} {tl : TL}
    {c : List (Str × Str)} {rest : List (List (Str × Str))} {ks : List RK} :
    processRows dl key lists n tl (c :: rest) = .ok ks ↔
      ∃ kc tl2 ks', rowRKs dl key lists n tl c = .ok (kc, tl2) ∧
        processRows dl key lists (n + 1) tl2 rest = .ok ks' ∧ ks = kc ++ ks' := by
  rw [processRows]
  cases rowRKs dl key lists n tl c with
  | error e => exact ⟨(fun h => nomatch h), (fun ⟨_, _, _, h, _⟩ => nomatch h)⟩
  | ok p =>
    obtain ⟨kc, tl2⟩ := p
    dsimp only
    cases hp : processRows dl key lists (n + 1) tl2 rest with
    | error e =>
      refine ⟨(fun h => nomatch h), ?_⟩
      rintro ⟨_, _, _, h1, h2, _⟩
      cases h1
      rw [hp] at h2
      cases h2
    | ok ks' =>
      constructor
      · intro h
        cases h
        exact ⟨kc, tl2, ks', rfl, hp, rfl⟩
      · rintro ⟨_, _, _, h1, h2, rfl⟩
        cases h1
        rw [hp] at h2
        cases h2
        rfl

/-- the only state the row loop carries is the row number and `table_list` -/
theorem processRows_frame (dl : Str) (key : List (Str × List Str)) (lists : List Str) :
    ∀ (pre : List (List (Str × Str))) (n : Nat) (tl : TL) (c : List (Str × Str)) (post : List (List (Str × Str)))
      (ks : List RK), processRows dl key lists n tl (pre ++ c :: post) = .ok ks →
    ∃ kpre kc kpost tl1 tl2, rowRKs dl key lists (n + pre.length) tl1 c = .ok (kc, tl2) ∧
      ks = kpre ++ kc ++ kpost ∧
      ∀ c' kc', rowRKs dl key lists (n + pre.length) tl1 c' = .ok (kc', tl2) →
        processRows dl key lists n tl (pre ++ c' :: post) = .ok (kpre ++ kc' ++ kpost) := by
  intro pre
  induction pre with
  | nil =>
    intro n tl c post ks h
    obtain ⟨kc, tl2, kpost, hc, hp, rfl⟩ := processRows_cons_ok.mp h
    exact ⟨[], kc, kpost, tl, tl2, hc, rfl, fun c' kc' hc' => processRows_cons_ok.mpr ⟨kc', tl2, kpost, hc', hp, rfl⟩⟩
  | cons x pre ih =>
    intro n tl c post ks h
    obtain ⟨kx, tlx, ks1, hx, h1, rfl⟩ := processRows_cons_ok.mp h
    obtain ⟨kpre, kc, kpost, tl1, tl2, hc, rfl, hall⟩ := ih (n + 1) tlx c post ks1 h1
    have e : n + 1 + pre.length = n + (x :: pre).length := by simp only [List.length_cons]; omega
    rw [e] at hc hall
    refine ⟨kx ++ kpre, kc, kpost, tl1, tl2, hc, by simp, fun c' kc' hc' => ?_⟩
    exact processRows_cons_ok.mpr ⟨kx, tlx, _, hx, hall c' kc' hc', by simp⟩

theorem mkElem_last (root : Str) (st : List (Str × Bool)) (q : Q) :
    (mkElem root st q).path.getLast? = some q.name := by
  show (root :: ((st.map (·.1)).reverse ++ [q.name])).getLast? = some q.name
  rw [← List.cons_append, List.getLast?_concat]

/-- what one row does to the walk: its elements and the begin/end stack it leaves -/
def rowStep (root : Str) (st : List (Str × Bool)) : RK → Option (List Elem × List (Str × Bool))
  | .skip => some ([], st)
  | .qs l => some (l.map (mkElem root st), st)
  | .begin_ rep pre q => some ((pre ++ [q]).map (mkElem root st), (q.name, rep) :: st)
  | .end_ rep =>
    match st with
    | [] => none
    | (_, rep') :: st' => if rep = rep' then some ([], st') else none
  | .unsupported _ => none

theorem walk_cons (root : Str) (st : List (Str × Bool)) (r : RK) (rs : List RK) :
    walk root st (r :: rs) = (rowStep root st r).bind fun p => (walk root p.2 rs).map (p.1 ++ ·) := by
  cases r with
  | skip => simp [walk, rowStep]
  | qs l => rfl
  | begin_ rep pre q => rfl
  | end_ rep =>
    cases st with
    | nil => rfl
    | cons f st' =>
      simp only [walk, rowStep]
      split <;> simp
  | unsupported w => cases st <;> rfl

theorem walk_cons_some {root : Str} {st : List (Str × Bool)} {r : RK} {rs : List RK} {es : List Elem}
    (h : walk root st (r :: rs) = some es) :
    ∃ e1 st' e2, rowStep root st r = some (e1, st') ∧ walk root st' rs = some e2 ∧ es = e1 ++ e2 := by
  rw [walk_cons] at h
  obtain ⟨p, hs, h⟩ := Option.bind_eq_some_iff.mp h
  obtain ⟨e2, hr, rfl⟩ := Option.map_eq_some_iff.mp h
  exact ⟨p.1, p.2, e2, hs, hr, rfl⟩

theorem walk_cons_of {root : Str} {st st' : List (Str × Bool)} {r : RK} {rs : List RK} {e1 e2 : List Elem}
    (hs : rowStep root st r = some (e1, st')) (hr : walk root st' rs = some e2) :
    walk root st (r :: rs) = some (e1 ++ e2) := by
  rw [walk_cons, hs, Option.bind_some, hr]
  rfl

theorem rowStep_lasts {root : Str} {st st' : List (Str × Bool)} {r : RK} {e1 : List Elem}
    (h : rowStep root st r = some (e1, st')) : e1.map (fun e => e.path.getLast?) = (rkNames r).map some := by
  cases r with
  | skip => cases h; rfl
  | qs l => cases h; simp [rkNames, mkElem_last, Function.comp_def]
  | begin_ rep pre q => cases h; simp [rkNames, mkElem_last, Function.comp_def]
  | end_ rep =>
    cases st with
    | nil => cases h
    | cons f st0 =>
      simp only [rowStep] at h
      split at h <;> cases h
      rfl
  | unsupported w => cases h

theorem rowStep_length {root : Str} {st st' : List (Str × Bool)} {r : RK} {e1 : List Elem}
    (h : rowStep root st r = some (e1, st')) : e1.length = (rkNames r).length := by
  simpa using congrArg List.length (rowStep_lasts h)

theorem walk_lasts (root : Str) : ∀ (ks : List RK) (st : List (Str × Bool)) (es : List Elem),
    walk root st ks = some es → es.map (fun e => e.path.getLast?) = (ks.flatMap rkNames).map some := by
  intro ks
  induction ks with
  | nil =>
    intro st es h
    unfold walk at h
    split at h
    · cases h; rfl
    · cases h
  | cons k rest ih =>
    intro st es h
    obtain ⟨e1, st', e2, hs, hr, rfl⟩ := walk_cons_some h
    rw [List.map_append, List.flatMap_cons, List.map_append, ih st' e2 hr, rowStep_lasts hs]

/-- two rows that occupy the same place in the structure: same kind, same names -/
def sameShape : RK → RK → Prop
  | .skip, .skip => True
  | .qs l, .qs l' => l.map (·.name) = l'.map (·.name)
  | .begin_ rep pre q, .begin_ rep' pre' q' =>
    rep = rep' ∧ pre.map (·.name) = pre'.map (·.name) ∧ q.name = q'.name
  | .end_ a, .end_ b => a = b
  | _, _ => False

theorem sameShape_names (r r' : RK) (h : sameShape r r') : rkNames r = rkNames r' := by
  -- `sameShape` is `False` off the diagonal: four pairs remain
  cases r <;> cases r' <;> simp only [sameShape] at h <;> simp_all [rkNames]

theorem rowStep_sameShape {root : Str} {st st' : List (Str × Bool)} {r r' : RK} {M : List Elem}
    (hs : sameShape r r') (h : rowStep root st r = some (M, st')) : ∃ M', rowStep root st r' = some (M', st') := by
  cases r <;> cases r' <;> simp only [sameShape] at hs
  · exact ⟨M, h⟩
  · cases h; exact ⟨_, rfl⟩
  · obtain ⟨rfl, _, h3⟩ := hs
    cases h
    exact ⟨_, by rw [rowStep, h3]⟩
  · subst hs; exact ⟨M, h⟩

theorem walk_frame (root : Str) : ∀ (pre : List RK) (st : List (Str × Bool)) (r r' : RK) (post : List RK)
    (es : List Elem), sameShape r r' → walk root st (pre ++ r :: post) = some es →
    ∃ A M M' B, es = A ++ M ++ B ∧ walk root st (pre ++ r' :: post) = some (A ++ M' ++ B) ∧
      M.length = (rkNames r).length ∧ M'.length = (rkNames r').length := by
  intro pre
  induction pre with
  | nil =>
    intro st r r' post es hs h
    obtain ⟨M, st', B, hM, hB, rfl⟩ := walk_cons_some h
    obtain ⟨M', hM'⟩ := rowStep_sameShape hs hM
    exact ⟨[], M, M', B, rfl, walk_cons_of hM' hB, rowStep_length hM, rowStep_length hM'⟩
  | cons x pre ih =>
    intro st r r' post es hs h
    obtain ⟨X, st', rest, hX, hrest, rfl⟩ := walk_cons_some h
    obtain ⟨A, M, M', B, rfl, hw, h1, h2⟩ := ih st' r r' post rest hs hrest
    exact ⟨X ++ A, M, M', B, by simp, by simpa using walk_cons_of hX hw, h1, h2⟩

theorem topNames_frame : ∀ (pre : List RK) (d : Nat) (r r' : RK) (post : List RK), sameShape r r' →
    topNames d (pre ++ r :: post) = topNames d (pre ++ r' :: post) := by
  intro pre
  induction pre with
  | nil =>
    intro d r r' post hs
    -- off the diagonal `sameShape` is `False`; `qs` and `begin_` remain
    cases r <;> cases r' <;> simp only [sameShape] at hs <;> simp only [List.nil_append, topNames]
    · rw [hs]
    · rw [hs.2.1]
  | cons x pre ih =>
    intro d r r' post hs
    cases x <;> simp only [List.cons_append, topNames, ih _ r r' post hs]

theorem elemBind_some {q : Q} {b : BindDict} (h : elemBind q = some b) : b = rawBind q :=
  (Option.some.inj (ite_eq_right h nofun).2).symm

/-- `xml_bindings` of one node: the common shape of `xmlBind` and `xmlBindR` -/
def bindBy (q : Q) (path : List Str) (attrs : BindDict → Option (List (Str × Str))) : Option (Option Bind) :=
  match elemBind q with
  | none => some none
  | some b =>
    if (lookup "nodeset".toList b).isSome then none
    else (attrs b).map fun a => some { path := path, attrs := a }

theorem bindBy_some {q : Q} {path : List Str} {attrs : BindDict → Option (List (Str × Str))} {ob : Option Bind}
    (h : bindBy q path attrs = some ob) :
    match ob with
    | none => elemBind q = none
    | some b => ∃ bd a, elemBind q = some bd ∧ attrs bd = some a ∧ b = { path := path, attrs := a } := by
  unfold bindBy at h
  split at h
  · next hn => cases h; exact hn
  · next bd hb =>
    split at h
    · cases h
    · obtain ⟨a, ha, rfl⟩ := Option.map_eq_some_iff.mp h
      exact ⟨bd, a, hb, ha, rfl⟩

theorem xmlBind_eq (root : Str) (tops : List Str) (e : Elem) :
    xmlBind root tops e = bindBy e.q e.path (attrsOf root tops (Form.xpathStr e.path) e.q.trigger) := rfl

def renderBy {α β} (x : α → Option (Option β)) : List α → Option (List β)
  | [] => some []
  | e :: es =>
    match x e, renderBy x es with
    | some ob, some bs => some (ob.toList ++ bs)
    | _, _ => none

theorem renderBy_iff {α β} {x : α → Option (Option β)} {es : List α} {bs : List β} :
    renderBy x es = some bs ↔ (∀ e ∈ es, (x e).isSome) ∧ bs = es.filterMap fun e => (x e).join := by
  induction es generalizing bs with
  | nil => exact ⟨fun h => ⟨nofun, (Option.some.inj h).symm⟩, fun h => h.2 ▸ rfl⟩
  | cons e es ih =>
    rw [renderBy, List.forall_mem_cons, List.filterMap_cons]
    cases hx : x e with
    | none => exact ⟨nofun, fun h => nomatch h.1.1⟩
    | some ob =>
      cases hr : renderBy x es with
      | none => exact ⟨nofun, fun h => nomatch hr.symm.trans (ih.mpr ⟨h.1.2, rfl⟩)⟩
      | some bs' =>
        obtain ⟨hall, rfl⟩ := ih.mp hr
        cases ob <;> exact ⟨fun h => ⟨⟨rfl, hall⟩, (Option.some.inj h).symm⟩, fun h => h.2 ▸ rfl⟩

theorem renderAll_eq (root : Str) (tops : List Str) (es : List Elem) :
    renderAll root tops es = renderBy (xmlBind root tops) es := by
  induction es with
  | nil => rfl
  | cons e es ih =>
    rw [renderAll, renderBy, ih]
    cases xmlBind root tops e with
    | none => rfl
    | some ob => cases renderBy (xmlBind root tops) es <;> cases ob <;> rfl

section
variable {α β : Type} {x : α → Option (Option β)}

theorem renderBy_append (l r : List α) (bs : List β) (h : renderBy x (l ++ r) = some bs) :
    ∃ bl br, renderBy x l = some bl ∧ renderBy x r = some br ∧ bs = bl ++ br := by
  obtain ⟨hall, rfl⟩ := renderBy_iff.mp h
  rw [List.forall_mem_append] at hall
  exact ⟨_, _, renderBy_iff.mpr ⟨hall.1, rfl⟩, renderBy_iff.mpr ⟨hall.2, rfl⟩, List.filterMap_append⟩

theorem renderBy_length (es : List α) (bs : List β) (h : renderBy x es = some bs) : bs.length ≤ es.length :=
  (renderBy_iff.mp h).2 ▸ List.length_filterMap_le _ _

theorem renderBy_frame (A M M' B : List α) (bs bs' : List β)
    (h : renderBy x (A ++ M ++ B) = some bs) (h' : renderBy x (A ++ M' ++ B) = some bs') :
    ∃ a m m' b, bs = a ++ m ++ b ∧ bs' = a ++ m' ++ b ∧ renderBy x M = some m ∧ renderBy x M' = some m' := by
  obtain ⟨hall, rfl⟩ := renderBy_iff.mp h
  obtain ⟨hall', rfl⟩ := renderBy_iff.mp h'
  simp only [List.forall_mem_append] at hall hall'
  exact ⟨_, _, _, _, by rw [List.filterMap_append, List.filterMap_append],
    by rw [List.filterMap_append, List.filterMap_append],
    renderBy_iff.mpr ⟨hall.1.2, rfl⟩, renderBy_iff.mpr ⟨hall'.1.2, rfl⟩⟩

theorem renderBy_mem {es : List α} {bs : List β} (h : renderBy x es = some bs) {e : α} {b : β} (he : e ∈ es)
    (hx : x e = some (some b)) : b ∈ bs := by
  rw [(renderBy_iff.mp h).2]
  exact List.mem_filterMap.mpr ⟨e, he, by rw [hx]; rfl⟩

theorem renderBy_map_sublist {γ : Type} (g : β → γ) (f : α → γ) (hx : ∀ e b, x e = some (some b) → g b = f e)
    {es : List α} {bs : List β} (h : renderBy x es = some bs) : (bs.map g).Sublist (es.map f) := by
  -- `bs.map g` is `es.map f` filtered to the elements that answer with a `b`
  have e : bs.map g = (es.filter fun e => (x e).join.isSome).map f := by
    rw [(renderBy_iff.mp h).2, List.map_filterMap, ← List.filterMap_eq_map, List.filterMap_filter]
    refine filterMap_congr fun e _ => ?_
    cases hxe : (x e).join with
    | none => rfl
    | some b => exact congrArg some (hx e b (Option.join_eq_some_iff.mp hxe))
  exact e ▸ List.filter_sublist.map f

end

theorem renderBy_paths_eq {α : Type} {x : α → Option (Option Bind)} (q : α → Q) (p : α → List Str)
    (hx : ∀ e, ∃ attrs, x e = bindBy (q e) (p e) attrs) (es : List α) (bs : List Bind) (h : renderBy x es = some bs) :
    bs.map (·.path) = (es.filter fun e => (elemBind (q e)).isSome).map p := by
  obtain ⟨hall, rfl⟩ := renderBy_iff.mp h
  rw [List.map_filterMap, ← List.filterMap_eq_map, List.filterMap_filter]
  refine filterMap_congr fun e he => ?_
  obtain ⟨attrs, hxe⟩ := hx e
  obtain ⟨ob, hob⟩ := Option.isSome_iff_exists.mp (hall e he)
  have hb := bindBy_some (hxe ▸ hob)
  rw [hob]
  cases ob with
  | none => simp [hb]
  | some b =>
    obtain ⟨bd, a, hbd, _, rfl⟩ := hb
    simp [hbd]

/-- what `xml_bindings` does with one entry of the bind dict: dropped (`some none`: a triggered question's `calculate`),
    a value outside the fragment (`none`), or an attribute; `sub` is the reference substitution -/
def attrStep (sub : Str → Option Str) (path : Str) (trig : Bool) (kv : Str × BVal) : Option (Option (Str × Str)) :=
  if trig && decide (kv.1 = calcKey) then some none else ((convVal path kv.1 kv.2).bind sub).map fun s => some (kv.1, s)

theorem attrsOfG_eq (sub : Str → Option Str) (path : Str) (trig : Bool) (b : BindDict) :
    attrsOfG sub path trig b = renderBy (attrStep sub path trig) b := by
  induction b with
  | nil => rfl
  | cons p rest ih =>
    obtain ⟨k, v⟩ := p
    rw [attrsOfG, renderBy, ← ih, attrStep]
    split
    · cases attrsOfG sub path trig rest <;> rfl
    · cases convVal path k v with
      | none => rfl
      | some s => dsimp only [Option.bind_some]; cases sub s <;> cases attrsOfG sub path trig rest <;> rfl

theorem attrsOf_eq (root : Str) (tops : List Str) (path : Str) (trig : Bool) (b : BindDict) :
    attrsOf root tops path trig b = renderBy (attrStep (subst root tops none) path trig) b := by
  -- `attrsOf` is `attrsOfG` at its own substitution, by the two definitions
  rw [← attrsOfG_eq]
  induction b with
  | nil => rfl
  | cons p rest ih =>
    obtain ⟨k, v⟩ := p
    rw [attrsOf, attrsOfG, ih]
    rfl

section
variable {sub : Str → Option Str} {path : Str} {trig : Bool} {b : BindDict} {attrs : List (Str × Str)}

theorem attrStep_mem (h : renderBy (attrStep sub path trig) b = some attrs) {kv : Str × BVal} (hkv : kv ∈ b)
    (hd : (trig && decide (kv.1 = calcKey)) = false) :
    ∃ s s', convVal path kv.1 kv.2 = some s ∧ sub s = some s' ∧ (kv.1, s') ∈ attrs := by
  have hs := (renderBy_iff.mp h).1 kv hkv
  rw [attrStep, hd, if_neg Bool.false_ne_true, Option.isSome_map] at hs
  obtain ⟨s', hs'⟩ := Option.isSome_iff_exists.mp hs
  obtain ⟨s, hc, hsub⟩ := Option.bind_eq_some_iff.mp hs'
  refine ⟨s, s', hc, hsub, renderBy_mem h hkv ?_⟩
  rw [attrStep, hd, if_neg Bool.false_ne_true, hs']
  rfl

theorem attrStep_lookup (h : renderBy (attrStep sub path trig) b = some attrs) (k : Str) :
    lookup k attrs =
      if trig && decide (k = calcKey) then none else (lookup k b).bind fun v => (convVal path k v).bind sub := by
  obtain ⟨hall, rfl⟩ := renderBy_iff.mp h
  clear h
  induction b with
  | nil => simp [lookup]
  | cons p rest ih =>
    obtain ⟨k0, v0⟩ := p
    obtain ⟨h0, hr⟩ := List.forall_mem_cons.mp hall
    have ih' := ih hr
    rw [List.filterMap_cons, lookup, attrStep]
    rw [attrStep] at h0
    dsimp only at h0 ⊢
    by_cases hd : (trig && decide (k0 = calcKey)) = true
    · rw [if_pos hd]
      show lookup k (rest.filterMap _) = _
      rw [ih']
      by_cases hk : k = k0
      · rw [hk, if_pos hd, if_pos hd]
      · rw [if_neg hk]
    · rw [if_neg hd] at h0 ⊢
      obtain ⟨s, hs⟩ := Option.isSome_iff_exists.mp (Option.isSome_map ▸ h0)
      rw [hs]
      show lookup k ((k0, s) :: rest.filterMap _) = _
      rw [lookup, ih']
      by_cases hk : k = k0
      · rw [hk, if_pos rfl, if_pos rfl, if_neg hd, Option.bind_some, hs]
      · rw [if_neg hk, if_neg hk]

theorem attrStep_keys_sublist (h : renderBy (attrStep sub path trig) b = some attrs) :
    (attrs.map (·.1)).Sublist (b.map (·.1)) := by
  refine renderBy_map_sublist _ _ (fun kv p hp => ?_) h
  rw [attrStep] at hp
  split at hp
  · cases hp
  · obtain ⟨s, _, hs⟩ := Option.map_eq_some_iff.mp hp
    cases hs
    rfl

end

/-- an accepted form and a property of its binds, both decided by one evaluation of the model -/
theorem ok_of_decide {o : Out} {P : List Bind → Prop} [∀ bs, Decidable (P bs)]
    (h : (match o with | .ok bs => decide (P bs) | _ => false) = true) : ∃ bs, o = .ok bs ∧ P bs := by
  cases o with
  | ok bs => exact ⟨bs, rfl, of_decide_eq_true h⟩
  | dupHeader a b => cases h
  | unsupported w => cases h

end Pyxv.Binds
