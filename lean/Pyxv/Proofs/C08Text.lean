import Pyxv.Proofs.TextsLemmas
import Pyxv.Model.Texts
import Pyxv.Model.TextSpec
import Pyxv.Proofs.ItextSlots
import Pyxv.Proofs.BaseLemmas
/-!
# C08 — the text layer composed with the header layer

About `Pyxv.Texts` (get_translations, translation table, padding, label / hint / message sources): what an element's `<label>`,
`<hint>` (plain and guidance value) and message attributes show per language, and which languages get a `<translation>`.
Every translatable slot goes the same way: the node refers to an itext id; the table's writes to that id and form are exactly
the slot's own dict (`OwnEntries`, derived from distinct xpaths and (list, position) pairs with C07's id injectivity); reading
the table back gives the dict; for a dict that `process_row` built from a column's cells that is the spec's reading.
`effective_slot_form` is the statement for any of the six text slots.  For media forms `OwnEntries` is not derived: that no
media type is called `long` stays a hypothesis.  C07's `Pyxv.Itext` states the same per table value; no theorem relates the two
table models, they are tied by the two checks' correspondence runs.
-/
namespace Pyxv.C08
open Pyxv Pyxv.Headers Pyxv.Texts

theorem colVal_nodup (dk : Str) : ∀ (cells : List ColCell) (acc : V), NodupV acc → NodupV (colVal dk acc cells)
  | [], _, h => h
  | c :: cs, acc, h =>
    colVal_nodup dk cs _ (merge_nodup dk acc (cellV c) h (by rcases c with ⟨_ | l, x⟩ <;> simp [cellV, NodupV, Kvs.keys]))

/-- Guard of the text-layer statements: the writes of the whole table to `[id][form]` are exactly the entries of the
dict `m` (ids of different elements and kinds are different strings, and no media type is called `long`). -/
def OwnEntries (T : List Entry) (id form : Str) (m : Kvs) : Prop :=
  (T.filter fun e => decide (e.id = id ∧ e.form = form)) = dictEntries id form (.dict m)

/-- what `<text id>` shows (plain or guidance value) for a `language → text` dict that owns its id and form: the text filed
under the language, else `-` -/
theorem shown_own (dk : Str) (T : List Entry) (padIds : List Str) (lang id form : Str) (m : Kvs)
    (hform : form = s "long" ∨ form = s "guidance")
    (hown : OwnEntries T id form m) (hne : m ≠ .nil) (hfl : FlatD m) (hnd : m.keys.Nodup) :
    shown T padIds lang id form = some ((readLang dk (.dict m) lang).getD (s "-")) := by
  -- the dict is not empty, so the table has an entry at `[id][form]`
  obtain ⟨e0, he0⟩ : ∃ e, e ∈ T.filter fun e : Entry => decide (e.id = id ∧ e.form = form) := by
    rw [hown]
    cases m with
    | nil => exact absurd rfl hne
    | cons k v rest => exact ⟨_, List.mem_cons_self⟩
  obtain ⟨he0, hp⟩ := List.mem_filter.mp he0
  obtain ⟨hid0, hform0⟩ : e0.id = id ∧ e0.form = form := by simpa using hp
  have hany : T.any (fun e => decide (e.id = id)) = true := List.any_eq_true.mpr ⟨e0, he0, by simp [hid0]⟩
  have hany2 : T.any (fun e => decide (e.id = id ∧ e.form = form)) = true :=
    List.any_eq_true.mpr ⟨e0, he0, by simp [hid0, hform0]⟩
  have hlk : lookupT T lang id form = if m.has lang then some (m.get lang) else none := by
    rw [lookupT_filter, hown, lookupT_dictEntries _ _ _ _ hnd]
  unfold shown
  simp only [hany, Bool.not_true, Bool.and_false, hlk, hany2, if_true, Bool.true_or, hform]
  rcases hfl lang with ⟨hh, hg⟩ | ⟨hh, y, _, hg⟩ <;> simp [hh, readLang, hg]

theorem via_ref_own (dk : Str) (T : List Entry) (padIds : List Str) (id form lang : Str) (m : Kvs)
    (hform : form = s "long" ∨ form = s "guidance")
    (hown : OwnEntries T id form m) (hne : m ≠ .nil) (hfl : FlatD m) (hnd : m.keys.Nodup) (hlang : lang ≠ []) :
    via T padIds (.ref id) form lang = some ((readLang dk (.dict m) lang).getD (s "-")) := by
  cases lang with
  | nil => exact absurd rfl hlang
  | cons c cs => simpa [via] using shown_own dk T padIds (c :: cs) id form m hform hown hne hfl hnd

/-- a label that is a `language → text` dict shows per language its own text, else `-` — never another element's or another
kind's text (under `OwnEntries`) -/
theorem effective_label_itext (dk : Str) (T : List Entry) (padIds : List Str) (e : Elem) (lang : Str) (m : Kvs)
    (hlab : e.label = .dict m) (hown : OwnEntries T (e.path ++ s ":label") (s "long") m)
    (hne : m ≠ .nil) (hfl : FlatD m) (hnd : m.keys.Nodup) (hlang : lang ≠ []) :
    via T padIds (labelSrc e) (s "long") lang = some ((readLang dk e.label lang).getD (s "-")) := by
  have hr : labelSrc e = .ref (e.path ++ s ":label") := by simp [labelSrc, needsItextRef, hlab, isDict]
  rw [hr, hlab]
  exact via_ref_own dk T padIds _ _ lang m (Or.inl rfl) hown hne hfl hnd hlang

/-- a plain label without media is shown as it is to every language -/
theorem effective_label_inline (T : List Entry) (padIds : List Str) (e : Elem) (lang t : Str)
    (hlab : e.label = .str t) (ht : t ≠ []) (hmed : isDict e.media = false) :
    via T padIds (labelSrc e) (s "long") lang = some t := by
  have hn : needsItextRef e = false := by
    unfold needsItextRef; rw [hlab, hmed]; simp [isDict]
  cases t with
  | nil => exact absurd rfl ht
  | cons c cs => simp [labelSrc, hn, hlab, V.falsy, via, strOf, s]

theorem effective_hint_itext (dk : Str) (T : List Entry) (padIds : List Str) (e : Elem) (lang : Str) (m : Kvs)
    (hh : e.hint = .dict m) (hown : OwnEntries T (e.path ++ s ":hint") (s "long") m)
    (hne : m ≠ .nil) (hfl : FlatD m) (hnd : m.keys.Nodup) (hlang : lang ≠ []) :
    via T padIds (hintSrc e) (s "long") lang = some ((readLang dk e.hint lang).getD (s "-")) := by
  have hr : hintSrc e = .ref (e.path ++ s ":hint") := by simp [hintSrc, hh, isDict]
  rw [hr, hh]
  exact via_ref_own dk T padIds _ _ lang m (Or.inl rfl) hown hne hfl hnd hlang

/-- a translated guidance hint is shown through the hint's itext id with form `guidance` -/
theorem effective_guidance_itext (dk : Str) (T : List Entry) (padIds : List Str) (e : Elem) (lang : Str) (m : Kvs)
    (hg : e.guidance = .dict m) (hown : OwnEntries T (e.path ++ s ":hint") (s "guidance") m)
    (hne : m ≠ .nil) (hfl : FlatD m) (hnd : m.keys.Nodup) (hlang : lang ≠ []) :
    via T padIds (hintSrc e) (s "guidance") lang = some ((readLang dk e.guidance lang).getD (s "-")) := by
  have hr : hintSrc e = .ref (e.path ++ s ":hint") := by simp [hintSrc, hg, falsy_dict hne]
  rw [hr, hg]
  exact via_ref_own dk T padIds _ _ lang m (Or.inr rfl) hown hne hfl hnd hlang

/-- a translated constraint / required message: the bind attribute points at the message's own itext id -/
theorem effective_message_itext (dk : Str) (T : List Entry) (padIds : List Str) (e : Elem) (k lang : Str) (b m : Kvs)
    (hb : e.bind = .dict b) (hk : b.get k = .dict m) (hown : OwnEntries T (e.path ++ s ":" ++ k) (s "long") m)
    (hne : m ≠ .nil) (hfl : FlatD m) (hnd : m.keys.Nodup) (hlang : lang ≠ []) :
    via T padIds (msgSrc e k) (s "long") lang = some ((readLang dk (b.get k) lang).getD (s "-")) := by
  have hr : msgSrc e k = .ref (e.path ++ s ":" ++ k) := by simp [msgSrc, hb, hk]
  rw [hr, hk]
  exact via_ref_own dk T padIds _ _ lang m (Or.inl rfl) hown hne hfl hnd hlang

/-- header and text layer composed: if the element's label slot is what `process_row` leaves for its row's label cells and one
of them is suffixed (so the slot is a dict), the `<label>` shows in every language the spec's reading of the cells, and `-`
where nothing was written -/
theorem effective_text_label (dk : Str) (T : List Entry) (padIds : List Str) (e : Elem) (cells : List ColCell) (m : Kvs)
    (lang : Str) (hne : ∀ c ∈ cells, c.2 ≠ []) (hnd : (cells.map (·.1)).Nodup)
    (hslot : e.label = colVal dk .none cells) (hdict : colVal dk .none cells = .dict m)
    (hown : OwnEntries T (e.path ++ s ":label") (s "long") m) (hlang : lang ≠ []) :
    via T padIds (labelSrc e) (s "long") lang = some ((specRead dk cells lang).getD (s "-")) := by
  have hflat := colVal_flat dk cells .none Flat.none hne hnd (by intro h; cases h)
  have hnod := colVal_nodup dk cells .none trivial
  rw [hdict] at hflat hnod
  cases hflat with
  | dict _ hmne hfl =>
    rw [effective_label_itext dk T padIds e lang m (hslot.trans hdict) hown hmne hfl hnod hlang, hslot,
      column_reading dk cells hne hnd lang]

/-- the form has a `<translation>` for exactly the languages under which some text or media was filed -/
theorem languages_exact (dl : Str) (f : Form) (l : Str) :
    l ∈ (run dl f).langs ↔ ∃ e ∈ table dl f, e.lang = l := by
  simp only [run, langsOf, mem_dedup, List.mem_map, List.not_mem_nil, or_false]

def cellsEx : List ColCell := [(some "fr".toList, "Qfr".toList), (none, "Q".toList)]
def elemEx : Elem :=
  { key := "s0".toList, path := "/data/q".toList, kind := .question, label := colVal "default".toList .none cellsEx,
    hint := .str "H".toList, guidance := .none, media := .none, bind := .none }
def formEx : Form := ⟨[elemEx], []⟩
def mEx : Kvs := .cons "fr".toList (.str "Qfr".toList) (.cons "default".toList (.str "Q".toList) .nil)

theorem formEx_own : OwnEntries (table "default".toList formEx) (elemEx.path ++ s ":label") (s "long") mEx := by
  unfold OwnEntries; rfl

example : via (table "default".toList formEx) [] (labelSrc elemEx) (s "long") "de".toList = some (s "-") ∧
    via (table "default".toList formEx) [] (labelSrc elemEx) (s "long") "default".toList = some "Q".toList := by
  have key := fun lang => effective_text_label "default".toList _ [] elemEx cellsEx mEx lang (by decide) (by decide) rfl
    (by rfl) formEx_own
  constructor
  · rw [key "de".toList (by decide)]
    decide
  · rw [key "default".toList (by decide)]
    decide

example : "fr".toList ∈ (run "default".toList formEx).langs := by
  have hmem : (⟨"fr".toList, elemEx.path ++ s ":label", s "long", .str "Qfr".toList⟩ : Entry) ∈
      dictEntries (elemEx.path ++ s ":label") (s "long") (.dict mEx) := by
    simp [dictEntries, mEx, Kvs.items]
  rw [← formEx_own] at hmem
  exact (languages_exact _ _ _).mpr ⟨_, (List.mem_filter.mp hmem).1, rfl⟩

/-- the spec's cells of one kind as (language suffix, text) column cells -/
def toCol (cells : List TextSpec.Cell) (k : Str) : List ColCell :=
  cells.filterMap fun c => if c.kind = k then some (c.lang, c.text) else none

theorem findLang_toCol_some (cells : List TextSpec.Cell) (k l : Str) :
    findLang (toCol cells k) (some l) = lookup l (TextSpec.suffixed cells k) := by
  induction cells with
  | nil => simp [toCol, findLang, TextSpec.suffixed, lookup]
  | cons c cs ih =>
    simp only [toCol, TextSpec.suffixed] at ih ⊢
    rcases c with ⟨ck, cl, ct⟩
    by_cases hk : ck = k
    · cases cl with
      | none => simpa [List.filterMap_cons, hk, findLang_cons] using ih
      | some l' =>
        by_cases hl : l' = l
        · subst hl; simp [hk, findLang_cons, lookup]
        · have hl' : ¬ l = l' := fun e => hl e.symm
          simpa [List.filterMap_cons, hk, findLang_cons, lookup, hl, hl'] using ih
    · cases cl <;> simpa [List.filterMap_cons, hk] using ih

theorem findLang_toCol_none (cells : List TextSpec.Cell) (k : Str) :
    findLang (toCol cells k) none = TextSpec.unsuffixed cells k := by
  induction cells with
  | nil => simp [toCol, findLang, TextSpec.unsuffixed]
  | cons c cs ih =>
    simp only [toCol, TextSpec.unsuffixed] at ih ⊢
    rcases c with ⟨ck, cl, ct⟩
    by_cases hk : ck = k
    · cases cl with
      | none => simp [hk, findLang_cons, List.find?]
      | some l' => simpa [List.filterMap_cons, hk, findLang_cons, List.find?] using ih
    · simpa [List.filterMap_cons, hk, List.find?] using ih

/-- `TextSpec.langMap` looked up at a language is `specRead` of the column's cells -/
theorem lookup_langMap (dl : Str) (cells : List TextSpec.Cell) (k l : Str) :
    lookup l (TextSpec.langMap dl cells k) = specRead dl (toCol cells k) l := by
  simp only [TextSpec.langMap, specRead, findLang_toCol_some, findLang_toCol_none]
  cases hu : TextSpec.unsuffixed cells k with
  | none => cases lookup l (TextSpec.suffixed cells k) <;> simp
  | some u =>
    by_cases hd : (lookup dl (TextSpec.suffixed cells k)).isSome = true
    · simp only [hd, if_true]
      by_cases hl : l = dl
      · subst hl
        cases h : lookup l (TextSpec.suffixed cells k) with
        | none => rw [h] at hd; cases hd
        | some x => simp
      · cases lookup l (TextSpec.suffixed cells k) <;> simp [hl]
    · simp only [hd, if_false, Bool.false_eq_true, lookup_append]
      by_cases hl : l = dl
      · subst hl; cases lookup l (TextSpec.suffixed cells k) <;> simp [lookup]
      · cases lookup l (TextSpec.suffixed cells k) <;> simp [lookup, hl]

/-- `effective_text_label` ending in the spec's definitions: the `<label>` shows `TextSpec.demanded` of the plan
`TextSpec.planElem` builds for a suffixed label cell (`.itext (langMap …)`) -/
theorem effective_text_label_spec (dl : Str) (T : List Entry) (padIds : List Str) (e : Elem) (cells : List TextSpec.Cell)
    (m : Kvs) (lang : Str)
    (hne : ∀ c ∈ toCol cells (s "label"), c.2 ≠ []) (hnd : ((toCol cells (s "label")).map (·.1)).Nodup)
    (hsfx : TextSpec.suffixed cells (s "label") ≠ [])
    (hslot : e.label = colVal dl .none (toCol cells (s "label"))) (hdict : colVal dl .none (toCol cells (s "label")) = .dict m)
    (hown : OwnEntries T (e.path ++ s ":label") (s "long") m) (hlang : lang ≠ []) :
    via T padIds (labelSrc e) (s "long") lang =
      TextSpec.demanded (s "label") (.itext (TextSpec.langMap dl cells (s "label"))) lang := by
  rw [effective_text_label dl T padIds e _ m lang hne hnd hslot hdict hown hlang]
  have hm : (TextSpec.langMap dl cells (s "label")).isEmpty = false := by
    unfold TextSpec.langMap
    cases hs : TextSpec.suffixed cells (s "label") with
    | nil => exact absurd hs hsfx
    | cons x xs =>
      -- every branch of `langMap` starts with the suffixed cells
      cases TextSpec.unsuffixed cells (s "label") with
      | none => rfl
      | some u =>
        simp only []
        split
        · rfl
        · rfl
  have hl : lang.isEmpty = false := by cases lang <;> simp_all
  have hk : TextSpec.mediaKinds.contains (s "label") = false := by decide
  simp only [TextSpec.demanded, hl, Bool.false_eq_true, if_false, lookup_langMap, hk, hm, Bool.or_false]
  cases specRead dl (toCol cells (s "label")) lang <;> simp [s, TextSpec.s]

/-- what a select shows for a choice of an itext list: the label triples are the `<text id="<list>-<idx>">` values per language -/
theorem mem_choiceTexts_label (T : List Entry) (padIds view : List Str) (sr : Bool) (q : V) (c : Choice) (lang t : Str)
    (hlang : lang ≠ []) :
    (s "label", lang, t) ∈ choiceTexts T padIds view true sr q c ↔
      lang ∈ view ∧ shown T padIds lang c.id (s "long") = some t := by
  have hl : lang.isEmpty = false := by cases lang <;> simp_all
  have hnot : s "label" ∉ mediaKinds := by decide
  simp only [choiceTexts, if_true, List.flatMap_cons, List.mem_append, List.mem_filterMap, List.mem_flatMap, List.mem_map]
  constructor
  · rintro (⟨l, hlv, hopt⟩ | ⟨kf, ⟨mk, hmk, rfl⟩, l, _, hopt⟩)
    · -- the triple comes from the (label, long) pair: its language is `lang`, which is not empty
      obtain ⟨t', ht', he⟩ := Option.map_eq_some_iff.mp hopt
      cases he
      rw [hl] at ht'
      exact ⟨hlv, by simpa using ht'⟩
    · -- it cannot come from a media pair: its kind would be a media kind
      obtain ⟨t', _, he⟩ := Option.map_eq_some_iff.mp hopt
      cases he
      exact absurd hmk hnot
  · rintro ⟨hv, hs⟩
    exact Or.inl ⟨lang, hv, by simp [hl, hs]⟩

/-- every select using an itext list shows per language the text filed for this choice, else `-`; the id `<list>-<idx>` counts
positions in the full list, so it is this row's text (`OwnEntries`) -/
theorem effective_choice_label_itext (dk : Str) (T : List Entry) (padIds view : List Str) (sr : Bool) (q : V) (c : Choice)
    (m : Kvs) (lang : Str) (hown : OwnEntries T c.id (s "long") m) (hne : m ≠ .nil) (hfl : FlatD m)
    (hnd : m.keys.Nodup) (hlang : lang ≠ []) (hv : lang ∈ view) :
    (s "label", lang, (readLang dk (.dict m) lang).getD (s "-")) ∈ choiceTexts T padIds view true sr q c :=
  (mem_choiceTexts_label T padIds view sr q c lang _ hlang).mpr
    ⟨hv, shown_own dk T padIds lang c.id _ m (Or.inl rfl) hown hne hfl hnd⟩

/-- `OwnEntries` from path distinctness, for any display element and form: with pairwise distinct xpaths and no media entry of
this form, what the element itself files under `<xpath>:<d>` is what the whole table files there — for any names (a question
may be called `q:hint`, a list `/data/q:label`) -/
theorem ownEntries_at (dl : Str) (f : Form) (e : Elem) (d : String) (form : Str) (m : Kvs) (hd : d ∈ Itext.displays)
    (he : e ∈ f.elems) (hpaths : (f.elems.map (·.path)).Nodup)
    (hown : (getTranslations dl e).filter (isAt (Itext.path e.path d) form) = dictEntries (Itext.path e.path d) form (.dict m))
    (hmedia : ∀ x ∈ f.elems.flatMap (mediaEntries dl), x.form ≠ form) :
    OwnEntries (table dl f) (Itext.path e.path d) form m := by
  have hel := filter_flatMap_own (·.path) (getTranslations dl) (isAt (Itext.path e.path d) form) e f.elems
    (fun y _ hp => filter_isAt_nil fun x hx hid => by
      obtain ⟨d', hd', hid'⟩ := getTranslations_ids dl y hx
      exact absurd (Itext.path_inj hd' hd (hid' ▸ hid)).1 hp) he hpaths
  have hch : ((f.choices.filter fun c => (itextLists f).contains c.list).flatMap (choiceEntries dl)).filter
      (isAt (Itext.path e.path d) form) = [] :=
    filter_isAt_nil fun x hx hid => by
      obtain ⟨c, _, hxc⟩ := List.mem_flatMap.mp hx
      exact (choice_id_ne_path c e.path hd ((choiceEntries_id hxc).symm.trans hid)).elim
  show (table dl f).filter (isAt (Itext.path e.path d) form) = _
  rw [table, List.filter_append, List.filter_append, hch, hel, hown, filter_isAt_nil fun x hx _ => hmedia x hx]
  simp

/-- The one statement of the text layer: a body or bind node that refers to the id of slot `(d, form)` of element `e`
shows, in every language, the text the slot's dict `m` has for it, else `-` — in any form with pairwise distinct xpaths
in which no media type goes by the slot's content type. -/
theorem effective_slot_form (dl : Str) (f : Form) (padIds : List Str) (e : Elem) {d form : String} {m : Kvs} (lang : Str)
    (hs : (d, form, .dict m) ∈ tSlots dl e) (hform : form = "long" ∨ form = "guidance")
    (he : e ∈ f.elems) (hpaths : (f.elems.map (·.path)).Nodup)
    (hmedia : ∀ x ∈ f.elems.flatMap (mediaEntries dl), x.form ≠ form.toList)
    (hne : m ≠ .nil) (hfl : FlatD m) (hnd : m.keys.Nodup) (hlang : lang ≠ []) :
    via (table dl f) padIds (.ref (Itext.path e.path d)) form.toList lang =
      some ((readLang dl (.dict m) lang).getD (s "-")) :=
  via_ref_own dl _ padIds _ _ lang m (hform.imp (congrArg String.toList) (congrArg String.toList))
    (ownEntries_at dl f e d _ m (tSlot_display hs) he hpaths (filter_own_slot dl e hs) hmedia) hne hfl hnd hlang

theorem ownEntries_label (dl : Str) (f : Form) (e : Elem) (m : Kvs) (he : e ∈ f.elems) (hlab : e.label = .dict m)
    (hpaths : (f.elems.map (·.path)).Nodup)
    (hmedia : ∀ x ∈ f.elems.flatMap (mediaEntries dl), x.form ≠ s "long") :
    OwnEntries (table dl f) (e.path ++ s ":label") (s "long") m :=
  labelId_eq e.path ▸ ownEntries_at dl f e "label" _ m (by decide) he hpaths
    (filter_own_slot dl e (d := "label") (form := "long") (by simp [tSlots, labelV, hlab, isDict])) hmedia

theorem ownEntries_hint (dl : Str) (f : Form) (e : Elem) (m : Kvs) (he : e ∈ f.elems) (hh : hintV dl e = .dict m)
    (hpaths : (f.elems.map (·.path)).Nodup)
    (hmedia : ∀ x ∈ f.elems.flatMap (mediaEntries dl), x.form ≠ s "long") :
    OwnEntries (table dl f) (e.path ++ s ":hint") (s "long") m := by
  rw [hintId_eq]
  exact ownEntries_at dl f e "hint" _ m (by decide) he hpaths (hintId_eq e.path ▸ filter_own_hint dl e m hh) hmedia

/-- labels on whole forms (no `OwnEntries` hypothesis): with pairwise distinct xpaths and no media type called `long`, an
element whose label slot is what `process_row` leaves for its row's label cells shows in every language what the spec demands -/
theorem effective_text_label_form (dl : Str) (f : Form) (padIds : List Str) (e : Elem) (cells : List TextSpec.Cell)
    (m : Kvs) (lang : Str) (he : e ∈ f.elems) (hpaths : (f.elems.map (·.path)).Nodup)
    (hmedia : ∀ x ∈ f.elems.flatMap (mediaEntries dl), x.form ≠ s "long")
    (hne : ∀ c ∈ toCol cells (s "label"), c.2 ≠ []) (hnd : ((toCol cells (s "label")).map (·.1)).Nodup)
    (hsfx : TextSpec.suffixed cells (s "label") ≠ [])
    (hslot : e.label = colVal dl .none (toCol cells (s "label"))) (hdict : colVal dl .none (toCol cells (s "label")) = .dict m)
    (hlang : lang ≠ []) :
    via (table dl f) padIds (labelSrc e) (s "long") lang =
      TextSpec.demanded (s "label") (.itext (TextSpec.langMap dl cells (s "label"))) lang :=
  effective_text_label_spec dl _ padIds e cells m lang hne hnd hsfx hslot hdict
    (ownEntries_label dl f e m he (hslot.trans hdict) hpaths hmedia) hlang

def specCellsEx : List TextSpec.Cell := [⟨"label".toList, some "fr".toList, "Qfr".toList⟩, ⟨"label".toList, none, "Q".toList⟩]

/-- the one-question form `label::fr`, `label`: French reads `Qfr`, German the placeholder -/
example : via (table "default".toList formEx) [] (labelSrc elemEx) (s "long") "fr".toList = some "Qfr".toList ∧
    via (table "default".toList formEx) [] (labelSrc elemEx) (s "long") "de".toList = some (s "-") := by
  have hmedia : ∀ x ∈ formEx.elems.flatMap (mediaEntries "default".toList), x.form ≠ s "long" := by
    intro x hx; simp [formEx, elemEx, mediaEntries] at hx
  have hd : colVal "default".toList .none (toCol specCellsEx (s "label")) = .dict mEx := by rfl
  have key := fun lang hl => effective_text_label_form "default".toList formEx [] elemEx specCellsEx mEx lang
    (by simp [formEx]) (by decide) hmedia (by decide) (by decide) (by decide) rfl hd hl
  constructor
  · rw [key "fr".toList (by decide)]; decide
  · rw [key "de".toList (by decide)]; decide

theorem effective_hint_form (dl : Str) (f : Form) (padIds : List Str) (e : Elem) (m : Kvs) (lang : Str)
    (he : e ∈ f.elems) (hh : e.hint = .dict m) (hpaths : (f.elems.map (·.path)).Nodup)
    (hmedia : ∀ x ∈ f.elems.flatMap (mediaEntries dl), x.form ≠ s "long")
    (hne : m ≠ .nil) (hfl : FlatD m) (hnd : m.keys.Nodup) (hlang : lang ≠ []) :
    via (table dl f) padIds (hintSrc e) (s "long") lang = some ((readLang dl e.hint lang).getD (s "-")) := by
  rw [show hintSrc e = .ref (Itext.path e.path "hint") by simp [hintSrc, hh, isDict, hintId_eq], hh]
  exact effective_slot_form dl f padIds e (d := "hint") (form := "long") lang (by simp [tSlots, hintV, hh]) (.inl rfl)
    he hpaths hmedia hne hfl hnd hlang

theorem effective_guidance_form (dl : Str) (f : Form) (padIds : List Str) (e : Elem) (m : Kvs) (lang : Str)
    (he : e ∈ f.elems) (hg : e.guidance = .dict m) (hpaths : (f.elems.map (·.path)).Nodup)
    (hmedia : ∀ x ∈ f.elems.flatMap (mediaEntries dl), x.form ≠ s "guidance")
    (hne : m ≠ .nil) (hfl : FlatD m) (hnd : m.keys.Nodup) (hlang : lang ≠ []) :
    via (table dl f) padIds (hintSrc e) (s "guidance") lang = some ((readLang dl e.guidance lang).getD (s "-")) := by
  rw [show hintSrc e = .ref (Itext.path e.path "hint") by simp [hintSrc, hg, falsy_dict hne, hintId_eq], hg]
  exact effective_slot_form dl f padIds e (d := "hint") (form := "guidance") lang (by simp [tSlots, guidanceV, hg])
    (.inr rfl) he hpaths hmedia hne hfl hnd hlang

theorem effective_message_form (dl : Str) (f : Form) (padIds : List Str) (e : Elem) (d : String) (b m : Kvs) (lang : Str)
    (hd : d = "jr:constraintMsg" ∨ d = "jr:requiredMsg")
    (he : e ∈ f.elems) (hb : e.bind = .dict b) (hk : b.get d.toList = .dict m) (hpaths : (f.elems.map (·.path)).Nodup)
    (hmedia : ∀ x ∈ f.elems.flatMap (mediaEntries dl), x.form ≠ s "long")
    (hne : m ≠ .nil) (hfl : FlatD m) (hnd : m.keys.Nodup) (hlang : lang ≠ []) :
    via (table dl f) padIds (msgSrc e d.toList) (s "long") lang = some ((readLang dl (b.get d.toList) lang).getD (s "-")) := by
  rw [show msgSrc e d.toList = .ref (Itext.path e.path d) by simp [msgSrc, hb, hk, Itext.path, s], hk]
  exact effective_slot_form dl f padIds e lang (msg_mem_tSlots hd hb hk) (.inl rfl) he hpaths hmedia hne hfl hnd hlang

/-- `processRow_col`, together with the acceptance of the row -/
theorem slot_of_row (dk : Str) (hk : List (Str × List Str)) (row : List (Str × Str)) (q : Str)
    (hwf : ∀ c ∈ row, c.1 ≠ "__row".toList ∧ ∃ t ts, lookup c.1 hk = some (t :: ts))
    (hnc : NoClash dk hk .nil row)
    (hflat : ∀ c ∈ row, ∀ t ts, lookup c.1 hk = some (t :: ts) → q = t → ts.length ≤ 1) :
    ∃ out, processRow dk hk row = .ok out ∧ out.get q = colVal dk .none (colCells hk q row) := by
  obtain ⟨out, hok, _⟩ := row_grouping dk hk row .nil hwf hnc
  exact ⟨out, hok, processRow_col hwf hnc hok hflat⟩

/-- labels from the row's cells: an element whose label slot is the `label` value of its grouped row shows in every language
the spec's reading of the row's label cells, else `-`.  Nothing is assumed of the grouped value but that a suffixed label cell
made it a dict. -/
theorem effective_text_label_row (dl : Str) (f : Form) (padIds : List Str) (e : Elem) (hk : List (Str × List Str))
    (row : List (Str × Str)) (out m : Kvs) (lang : Str)
    (he : e ∈ f.elems) (hpaths : (f.elems.map (·.path)).Nodup)
    (hmedia : ∀ x ∈ f.elems.flatMap (mediaEntries dl), x.form ≠ s "long")
    (hwf : ∀ c ∈ row, c.1 ≠ "__row".toList ∧ ∃ t ts, lookup c.1 hk = some (t :: ts))
    (hnc : NoClash dl hk .nil row)
    (hflat : ∀ c ∈ row, ∀ t ts, lookup c.1 hk = some (t :: ts) → s "label" = t → ts.length ≤ 1)
    (hrow : processRow dl hk row = .ok out) (hlab : e.label = out.get (s "label")) (hdict : out.get (s "label") = .dict m)
    (hne : ∀ c ∈ colCells hk (s "label") row, c.2 ≠ []) (hnd : ((colCells hk (s "label") row).map (·.1)).Nodup)
    (hlang : lang ≠ []) :
    via (table dl f) padIds (labelSrc e) (s "long") lang =
      some ((specRead dl (colCells hk (s "label") row) lang).getD (s "-")) := by
  have hget := processRow_col hwf hnc hrow hflat
  exact effective_text_label dl _ padIds e _ m lang hne hnd (hlab.trans hget) (hget ▸ hdict)
    (ownEntries_label dl f e m he (hlab.trans hdict) hpaths hmedia) hlang

/-- the row `label::fr = Qfr`, `label = Q` (F19 column order) -/
example : ∃ out, processRow "default".toList hkEx rowEx = .ok out ∧
    out.get "label".toList = colVal "default".toList .none (colCells hkEx "label".toList rowEx) := by
  apply slot_of_row _ _ _ _ rowEx_wf rowEx_noClash
  intro c hc t ts hl _
  simp only [rowEx, List.mem_cons, List.mem_nil_iff, or_false] at hc
  rcases hc with rfl | rfl
  · have h2 : lookup "label::fr".toList hkEx = some ["label".toList, "fr".toList] := by decide
    rw [h2] at hl; cases hl; simp
  · have h2 : lookup "label".toList hkEx = some ["label".toList] := by decide
    rw [h2] at hl; cases hl; simp

/-- `OwnEntries` for a choice's label, from distinct (list, position) pairs: no other choice, no element and none of its
media files anything under `[<list>-<idx>][long]` -/
theorem ownEntries_choice (dl : Str) (f : Form) (c : Choice) (m : Kvs) (hc : c ∈ f.choices)
    (hit : (itextLists f).contains c.list = true) (hlab : c.label = .dict m) (hne : m ≠ .nil) (hstr : AllStr m)
    (hnd : (f.choices.map fun c => (c.list, c.idx)).Nodup)
    (hmedia : ∀ kvs, c.media = .dict kvs → ∀ kv ∈ Kvs.items kvs, kv.1 ≠ s "long") :
    OwnEntries (table dl f) c.id (s "long") m := by
  have hch := filter_flatMap_own (fun c : Choice => (c.list, c.idx)) (choiceEntries dl) (isAt c.id (s "long")) c
    (f.choices.filter fun c => (itextLists f).contains c.list) (fun c' _ hne => filter_isAt_nil fun x hx hid => by
      have h := Itext.choiceId_inj (by rw [← choiceId_eq, ← choiceId_eq, ← choiceEntries_id hx, hid] :
        Itext.choiceId c'.list c'.idx = Itext.choiceId c.list c.idx)
      exact absurd (by rw [h.1, h.2]) hne)
    (List.mem_filter.mpr ⟨hc, by simpa using hit⟩) (List.Nodup.sublist (List.Sublist.map _ List.filter_sublist) hnd)
  have hel : (f.elems.flatMap (getTranslations dl)).filter (isAt c.id (s "long")) = [] :=
    filter_isAt_nil fun x hx hid => by
      obtain ⟨e, _, hxe⟩ := List.mem_flatMap.mp hx
      obtain ⟨d, hd, hid'⟩ := getTranslations_ids dl e hxe
      exact (choice_id_ne_path c e.path hd (hid.symm.trans hid')).elim
  have hmd : (f.elems.flatMap (mediaEntries dl)).filter (isAt c.id (s "long")) = [] :=
    filter_isAt_nil fun x hx hid => by
      obtain ⟨e, _, hxe⟩ := List.mem_flatMap.mp hx
      exact (choice_id_ne_path c e.path (by decide) (hid.symm.trans (mediaEntries_id hxe))).elim
  show (table dl f).filter (isAt c.id (s "long")) = _
  rw [table, List.filter_append, List.filter_append, hch, hel, hmd, filter_own_choice dl c m hlab hne hstr hmedia]
  simp

/-- every select that uses an itext list shows for the choice at position `idx`, per language, the text its own row files under
that language, else `-` — never another row's text -/
theorem effective_choice_label_form (dl : Str) (f : Form) (padIds view : List Str) (sr : Bool) (q : V) (c : Choice) (m : Kvs)
    (lang : Str) (hc : c ∈ f.choices) (hit : (itextLists f).contains c.list = true) (hlab : c.label = .dict m)
    (hne : m ≠ .nil) (hstr : AllStr m) (hfl : FlatD m) (hkn : m.keys.Nodup)
    (hnd : (f.choices.map fun c => (c.list, c.idx)).Nodup)
    (hmedia : ∀ kvs, c.media = .dict kvs → ∀ kv ∈ Kvs.items kvs, kv.1 ≠ s "long")
    (hlang : lang ≠ []) (hv : lang ∈ view) :
    (s "label", lang, (readLang dl (.dict m) lang).getD (s "-")) ∈ choiceTexts (table dl f) padIds view true sr q c :=
  effective_choice_label_itext dl _ padIds view sr q c m lang
    (ownEntries_choice dl f c m hc hit hlab hne hstr hnd hmedia) hne hfl hkn hlang hv

def chA : Choice := ⟨"c0".toList, "l".toList, 0, .dict (.cons "fr".toList (.str "Afr".toList) .nil), .none⟩
def chB : Choice := ⟨"c1".toList, "l".toList, 1, .str "B".toList, .none⟩
def selEx : Elem :=
  { key := "s0".toList, path := "/data/q".toList, kind := .select "l".toList false, label := .str "Q".toList,
    hint := .none, guidance := .none, media := .none, bind := .none }
def formCh : Form := ⟨[selEx], [chA, chB]⟩

/-- a two-choice list, the first translated to French only: French reads `Afr`, `default` the placeholder -/
example : (s "label", "fr".toList, "Afr".toList) ∈
      choiceTexts (table "default".toList formCh) [] ["fr".toList, "default".toList] true false (.str "Q".toList) chA ∧
    (s "label", "default".toList, s "-") ∈
      choiceTexts (table "default".toList formCh) [] ["fr".toList, "default".toList] true false (.str "Q".toList) chA := by
  have key := fun lang hl hv => effective_choice_label_form "default".toList formCh [] ["fr".toList, "default".toList] false
    (.str "Q".toList) chA (.cons "fr".toList (.str "Afr".toList) .nil) lang (by simp [formCh]) (by decide) rfl
    (by intro h; cases h) ⟨⟨_, rfl⟩, trivial⟩ (flatD_single _ _ (by decide)) (by decide) (by decide)
    (by intro kvs h; cases h) hl hv
  exact ⟨key "fr".toList (by decide) (by decide), key "default".toList (by decide) (by decide)⟩

end Pyxv.C08
