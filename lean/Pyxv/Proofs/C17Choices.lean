import Pyxv.Proofs.ChoicesLemmas
import Pyxv.Proofs.BaseLemmas
/-!
# C17 — choices-sheet rules and instance-id clashes of the catalogue, on `Pyxv.Choices`

`choice_no_name`, `dup_choice` (`validate_choice_list`) and `instance_clash` / `file_stem_clash` / `dup_external`
(`Survey._generate_instances`' `seen` loop) for every list / every sequence of instances and every position.
The duplicate rule does not look at labels; the clash rule compares the *source* of every later instance of an id
with the first one.
-/
namespace Pyxv.C17
open Pyxv Pyxv.Choices

theorem choice_no_name_rejected (allowDup : Bool) (pre post : List Rows.Cells) (r : Rows.Cells)
    (h : lookup (c!"name") r = none) :
    validateList allowDup (pre ++ r :: post) = some .noChoiceName := by
  unfold validateList
  have : (pre ++ r :: post).any (fun r => (lookup (c!"name") r).isNone) = true := by
    simp [List.any_append, h]
  rw [this]; rfl

/-- names of the rows that have one, in order -/
def choiceNames (rows : List Rows.Cells) : List Str := rows.filterMap fun r => lookup (c!"name") r

theorem hasDupName_false_iff : ∀ (rows : List Rows.Cells) (seen : List Str),
    hasDupName seen rows = false ↔ (choiceNames rows).Nodup ∧ ∀ n ∈ choiceNames rows, n ∉ seen
  | [], _ => by simp [hasDupName, choiceNames]
  | r :: rs, seen => by
    have ih := hasDupName_false_iff rs
    unfold choiceNames at ih ⊢
    rw [hasDupName, List.filterMap_cons]
    cases lookup (c!"name") r with
    | none => exact ih seen
    | some n =>
      by_cases hs : n ∈ seen
      · simp [hs]
      · have hc : seen.contains n = false := by simpa using hs
        simp only [hc, Bool.false_eq_true, if_false, ih, List.mem_cons, not_or, List.nodup_cons, forall_eq_or_imp]
        exact ⟨fun ⟨hn, h⟩ => ⟨⟨fun hm => (h _ hm).1 rfl, hn⟩, hs, fun x hx => (h x hx).2⟩,
          fun ⟨⟨hni, hn⟩, _, h⟩ => ⟨hn, fun x hx => ⟨fun e => hni (e ▸ hx), h x hx⟩⟩⟩

/-- **duplicate choice name** (no `allow_choice_duplicates`): two rows of a list with the same name, at any two
    positions and whatever their other cells are (labelled, unlabelled, picture only) -/
theorem dup_choice_rejected (n : Str) (r1 r2 : Rows.Cells) (pre mid post : List Rows.Cells)
    (h1 : lookup (c!"name") r1 = some n) (h2 : lookup (c!"name") r2 = some n)
    (hall : (pre ++ r1 :: (mid ++ r2 :: post)).any (fun r => (lookup (c!"name") r).isNone) = false) :
    validateList false (pre ++ r1 :: (mid ++ r2 :: post)) = some .dupChoice := by
  have hd : hasDupName [] (pre ++ r1 :: (mid ++ r2 :: post)) = true := by
    cases h : hasDupName [] (pre ++ r1 :: (mid ++ r2 :: post)) with
    | true => rfl
    | false =>
      -- the name `n` occurs twice among the names
      have hn := ((hasDupName_false_iff _ _).1 h).1
      have e : choiceNames (pre ++ r1 :: (mid ++ r2 :: post)) = choiceNames pre ++ n :: (choiceNames mid ++ n :: choiceNames post) := by
        simp only [choiceNames, List.filterMap_append, List.filterMap_cons, h1, h2]
      rw [e] at hn
      exact absurd (List.mem_append_right _ List.mem_cons_self) (List.nodup_cons.1 (List.nodup_append.1 hn).2.1).1
  unfold validateList
  rw [hall, hd]
  rfl

example : validateList false
    [[(c!"name", c!"a"), (c!"label", c!"A")], [(c!"name", c!"b")], [(c!"name", c!"a"), (c!"image", c!"p.png")]]
    = some .dupChoice := by decide +kernel
example : validateList false [[(c!"name", c!"a")], [(c!"label", c!"x")]] = some .noChoiceName := by decide +kernel

def namesNodup (seen : List Inst) : Prop := (seen.map (·.name)).Nodup

theorem findSeen_of_mem (name : Str) : ∀ (seen : List Inst) (p : Inst), namesNodup seen → p ∈ seen → p.name = name →
    findSeen name seen = some p
  | [], _, _, hp, _ => by simp at hp
  | q :: qs, p, hn, hp, hpn => by
    simp only [findSeen]
    have hn' : q.name ∉ qs.map (·.name) ∧ namesNodup qs := by
      simpa [namesNodup, List.nodup_cons] using hn
    rcases List.mem_cons.1 hp with e | hp'
    · subst e; simp [hpn]
    · have : q.name ≠ name := by
        intro e
        exact hn'.1 (by rw [e, ← hpn]; exact List.mem_map_of_mem hp')
      simp [this, findSeen_of_mem name qs p hn'.2 hp' hpn]

/-- an instance the loop went through is on record — emitted now or seen before — with its own source -/
theorem emit_record {is seen out : List Inst} (h : emitInsts seen is = some out) {i : Inst} (hi : i ∈ is) :
    ∃ p, (p ∈ out ∨ findSeen i.name seen = some p) ∧ p.name = i.name ∧ p.src = i.src := by
  rcases emit_declares is seen out h i hi with ⟨o, ho, hn, hs⟩ | ⟨p, hp, hs⟩
  · exact ⟨o, .inl ho, hn, hs⟩
  · exact ⟨p, .inr hp, findSeen_name hp, hs⟩

/-- two records of one name are one record -/
theorem emit_record_unique {is seen out : List Inst} (h : emitInsts seen is = some out) {n : Str} {p q : Inst}
    (hp : p ∈ out ∨ findSeen n seen = some p) (hq : q ∈ out ∨ findSeen n seen = some q)
    (hpn : p.name = n) (hqn : q.name = n) : p = q := by
  obtain ⟨hnd, hnew, -⟩ := emit_inv is seen out h
  rcases hp with hp | hp <;> rcases hq with hq | hq
  · -- both emitted: the emitted names are pairwise different
    exact eq_of_map_nodup (·.name) hnd hp hq (hpn.trans hqn.symm)
  · have := hnew p hp; rw [hpn, hq] at this; cases this
  · have := hnew q hq; rw [hqn, hp] at this; cases this
  · exact Option.some.inj (hp.symm.trans hq)

/-- a later instance whose id is already seen with another source stops the loop, wherever it stands -/
theorem emitInsts_clash_seen : ∀ (is seen : List Inst), namesNodup seen →
    (∃ p ∈ seen, ∃ i ∈ is, p.name = i.name ∧ p.src ≠ i.src) → emitInsts seen is = none := by
  intro is seen hn ⟨p, hp, i, hi, hname, hsrc⟩
  cases he : emitInsts seen is with
  | none => rfl
  | some out =>
    obtain ⟨q, hq, hqn, hqs⟩ := emit_record he hi
    have := emit_record_unique he (.inr (findSeen_of_mem i.name seen p hn hp hname)) hq hname hqn
    exact absurd (this ▸ hqs) hsrc

/-- **instance-id clash**: two instances with the same id and different sources (a select from `x.csv` and one from
    `x.xml`, …) are rejected at whatever positions they stand and whatever stands between them -/
theorem instance_clash_rejected (i1 i2 : Inst) (hname : i1.name = i2.name) (hsrc : i1.src ≠ i2.src) :
    ∀ (pre rest seen : List Inst), namesNodup seen → i2 ∈ rest → emitInsts seen (pre ++ i1 :: rest) = none := by
  intro pre rest seen _ hm
  cases h : emitInsts seen (pre ++ i1 :: rest) with
  | none => rfl
  | some out =>
    -- both instances would be on record under the one id, each with its own source
    obtain ⟨p, hp, hpn, hps⟩ := emit_record h (i := i1) (by simp)
    obtain ⟨q, hq, hqn, hqs⟩ := emit_record h (i := i2) (by simp [hm])
    rw [← hname] at hq
    have := emit_record_unique h hp hq hpn (hqn.trans hname.symm)
    exact absurd (hps.symm.trans (this ▸ hqs)) hsrc

example : emitInsts []
    [{ kind := c!"file", name := c!"places", src := some c!"jr://file-csv/places.csv", items := [] },
     { kind := c!"choice", name := c!"l", src := none, items := [] },
     { kind := c!"file", name := c!"places", src := some c!"jr://file/places.xml", items := [] }] = none := by
  decide +kernel

end Pyxv.C17
