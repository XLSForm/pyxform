import Pyxv.Model.Convert
import Pyxv.Proofs.XmlRoundTrip
import Pyxv.Proofs.C01NoBr
import Pyxv.Proofs.C01NameTree
import Pyxv.Proofs.C02
import Pyxv.Proofs.C04
import Pyxv.Proofs.C03Text
import Pyxv.Proofs.LexerLemmas
import Pyxv.Proofs.ConvertHeads
import Pyxv.Proofs.BindsLemmas
import Pyxv.Proofs.ChannelLemmas
/-!
# Theorems about the end-to-end composition `Pyxv.Convert.convert`

Statements about every workbook the composed model converts, from the slices' theorems through `Trace` (what a
successful run has computed): a theorem about a run is stated on its `Trace` (`trace_…`), and `convert_cXX` is its
existential closure.  Where a closure quantifies the root name or the element tree (`convert_c03…`, `convert_c10…`), the
statement does not tie them to the workbook: the tie is in the `trace_…` theorem, which is the one to build on.
-/
namespace Pyxv.ConvertP
open Pyxv Pyxv.Form Pyxv.Rows Pyxv.Xml Pyxv.Asm Pyxv.Convert Pyxv.C01

/-! ## reading a document

The readers the statements below are phrased in, and what they read of a document `Asm.assemble` builds. -/

/-- forest induction, read off the recursor of the nested inductive: by pattern matching on `.elem … :: rest` the
    same statement is many times costlier to check -/
theorem nodes_induction {motive : List Node → Prop} (nil : motive [])
    (text : ∀ b s rest, motive rest → motive (.text b s :: rest))
    (elem : ∀ t a ks rest, motive ks → motive rest → motive (.elem t a ks :: rest)) : ∀ ks, motive ks :=
  @Node.rec_1 (fun n => ∀ rest, motive rest → motive (n :: rest)) motive
    (fun t a ks ihk rest h => elem t a ks rest ihk h) (fun b s rest h => text b s rest h) nil
    (fun _ ks ihk ihks => ihk ks ihks)

mutual
/-- the name tree an instance element reads back as (text children are data, not structure) -/
def ntOf : Node → List NT
  | .text _ _ => []
  | .elem t a ks => [NT.node t (lookup (l!"jr:template") a).isSome (ntOfL ks)]
def ntOfL : List Node → List NT
  | [] => []
  | k :: ks => ntOf k ++ ntOfL ks
end

/-- children of `<model>` in a document of the shape `Survey.xml()` builds -/
def modelKidsOf : Node → List Node
  | .elem _ _ [.elem _ _ [_, .elem _ _ mk], _] => mk
  | _ => []

def bodyKidsOf : Node → List Node
  | .elem _ _ [_, .elem _ _ bk] => bk
  | _ => []

def isTag (t : Str) : Node → Bool
  | .elem t' _ _ => t' == t
  | .text _ _ => false

/-- the root element of the primary instance: the only child of the first `<instance>` of the model -/
def primaryRoot (doc : Node) : Option Node :=
  match (modelKidsOf doc).find? (isTag (l!"instance")) with
  | some (.elem _ _ [r]) => some r
  | _ => none

def kidsOf : Node → List Node
  | .elem _ _ ks => ks
  | .text _ _ => []

def tagOf : Node → Str
  | .elem t _ _ => t
  | .text _ _ => []

theorem modelKidsOf_assemble (f : Fields) (rk rest bk : List Node) :
    modelKidsOf (assemble f none rk rest bk) = Asm.modelKids f none rk rest := rfl

theorem bodyKidsOf_assemble (f : Fields) (rk rest bk : List Node) :
    bodyKidsOf (assemble f none rk rest bk) = bk := rfl

theorem read_assemble (f : Fields) (rk rest bk : List Node) :
    modelKidsOf (normAttrs (eproj (assemble f none rk rest bk))) =
      normAttrsKids (eprojKids (Asm.modelKids f none rk rest)) ∧
    bodyKidsOf (normAttrs (eproj (assemble f none rk rest bk))) = normAttrsKids (eprojKids bk) := by
  constructor <;>
    simp [assemble, pyNode, eproj, eprojKids, isText, normAttrs, normAttrsKids, modelKidsOf, bodyKidsOf]

/-- a reader of single elements that looks at tag and attributes only, the values through `lookup`, reads from the
    XML reader's view of a forest its readings of the forest, attribute-value normalised -/
theorem filterMap_read {β} (g : Node → Option β) (m : β → β) (htext : ∀ b s, g (.text b s) = none)
    (helem : ∀ t a ks ks', g (.elem t (normAttrList a) ks') = (g (.elem t a ks)).map m) :
    ∀ ks : List Node, (normAttrsKids (eprojKids ks)).filterMap g = (ks.filterMap g).map m
  | [] => by simp [eprojKids_nil, normAttrsKids]
  | .text b s :: rest => by
    rw [eprojKids_text, filterMap_read g m htext helem rest, List.filterMap_cons, htext]
  | .elem t a ks :: rest => by
    rw [eprojKids_elem]
    simp only [normAttrsKids, normAttrs, List.filterMap_cons, helem t a ks, filterMap_read g m htext helem rest]
    cases g (.elem t a ks) <;> rfl

theorem modelKids_filterMap {β} (g : Node → Option β) (f : Fields) (rk rest : List Node)
    (hs : ∀ a, g (pyNode "submission".toList a []) = none) (hi : ∀ ks, g (pyNode "instance".toList [] ks) = none) :
    (Asm.modelKids f none rk rest).filterMap g = rest.filterMap g := by
  unfold Asm.modelKids submissionNode itextPart
  split <;> simp only [List.nil_append, List.append_nil, List.cons_append, List.filterMap_cons, hs, hi]

theorem modelKids_find_instance (f : Fields) (rk rest : List Node) :
    (Asm.modelKids f none rk rest).find? (isTag (l!"instance")) =
      some (pyNode "instance".toList [] [.elem f.name (rootAttrs f) rk]) := by
  have hsub : ∀ a, isTag (l!"instance") (pyNode (l!"submission") a []) = false := by
    intro a; simp only [pyNode, isTag]; decide
  have hinst : ∀ ks, isTag (l!"instance") (pyNode (l!"instance") [] ks) = true := by
    intro ks; simp only [pyNode, isTag]; decide
  unfold Asm.modelKids submissionNode
  split
  · simp [itextPart, hinst]
  · simp [itextPart, List.find?, hsub, hinst]

theorem primaryRoot_assemble (f : Fields) (rk rest bk : List Node) :
    primaryRoot (assemble f none rk rest bk) = some (.elem f.name (rootAttrs f) rk) := by
  unfold primaryRoot
  rw [modelKidsOf_assemble, modelKids_find_instance]
  rfl

def bindRef : Node → Option Str
  | .elem t a _ => if t = l!"bind" then lookup (l!"nodeset") a else none
  | .text _ _ => none

theorem bindRef_ne {t : Str} {a : List (Str × Str)} {ks : List Node} (h : t ≠ l!"bind") :
    bindRef (.elem t a ks) = none := if_neg h

def bindRefs (doc : Node) : List Str := (modelKidsOf doc).filterMap bindRef

mutual
/-- `ref` / `nodeset` of every body control (elements named like a control), document order -/
def ctlRefs : Node → List Str
  | .text _ _ => []
  | .elem t a ks =>
    (if controlTags.contains t then (lookup (l!"ref") a).toList ++ (lookup (l!"nodeset") a).toList else []) ++ ctlRefsL ks
def ctlRefsL : List Node → List Str
  | [] => []
  | k :: ks => ctlRefs k ++ ctlRefsL ks
end

/-! ## decorated stack machine = `Form.parseRows` -/

theorem eraseL_append (a b : List DItem) : Convert.eraseL (a ++ b) = Convert.eraseL a ++ Convert.eraseL b :=
  map_append_of_eqns rfl (fun _ _ => rfl) a b

def eraseF (f : DFrame) : Frame := ⟨f.ct, f.name, f.bind, Convert.eraseL f.kids⟩
def eraseSt (st : DSt) : St := (Convert.eraseL st.1, st.2.map eraseF)

theorem erase_dpush (t : DItem) (st : DSt) : eraseSt (dpush t st) = push (Convert.erase t) (eraseSt st) := by
  obtain ⟨root, fs⟩ := st
  cases fs with
  | nil => simp [dpush, push, eraseSt, eraseL_append, Convert.eraseL]
  | cons f fs => simp [dpush, push, eraseSt, eraseF, eraseL_append, Convert.eraseL]

theorem erase_dpushOpt (t : Option QData) (hp : Pay) (st : DSt) :
    eraseSt (dpushOpt t hp st) = pushOpt t (eraseSt st) := by
  cases t with
  | none => rfl
  | some d => simp [dpushOpt, pushOpt, erase_dpush, Convert.erase]

theorem dstep_erase (st : DSt) (n : Nat) (p : Pay) (k : RowK) :
    (dstep st n p k).map eraseSt = step (eraseSt st) n k := by
  cases k with
  | skip => rfl
  | bad e => rfl
  | q d other => simp [dstep, step, Except.map, erase_dpushOpt, erase_dpush, Convert.erase]
  | begin_ ct name bind helper =>
    simp only [dstep, step]
    have h := erase_dpushOpt helper (helperPay p) st
    generalize dpushOpt helper (helperPay p) st = st1 at h
    obtain ⟨r1, f1⟩ := st1
    rw [← h]
    simp [Except.map, eraseSt, eraseF, Convert.eraseL]
  | end_ ct =>
    obtain ⟨root, fs⟩ := st
    cases fs with
    | nil => simp [dstep, step, Except.map, eraseSt]
    | cons f fs =>
      simp only [dstep, step, eraseSt, List.map_cons, eraseF]
      by_cases hc : f.ct = ct
      · simp only [hc, if_true, Except.map]
        have := erase_dpush (.sec ct f.name f.bind f.p f.kids) (root, fs)
        rw [this]; simp [eraseSt, Convert.erase]
      · simp [hc, Except.map]

theorem drun_erase : ∀ (rows : List ((Nat × RowK) × Pay)) (st : DSt),
    (drun st rows).map eraseSt = run (eraseSt st) (rows.map (·.1))
  | [], st => rfl
  | ((n, r), p) :: rs, st => by
    simp only [drun, run, List.map_cons]
    rw [← dstep_erase st n p r]
    cases dstep st n p r with
    | error e => rfl
    | ok st' => exact drun_erase rs st'

/-- **Decoration is conservative**: the decorated stack machine, its decoration erased, is `Form.parseRows` — same
    tree, same located error. -/
theorem dparse_erase (rows : List ((Nat × RowK) × Pay)) :
    (dparse rows).map Convert.eraseL = parseRows (rows.map (·.1)) := by
  have h := drun_erase rows ([], [])
  unfold dparse parseRows
  have e0 : eraseSt ([], []) = ([], []) := by simp [eraseSt, Convert.eraseL]
  rw [e0] at h
  rw [← h]
  cases hr : drun ([], []) rows with
  | error e => rfl
  | ok st =>
    obtain ⟨root, fs⟩ := st
    cases fs with
    | nil => simp [Except.map, eraseSt]
    | cons f fs => simp [Except.map, eraseSt, eraseF]

#print axioms dparse_erase

/-- first disjunct: a row-level error on which `rowControls` errs too passes with an empty decoration; `formOut`
    reports it -/
theorem decorate_inv {lists : List Str} {n : Nat} {r : Cells} {k : RowK} {p : Pay}
    (h : decorate lists n r = .ok (k, p)) :
    rowOutside r = none ∧ classify lists n r = .row k ∧
      ((∃ e, k = .bad e ∧ p = {}) ∨
        ∃ cs, Controls.rowControls lists n r = .ok cs ∧
          p = { cells := r, attrs := ownAttrs k cs, bq := rowQ (kName k) r,
                hcells := (helperOf k r).1, hbq := (helperOf k r).2 }) := by
  unfold decorate at h
  cases ho : rowOutside r with
  | some w => rw [ho] at h; cases h
  | none =>
  rw [ho] at h
  obtain ⟨-, h⟩ := ite_eq_right h nofun
  cases hc : classify lists n r with
  | unsupported w => rw [hc] at h; cases h
  | row k' =>
  rw [hc] at h; dsimp only at h
  cases hr : Controls.rowControls lists n r with
  | error e =>
    rw [hr] at h
    cases e with
    | unsup w => cases h
    | err w =>
      dsimp only at h
      split at h
      · cases h; exact ⟨rfl, rfl, .inl ⟨_, rfl, rfl⟩⟩
      · cases h
  | ok cs => rw [hr] at h; cases h; exact ⟨rfl, rfl, .inr ⟨cs, rfl, rfl⟩⟩

/-- one iteration of `decorateAll` (a `travE`: `decorateAll_eq`) -/
def decorateRow (lists : List Str) (nr : Nat × Cells) : Except Convert.Err ((Nat × RowK) × Pay) :=
  match decorate lists nr.1 nr.2 with
  | .error e => .error e
  | .ok (k, p) => .ok ((nr.1, k), p)

theorem decorateRow_ok {lists : List Str} {nr : Nat × Cells} {x : (Nat × RowK) × Pay} (h : decorateRow lists nr = .ok x) :
    ∃ k p, x = ((nr.1, k), p) ∧ decorate lists nr.1 nr.2 = .ok (k, p) := by
  unfold decorateRow at h
  split at h
  · cases h
  · next k p hd => cases h; exact ⟨k, p, rfl, hd⟩

theorem decorateAll_eq (lists : List Str) : ∀ (rows : List Cells) (n : Nat),
    decorateAll lists n rows = travE (decorateRow lists) (number n rows)
  | [], _ => rfl
  | r :: rs, n => by
    simp only [decorateAll, number, travE, decorateRow, decorateAll_eq lists rs (n + 1)]
    cases decorate lists n r with
    | error e => rfl
    | ok kp => cases travE (decorateRow lists) (number (n + 1) rs) <;> rfl

theorem decorateAll_mem {lists : List Str} {n : Nat} {rows : List Cells} {ds : List ((Nat × RowK) × Pay)}
    (h : decorateAll lists n rows = .ok ds) {x : (Nat × RowK) × Pay} (hx : x ∈ ds) :
    ∃ r ∈ rows, decorate lists x.1.1 r = .ok (x.1.2, x.2) := by
  obtain ⟨nr, hnr, hd⟩ := travE_mem (decorateAll_eq lists rows n ▸ h) hx
  obtain ⟨k, p, rfl, hdec⟩ := decorateRow_ok hd
  exact ⟨nr.2, (mem_number hnr).2.2, hdec⟩

theorem decorateAll_dom {lists : List Str} {n : Nat} {rows : List Cells} {ds : List ((Nat × RowK) × Pay)}
    (h : decorateAll lists n rows = .ok ds) {r : Cells} (hr : r ∈ rows) : ∃ m kp, decorate lists m r = .ok kp := by
  obtain ⟨i, hi⟩ := exists_mem_number (n := n) hr
  obtain ⟨x, -, hd⟩ := travE_dom (decorateAll_eq lists rows n ▸ h) hi
  obtain ⟨k, p, -, hdec⟩ := decorateRow_ok hd
  exact ⟨i, _, hdec⟩

theorem decorateAll_classifyAll (lists : List Str) (rows : List Cells) (n : Nat) (ds : List ((Nat × RowK) × Pay))
    (h : decorateAll lists n rows = .ok ds) : classifyAll lists n rows = .ok (ds.map (·.1)) := by
  rw [classifyAll_eq]
  refine travE_map_ok (·.1) (fun nr x hx => ?_) (decorateAll_eq lists rows n ▸ h)
  obtain ⟨k, p, rfl, hdec⟩ := decorateRow_ok hx
  simp only [classifyRow, (decorate_inv hdec).2.1]

/-! ## what a successful conversion has computed -/

/-- the question data of the generated `meta/instanceID` -/
def iidQ : QData := { name := l!"instanceID", bind := true, control := false, node := true }

/-- the stages' results behind a document `convertDoc` returns; the choices steps and `validate17` are in
    `convertDoc_inv` only -/
structure Trace (wb : Workbook) (doc : Node) (f : Fields) (lists : List (Str × List Choices.Choice))
    (rows : List Cells) (drows : List ((Nat × RowK) × Pay)) (o : FormOut) (ditems : List DItem) : Prop where
  hf : fieldsOf wb = .ok f
  hrows : ∃ key, Binds.headerKey wb.surveyCols = .ok key ∧ canonRows key wb.survey = .ok rows
  hdec : decorateAll (lists.map (·.1)) 2 rows = .ok drows
  hform : formOut f.name (lists.map (·.1)) rows [] = .ok o
  hpar : dparse drows = .ok ditems
  hbinds : bindsOkL (elsOf f.name (dWithMeta f.name rows ditems)) [(f.name, .group)] (dWithMeta f.name rows ditems) = true
  hctl : ctlOkL ditems = true
  htexts : textsErrL (elsOf f.name (dWithMeta f.name rows ditems)) [f.name] ditems = none
  hdoc : doc = assemble f none (instNodes (defaultsOfL [f.name] ditems) [f.name] (ntKids o.inst))
    ((Choices.staticInsts [] (othersApplied (activeRows rows) lists)).map Choices.instNode ++
      bindNodesL (elsOf f.name (dWithMeta f.name rows ditems)) [(f.name, .group)] (dWithMeta f.name rows ditems))
    (bodyNodesL (elsOf f.name (dWithMeta f.name rows ditems)) [f.name] ditems)
  hvalid : validDoc [] doc = true

theorem convertDoc_inv (wb : Workbook) (doc : Node) (h : convertDoc wb = .ok doc) :
    ∃ f ch rows drows o ditems,
      Trace wb doc f (Choices.choicesOf (wb.choiceCols.filterMap fun h => lookup h choiceKeys) ch) rows drows o ditems ∧
      canonChoices wb.choices = some ch ∧
      Choices.validateLists false (Choices.groupByKey Choices.listKey ch) = none ∧
      Rows17.validate17 f.name (withMeta rows [] o.items) = .ok () := by
  unfold convertDoc at h
  cases hf : fieldsOf wb with
  | error e => rw [hf] at h; cases h
  | ok f =>
  rw [hf] at h
  obtain ⟨-, h⟩ := ite_eq_right h nofun
  cases hch : canonChoices wb.choices with
  | none => rw [hch] at h; cases h
  | some ch =>
  rw [hch] at h
  obtain ⟨-, h⟩ := ite_eq_right h nofun
  cases hlists : Choices.validateLists false (Choices.groupByKey Choices.listKey ch) with
  | some x => rw [hlists] at h; cases h
  | none =>
  rw [hlists] at h
  obtain ⟨-, h⟩ := ite_eq_right h nofun
  cases hkey : Binds.headerKey wb.surveyCols with
  | error e => rw [hkey] at h; cases e <;> cases h
  | ok key =>
  rw [hkey] at h; dsimp only at h
  cases hrows : canonRows key wb.survey with
  | error e => rw [hrows] at h; cases h
  | ok rows =>
  rw [hrows] at h; dsimp only at h
  cases hdec : decorateAll ((Choices.choicesOf (wb.choiceCols.filterMap fun h => lookup h choiceKeys) ch).map (·.1)) 2 rows with
  | error e => rw [hdec] at h; cases h
  | ok drows =>
  rw [hdec] at h; dsimp only at h
  cases hform : formOut f.name ((Choices.choicesOf (wb.choiceCols.filterMap fun h => lookup h choiceKeys) ch).map (·.1)) rows [] with
  | error e => rw [hform] at h; cases e <;> cases h
  | ok o =>
  rw [hform] at h; dsimp only at h
  cases hval : Rows17.validate17 f.name (withMeta rows [] o.items) with
  | error e => rw [hval] at h; cases h
  | ok u =>
  rw [hval] at h; dsimp only at h
  cases hpar : dparse drows with
  | error e => rw [hpar] at h; cases h
  | ok ditems =>
  rw [hpar] at h; dsimp only at h
  obtain ⟨-, h⟩ := ite_eq_right h nofun
  obtain ⟨hb, h⟩ := ite_eq_right h nofun
  obtain ⟨hc, h⟩ := ite_eq_right h nofun
  cases htx : textsErrL (elsOf f.name (dWithMeta f.name rows ditems)) [f.name] ditems with
  | some e => rw [htx] at h; cases h
  | none =>
  rw [htx] at h; dsimp only at h
  obtain ⟨hv, h⟩ := ite_eq_left h nofun
  injection h with h
  subst h
  exact ⟨f, ch, rows, drows, o, ditems, ⟨hf, ⟨key, hkey, hrows⟩, hdec, hform, hpar, by simpa using hb, by simpa using hc,
    htx, rfl, hv⟩, rfl, hlists, hval⟩

theorem convertDoc_trace (wb : Workbook) (doc : Node) (h : convertDoc wb = .ok doc) :
    ∃ f lists rows drows o ditems, Trace wb doc f lists rows drows o ditems :=
  let ⟨f, _, rows, drows, o, ditems, T, _⟩ := convertDoc_inv wb doc h
  ⟨f, _, rows, drows, o, ditems, T⟩

#print axioms convertDoc_trace

/-! ## what `dynSets` and `bindNodes` emit -/

theorem mem_dynSetOf {els : List Refs.Chain} {ctx : Refs.Chain} {r : Cells} {b : Bool} {n : Node}
    (h : n ∈ dynSetOf els ctx r b) : ∃ dv, n = setvalueNode els ctx dv b := by
  unfold dynSetOf at h
  split at h
  · split at h
    · exact ⟨_, List.mem_singleton.1 h⟩
    · cases h
  · cases h

mutual
theorem mem_dynSets (els : List Refs.Chain) {n : Node} : ∀ (pre : List Str) (d : DItem), n ∈ dynSets els pre d →
    ∃ ctx dv, n = setvalueNode els ctx dv true
  | pre, .q d p, h => by rw [dynSets] at h; exact ⟨_, mem_dynSetOf h⟩
  | pre, .sec .rep _ _ _ _, h => by rw [dynSets] at h; cases h
  | pre, .sec .group m _ _ ks, h | pre, .sec .loop m _ _ ks, h => by unfold dynSets at h; exact mem_dynSetsL els _ ks h
theorem mem_dynSetsL (els : List Refs.Chain) {n : Node} : ∀ (pre : List Str) (ds : List DItem), n ∈ dynSetsL els pre ds →
    ∃ ctx dv, n = setvalueNode els ctx dv true
  | _, [], h => by cases h
  | pre, k :: ks, h => by
    rw [dynSetsL, List.mem_append] at h
    exact h.elim (mem_dynSets els pre k) (mem_dynSetsL els pre ks)
end

/-- the `<setvalue>` `bindNodes` puts after the `<bind>` of a question outside repeats -/
def dynAt (els : List Refs.Chain) (x : DNode) : List Node :=
  match x.head with
  | .q _ => if inRep x.chain then [] else dynSetOf els x.chain x.pay.cells false
  | .sec .. => []

/-- what `bindNodes` emits at one element -/
def bindsAt (els : List Refs.Chain) (x : DNode) : List Node :=
  (if x.head.bind then [bindNode els x.chain x.pay.bq] else []) ++ dynAt els x

theorem bindNodesL_walk (els : List Refs.Chain) : ∀ ds pc, bindNodesL els pc ds = (dnodesL pc ds).flatMap (bindsAt els) :=
  dwalk_eq _ (fun _ _ _ => by simp only [bindNodes, bindsAt, dynAt, inRep_q]; rfl)
    (fun _ _ _ _ _ _ => by simp only [bindNodes, bindsAt, dynAt, List.append_nil]; rfl) (fun _ => rfl) (fun _ _ _ => rfl)

theorem mem_dynAt {els : List Refs.Chain} {x : DNode} {n : Node} (h : n ∈ dynAt els x) :
    inRep x.chain = false ∧ ∃ dv, n = setvalueNode els x.chain dv false := by
  unfold dynAt at h
  split at h
  · split at h
    · cases h
    · next hr => exact ⟨Bool.eq_false_iff.2 hr, mem_dynSetOf h⟩
  · cases h

theorem mem_bindNodesL (els : List Refs.Chain) {n : Node} (pc : Refs.Chain) (ds : List DItem) (h : n ∈ bindNodesL els pc ds) :
    (∃ ctx, ∃ h ∈ dheadsL ds, n = bindNode els ctx h.2.bq) ∨ (inRep pc = false ∧ ∃ ctx dv, n = setvalueNode els ctx dv false) := by
  rw [bindNodesL_walk, List.mem_flatMap] at h
  obtain ⟨x, hx, hn⟩ := h
  rcases List.mem_append.1 hn with hn | hn
  · split at hn
    · exact .inl ⟨x.chain, (x.head, x.pay), dnodesL_heads ds pc ▸ List.mem_map_of_mem hx, List.mem_singleton.1 hn⟩
    · cases hn
  · obtain ⟨hr, e⟩ := mem_dynAt hn
    -- the element's chain extends `pc`
    rw [dnodesL_prefix] at hx
    obtain ⟨y, -, rfl⟩ := List.mem_map.1 hx
    rw [inRep, List.any_append, Bool.or_eq_false_iff] at hr
    exact .inr ⟨hr.1, _, e⟩

/-! ## the parts are DOM trees (every attribute list is a map) -/

theorem isDomKids_eq : ∀ l : List Node, isDomKids l = l.all isDom := eq_all_of_eqns rfl fun _ _ => rfl

/-- `node(...)` writes its attributes with `setAttribute`, which keeps their names distinct -/
theorem isDom_pyNode_eq (t : Str) (a : List (Str × Str)) (ks : List Node) : isDom (pyNode t a ks) = isDomKids ks := by
  rw [pyNode, isDom, attrKeysNodup_setAttrs, Bool.true_and]

theorem isDom_text (b : Bool) (s : Str) : isDom (.text b s) = true := by rw [isDom]

/-- an element-wise check holds of the primary instance if it holds of every text and of every `<name>` /
    `<name jr:template="">` by itself, in a scope `jr:template=""` leaves unchanged -/
theorem instNodes_ok {σ : Type} (C : TreeCheck σ) (s : σ) (p : Str → Bool)
    (defs : List (List Str × Str)) (hs : ∀ t, C.ext s (Convert.tmplAttrs t) = s)
    (he : ∀ n t, p n = true → C.elem s n (Convert.tmplAttrs t) = true) (htext : ∀ v, C.node s (.text false v) = true) :
    ∀ ts pre, ntAllL p ts = true → C.kids s (instNodes defs pre ts) = true := by
  intro ts
  induction ts using nts_induct with
  | nil => exact fun _ _ => C.kids_nil s
  | node n t ks rest ihk ihr =>
    intro pre h
    rw [ntAllL_cons, ntAll_node, Bool.and_eq_true, Bool.and_eq_true] at h
    rw [instNodes, C.kids_cons, ihr pre h.2, Bool.and_true]
    unfold instNode
    refine C.node_intro (hs t) (he n t h.1.1) ?_
    cases ks with
    | nil =>
      cases lookupPath (pre ++ [n]) defs with
      | none => exact C.kids_nil s
      | some v => exact C.kids_single (htext v)
    | cons k ks' => exact ihk (pre ++ [n]) h.1.2

theorem isDom_instNodes (defs : List (List Str × Str)) (pre : List Str) (ts : List NT) :
    isDomKids (instNodes defs pre ts) = true :=
  instNodes_ok domCheck () (fun _ => true) defs (fun _ => rfl) (fun _ t _ => tmplAttrs_nodup t) (isDom_text false)
    ts pre (ntAllL_true ts)

theorem isDom_instNode (defs : List (List Str × Str)) : ∀ (pre : List Str) (t : NT), isDom (instNode defs pre t) = true :=
  fun pre t => domCheck.node_of_single (s := ()) (isDom_instNodes defs pre [t])

theorem isDom_choiceInst (i : Choices.Inst) : isDom (Choices.instNode i) = true := by
  unfold Choices.instNode
  cases i.src with
  | some u => exact isDom_elem (by simp [attrKeysNodup]) isDomKids_nil
  | none =>
    simp only [isDom, isDomKids_eq, List.all_cons, List.all_nil, List.all_map, Function.comp_def, List.all_eq_true,
      Bool.and_true, Bool.true_and, implies_true, attrKeysNodup, List.any_nil, Bool.not_false]

theorem isDom_setvalueNode (els : List Refs.Chain) (ctx : Refs.Chain) (dv : Str) (b : Bool) :
    isDom (setvalueNode els ctx dv b) = true := isDom_pyNode_eq ..

theorem isDom_bindNode (els : List Refs.Chain) (ctx : Refs.Chain) (q : Binds.Q) :
    isDom (bindNode els ctx q) = true := isDom_pyNode_eq ..

theorem isDom_dynSetsL (els : List Refs.Chain) (pre : List Str) (ds : List DItem) : isDomKids (dynSetsL els pre ds) = true := by
  rw [isDomKids_eq, List.all_eq_true]
  intro n hn
  obtain ⟨ctx, dv, rfl⟩ := mem_dynSetsL els pre ds hn
  exact isDom_setvalueNode ..

theorem isDom_dynSets (els : List Refs.Chain) : ∀ (pre : List Str) (d : DItem), isDomKids (dynSets els pre d) = true :=
  fun pre d => by simpa only [dynSetsL, List.append_nil] using isDom_dynSetsL els pre [d]

theorem isDom_bindNodesL (els : List Refs.Chain) (pc : Refs.Chain) (ds : List DItem) : isDomKids (bindNodesL els pc ds) = true := by
  rw [isDomKids_eq, List.all_eq_true]
  intro n hn
  rcases mem_bindNodesL els pc ds hn with ⟨ctx, x, -, rfl⟩ | ⟨-, ctx, dv, rfl⟩
  · exact isDom_bindNode ..
  · exact isDom_setvalueNode ..

theorem isDom_bindNodes (els : List Refs.Chain) : ∀ (pc : Refs.Chain) (d : DItem),
    isDomKids (bindNodes els pc d) = true :=
  fun pc d => by simpa only [bindNodesL, List.append_nil] using isDom_bindNodesL els pc [d]

theorem domOkL_eq : ∀ ks : List Node, domOkL ks = isDomKids ks := by
  intro ks
  induction ks using nodes_induction with
  | nil => rfl
  | text b s rest ih => simp only [domOkL, domOk, isDomKids, isDom, ih]
  | elem t a ks rest ihk ih => simp only [domOkL, domOk, isDomKids, isDom, ihk, ih]

theorem isDomKids_of_domOkL : ∀ (ks : List Node), domOkL ks = true → isDomKids ks = true :=
  fun ks h => domOkL_eq ks ▸ h

theorem isDom_of_domOk (n : Node) (h : domOk n = true) : isDom n = true := by
  have := isDomKids_of_domOkL [n] (by rw [domOkL, domOkL, h]; rfl)
  rwa [isDomKids, isDomKids, Bool.and_true] at this

/-- the first two conjuncts are `textOutcome`'s own check of the reparsed node, not facts about `Chan.mixedChannel` -/
theorem textOutcome_ok {els : List Refs.Chain} {path : List Str} {tag s : Str} {n : Node}
    (h : textOutcome els path tag s = .ok n) :
    domOk n = true ∧ outputOnly n = true ∧ ∃ a ks, n = .elem tag a ks := by
  unfold textOutcome at h
  split at h
  · simp at h
  · split at h
    · rename_i n' hm
      split at h
      · rename_i hc
        simp only [Chan.Outcome.ok.injEq] at h; subst h
        simp only [Bool.and_eq_true] at hc
        exact ⟨hc.1, hc.2, Chan.mixedChannel_tag hm⟩
      · simp at h
    · rename_i hne
      exact absurd h (by intro h'; exact hne _ h')

theorem isDom_textNode (els : List Refs.Chain) (path : List Str) (tag : Str) (cell : Option Str) :
    isDom (textNode els path tag cell) = true := by
  unfold textNode emptyNode
  split
  · exact isDom_pyNode_eq ..
  · split
    · next n hn => exact isDom_of_domOk n (textOutcome_ok hn).1
    · exact isDom_pyNode_eq ..

theorem isDom_labelAndHint (els : List Refs.Chain) (path : List Str) (r : Cells) :
    isDomKids (labelAndHint els path r) = true := by
  have hl := isDom_textNode els path (l!"label") (get r "label")
  have hh := isDom_textNode els path (l!"hint") (get r "hint")
  unfold labelAndHint labelNode hintNode
  rw [isDomKids_eq, List.all_append]
  split <;> split <;> simp only [List.all_cons, List.all_nil, hl, hh, Bool.and_self]

theorem isDom_itemsetNodes (r : Cells) : isDomKids (itemsetNodes r) = true := by
  unfold itemsetNodes
  split
  · rfl
  · split
    · rfl
    · simp only [isDomKids_eq, isDom_pyNode_eq, List.all_cons, List.all_nil, Bool.and_self]

mutual
theorem isDom_bodyNodes (els : List Refs.Chain) : ∀ (pre : List Str) (d : DItem), isDomKids (bodyNodes els pre d) = true
  | pre, .q d p => by
    unfold bodyNodes
    split
    · rw [isDomKids_eq, List.all_cons, isDom_pyNode_eq, isDomKids_append, isDom_labelAndHint, isDom_itemsetNodes]; rfl
    · rfl
  | pre, .sec .rep n b p ks => by
    unfold bodyNodes labelNode
    simp only [isDomKids_eq, List.all_cons, List.all_nil, isDom_pyNode_eq, isDom_textNode, Bool.true_and, Bool.and_true]
    rw [← isDomKids_eq, isDomKids_append, isDom_bodyNodesL els (pre ++ [n]) ks, isDom_dynSetsL]; rfl
  | pre, .sec .group n b p ks | pre, .sec .loop n b p ks => by
    unfold bodyNodes labelNode
    rw [isDomKids_eq, List.all_cons, isDom_pyNode_eq, isDomKids_append, isDom_bodyNodesL els (pre ++ [n]) ks]
    split <;> simp only [isDomKids_eq, List.all_cons, List.all_nil, isDom_textNode, Bool.and_self]
theorem isDom_bodyNodesL (els : List Refs.Chain) : ∀ (pre : List Str) (ds : List DItem),
    isDomKids (bodyNodesL els pre ds) = true
  | _, [] => by unfold bodyNodesL; exact isDomKids_nil
  | pre, k :: ks => by
    unfold bodyNodesL
    rw [isDomKids_append, isDom_bodyNodes els pre k, isDom_bodyNodesL els pre ks]; rfl
end

theorem convert_partsDom (f : Fields) (lists : List (Str × List Choices.Choice)) (rows : List Cells) (o : FormOut)
    (ditems : List DItem) :
    PartsDom none (instNodes (defaultsOfL [f.name] ditems) [f.name] (ntKids o.inst))
      ((Choices.staticInsts [] (othersApplied (activeRows rows) lists)).map Choices.instNode ++
        bindNodesL (elsOf f.name (dWithMeta f.name rows ditems)) [(f.name, .group)] (dWithMeta f.name rows ditems))
      (bodyNodesL (elsOf f.name (dWithMeta f.name rows ditems)) [f.name] ditems) :=
  ⟨fun ks h => (by cases h), isDom_instNodes _ _ _,
   (by rw [isDomKids_append, isDom_bindNodesL, Bool.and_true, isDomKids_eq, List.all_map]
       exact List.all_eq_true.2 fun i _ => isDom_choiceInst i),
   isDom_bodyNodesL _ _ _⟩

/-! ## C15 and C01 for the composed conversion -/

theorem convert_eq (wb : Workbook) (doc : Node) (h : convertDoc wb = .ok doc) (p : Bool) :
    convert wb p = .ok (renderDoc p doc) := by
  simp [convert, h]

theorem convert_ok (wb : Workbook) (p : Bool) (text : Str) (h : convert wb p = .ok text) :
    ∃ doc, convertDoc wb = .ok doc ∧ text = renderDoc p doc := by
  unfold convert at h
  split at h
  · rename_i doc hd
    exact ⟨doc, hd, by simpa using h.symm⟩
  · simp at h

/-- the element and attribute names of the produced tree contain no `]`: the complement of the open finding F5
    (`is_xml_tag` accepts the literal `À-Ö]`) -/
def NamesClean (doc : Node) : Prop := noBrTree doc = true

theorem trace_wf {wb doc f lists rows drows o ditems} (T : Trace wb doc f lists rows drows o ditems)
    (hb : noBrTree doc = true) : doc.WFLax = true ∧ isElem doc = true := by
  have hv := T.hvalid
  have hd := isDom_assemble f (convert_partsDom f lists rows o ditems)
  rw [← T.hdoc] at hd
  refine ⟨wf_of_validDoc doc [] hv hb hd, ?_⟩
  rw [T.hdoc]; rfl

theorem trace_parses {wb doc f lists rows drows o ditems} (T : Trace wb doc f lists rows drows o ditems)
    (hb : noBrTree doc = true) (p : Bool) : parseDoc (renderDoc p doc) = some (view p doc) :=
  renderDoc_parses doc (trace_wf T hb).1 (trace_wf T hb).2 p

/-- **C15 for the whole conversion.**  A workbook the model converts in either mode it converts in both, both texts
    parse, and the parsed trees differ only in white-space-only text between elements. -/
theorem convert_c15 (wb : Workbook) (p : Bool) (text : Str) (h : convert wb p = .ok text)
    (hn : ∀ doc, convertDoc wb = .ok doc → noBrTree doc = true) :
    ∃ tp tc, convert wb true = .ok tp ∧ convert wb false = .ok tc ∧
      Option.map stripWs (parseDoc tp) = Option.map stripWs (parseDoc tc) ∧
      (parseDoc tp).isSome = true ∧ (parseDoc tc).isSome = true := by
  obtain ⟨doc, hd, -⟩ := convert_ok wb p text h
  obtain ⟨f, lists, rows, drows, o, ditems, T⟩ := convertDoc_trace wb doc hd
  obtain ⟨hwf, helem⟩ := trace_wf T (hn doc hd)
  exact ⟨_, _, convert_eq wb doc hd true, convert_eq wb doc hd false, pretty_cosmetic_lax doc hwf helem⟩

#print axioms convert_c15

/-- the form id the conversion writes: the `form_id` setting (default `data`) -/
def formId (wb : Workbook) : Str :=
  match fieldsOf wb with
  | .ok f => f.idString
  | .error _ => []

/-- **C01 for the whole conversion.**  The returned text, in either mode, satisfies `Asm.holds`, the oracle function
    of the C01 check: it parses, its namespace declarations are legal, every prefix is bound, and it has the ODK
    skeleton whose primary instance root carries the form id. -/
theorem convert_c01 (wb : Workbook) (p : Bool) (text : Str) (h : convert wb p = .ok text)
    (hn : ∀ doc, convertDoc wb = .ok doc → NamesClean doc) :
    holds text (normAttrVal (formId wb)) = true := by
  obtain ⟨doc, hd, rfl⟩ := convert_ok wb p text h
  obtain ⟨f, lists, rows, drows, o, ditems, T⟩ := convertDoc_trace wb doc hd
  have hb : noBrTree doc = true := hn doc hd
  have hid : formId wb = f.idString := by simp [formId, T.hf]
  rw [hid]
  have hdoc := T.hdoc
  subst hdoc
  exact accepted_assembled_holds f none _ _ _ T.hvalid hb (convert_partsDom f lists rows o ditems) p

#print axioms convert_c01

/-! ## C04: the primary instance of the document is the row tree -/

theorem tmplAttrs_lookup (t : Bool) : (lookup (l!"jr:template") (Convert.tmplAttrs t)).isSome = t := by
  cases t <;> decide

theorem ntOfL_instNodes (defs : List (List Str × Str)) (pre : List Str) (ts : List NT) :
    ntOfL (instNodes defs pre ts) = ts := by
  induction ts using nts_induct generalizing pre with
  | nil => rfl
  | node n t ks rest ihk ihr =>
    rw [instNodes, ntOfL, ihr]
    unfold instNode
    rw [ntOf, tmplAttrs_lookup]
    cases ks with
    | nil => cases lookupPath (pre ++ [n]) defs <;> rfl
    | cons k ks' => rw [ihk]; rfl

theorem ntOf_instNode (defs : List (List Str × Str)) : ∀ (pre : List Str) (t : NT), ntOf (instNode defs pre t) = [t] :=
  fun pre t => by simpa [instNodes, ntOfL] using ntOfL_instNodes defs pre [t]

theorem trace_primaryRoot {wb doc f lists rows drows o ditems} (T : Trace wb doc f lists rows drows o ditems) :
    primaryRoot doc =
      some (.elem f.name (rootAttrs f) (instNodes (defaultsOfL [f.name] ditems) [f.name] (ntKids o.inst))) := by
  rw [T.hdoc]; exact primaryRoot_assemble ..

theorem trace_instance {wb doc f lists rows drows o ditems} (T : Trace wb doc f lists rows drows o ditems) :
    ∃ rt, primaryRoot doc = some rt ∧
      kidsOf rt = instNodes (defaultsOfL [f.name] ditems) [f.name] (ntKids o.inst) ∧ ntOfL (kidsOf rt) = ntKids o.inst :=
  ⟨_, trace_primaryRoot T, rfl, ntOfL_instNodes ..⟩

theorem trace_bodyKids {wb doc f lists rows drows o ditems} (T : Trace wb doc f lists rows drows o ditems) :
    bodyKidsOf doc = bodyNodesL (elsOf f.name (dWithMeta f.name rows ditems)) [f.name] ditems := by
  rw [T.hdoc]; rfl

/-- a reader of `<model>`'s children blind to `<submission>` and the primary `<instance>` reads the secondary
    instances, then the binds and setvalues -/
theorem trace_model_filterMap {β} {wb doc f lists rows drows o ditems} (T : Trace wb doc f lists rows drows o ditems)
    (g : Node → Option β) (hs : ∀ a, g (pyNode "submission".toList a []) = none)
    (hi : ∀ ks, g (pyNode "instance".toList [] ks) = none) :
    (modelKidsOf doc).filterMap g =
      ((Choices.staticInsts [] (othersApplied (activeRows rows) lists)).map Choices.instNode).filterMap g ++
        (bindNodesL (elsOf f.name (dWithMeta f.name rows ditems)) [(f.name, .group)]
          (dWithMeta f.name rows ditems)).filterMap g := by
  rw [T.hdoc, modelKidsOf_assemble, modelKids_filterMap g _ _ _ hs hi, List.filterMap_append]

/-- **C04 for the whole conversion.**  The children of the primary instance root of the produced document, read
    back as a name tree with the `jr:template` copies dropped, are exactly the element tree of the survey sheet:
    one node per row that creates an element (plus the generated meta block), in sheet order, nested as the
    begin/end rows nest (`nest` = the grammar reading of the sheet). -/
theorem convert_c04 (wb : Workbook) (doc : Node) (h : convertDoc wb = .ok doc) :
    ∃ key rows lists ks items rt,
      Binds.headerKey wb.surveyCols = .ok key ∧ canonRows key wb.survey = .ok rows ∧
      classifyAll lists 2 rows = .ok ks ∧ nest ks = .ok items ∧
      primaryRoot doc = some rt ∧
      Form.eraseL (ntOfL (kidsOf rt)) = Form.plainL (withMeta rows [] items) := by
  obtain ⟨f, lists, rows, drows, o, ditems, T⟩ := convertDoc_trace wb doc h
  obtain ⟨key, hkey, hrows⟩ := T.hrows
  obtain ⟨ks, items, hc, hp, -, hinst, -, -⟩ := formOut_ok _ _ _ _ _ T.hform
  obtain ⟨rt, hrt, -, hnt⟩ := trace_instance T
  refine ⟨key, rows, _, ks, items, rt, hkey, hrows, hc, ?_, hrt, ?_⟩
  · rw [← C04.stack_refines_nest]; exact hp
  · rw [hnt, hinst]
    exact C04.instance_shape false _

#print axioms convert_c04

/-! ## C02: every bind nodeset and body ref of the document resolves in its primary instance -/

theorem ctlRefsL_eq : ∀ l : List Node, ctlRefsL l = l.flatMap ctlRefs := eq_flatMap_of_eqns rfl fun _ _ => rfl

theorem ctlRefsL_append (a b : List Node) : ctlRefsL (a ++ b) = ctlRefsL a ++ ctlRefsL b :=
  append_of_eqns rfl (fun _ _ => rfl) a b

theorem bindDict_eq {q : Binds.Q} {b : Binds.BindDict} (h : bindDict q = some b) : b = Binds.rawBind q := by
  unfold bindDict at h
  split at h
  · next b' hb' =>
    split at h
    · cases h
    · exact (Option.some.inj h).symm.trans (Binds.elemBind_some hb')
  · cases h

theorem bindAttrs_inv {els : List Refs.Chain} {ctx : Refs.Chain} {q : Binds.Q} {a : List (Str × Str)}
    (h : bindAttrs els ctx q = some a) :
    bindDict q = some (Binds.rawBind q) ∧ attrsOfR els ctx ctx.xpath (Binds.rawBind q) = some a ∧
    a.all (fun kv => attrLocal kv.1 != l!"nodeset") = true := by
  unfold bindAttrs at h
  cases hb : bindDict q with
  | none => simp [hb] at h
  | some b =>
    have e := bindDict_eq hb
    subst e
    cases ha : attrsOfR els ctx ctx.xpath (Binds.rawBind q) with
    | none => simp [hb, ha] at h
    | some a' =>
      simp only [hb, Option.bind_some, ha] at h
      split at h
      · next hc => cases h; exact ⟨rfl, rfl, hc⟩
      · cases h

theorem bindRef_bindNode (els : List Refs.Chain) (ctx : Refs.Chain) (q : Binds.Q)
    (h : (bindAttrs els ctx q).isSome = true) : bindRef (bindNode els ctx q) = some (xpathStr ctx.path) := by
  obtain ⟨a, ha⟩ := Option.isSome_iff_exists.mp h
  have hc := (bindAttrs_inv ha).2.2
  simp only [bindNode, pyNode, bindRef, if_true, ha, Option.getD_some]
  apply lookup_setAttrs_last [] []
  have e : attrLocal (l!"nodeset") = l!"nodeset" := by decide
  rw [e]; exact hc

/-- the bind of the element, if it has one, has all its references resolved -/
def bindOkAt (els : List Refs.Chain) (x : DNode) : Bool := !x.head.bind || (bindAttrs els x.chain x.pay.bq).isSome

theorem bindsOkL_walk (els : List Refs.Chain) : ∀ ds pc, bindsOkL els pc ds = (dnodesL pc ds).all (bindOkAt els) :=
  dall_eq _ (fun _ _ _ => rfl) (fun _ _ _ _ _ _ => rfl) (fun _ => rfl) (fun _ _ _ => rfl)

theorem bindRef_bindsAt (els : List Refs.Chain) (x : DNode) (h : bindOkAt els x = true) :
    (bindsAt els x).filterMap bindRef = (bindAt (x.chain.path, x.head)).map xpathStr := by
  have hdyn : (dynAt els x).filterMap bindRef = [] := by
    rw [List.filterMap_eq_nil_iff]
    intro n hn
    obtain ⟨-, dv, rfl⟩ := mem_dynAt hn
    exact bindRef_ne (by decide)
  rw [bindsAt, List.filterMap_append, hdyn, List.append_nil, bindAt]
  cases hb : x.head.bind with
  | false => rfl
  | true =>
    rw [bindOkAt, hb] at h
    simp only [if_true, List.filterMap_cons, bindRef_bindNode els _ _ h]; rfl

theorem bindNodesL_refs (els : List Refs.Chain) (pc : Refs.Chain) (ds : List DItem) (h : bindsOkL els pc ds = true) :
    (bindNodesL els pc ds).filterMap bindRef = (bindPathsL pc.path (Convert.eraseL ds)).map xpathStr := by
  rw [bindsOkL_walk, List.all_eq_true] at h
  rw [bindNodesL_walk, bindPathsL_eq_nodes, nodesL_eraseL, List.filterMap_flatMap, List.flatMap_map, List.map_flatMap]
  exact flatMap_congr fun x hx => bindRef_bindsAt els x (h x hx)

theorem bindNodes_refs (els : List Refs.Chain) : ∀ (pc : Refs.Chain) (d : DItem),
    bindsOk els pc d = true →
    (bindNodes els pc d).filterMap bindRef = (bindPaths pc.path (Convert.erase d)).map xpathStr :=
  fun pc d h => by
    simpa only [bindNodesL, bindPathsL, Convert.eraseL, List.append_nil] using
      bindNodesL_refs els pc [d] (by rw [bindsOkL, bindsOkL, h]; rfl)

theorem ctlRefs_nonctl (t : Str) (a : List (Str × Str)) (ks : List Node) (h : controlTags.contains t = false) :
    ctlRefs (.elem t a ks) = ctlRefsL ks := by
  simp only [ctlRefs, h, Bool.false_eq_true, if_false, List.nil_append]

theorem ctlRefs_ctl (t : Str) (a : List (Str × Str)) (ks : List Node) (h : controlTags.contains t = true) :
    ctlRefs (.elem t a ks) = (lookup (l!"ref") a).toList ++ (lookup (l!"nodeset") a).toList ++ ctlRefsL ks := by
  simp only [ctlRefs, h, if_true]

theorem ctlRefsL_text (b : Bool) (s : Str) : ctlRefsL [.text b s] = [] := by
  simp only [ctlRefsL, ctlRefs, List.append_nil]

theorem ctlRefsL_single (n : Node) : ctlRefsL [n] = ctlRefs n := by
  simp only [ctlRefsL, List.append_nil]

theorem ctlRefsL_opt (c : Prop) [Decidable c] {n : Node} (h : ctlRefs n = []) : ctlRefsL (if c then [n] else []) = [] := by
  split
  · rw [ctlRefsL_single, h]
  · rfl

theorem outputKid_inv {k : Node} (h : outputKid k = true) : (∃ b s, k = .text b s) ∨ ∃ a, k = .elem (l!"output") a [] := by
  match k, h with
  | .text b s, _ => exact .inl ⟨b, s, rfl⟩
  | .elem t a [], h => exact .inr ⟨a, by rw [show t = l!"output" from by simpa [outputKid] using h]⟩

theorem ctlRefsL_outputKids (ks : List Node) (h : ks.all outputKid = true) : ctlRefsL ks = [] := by
  rw [ctlRefsL_eq, List.flatMap_eq_nil_iff]
  intro k hk
  rcases outputKid_inv (List.all_eq_true.mp h k hk) with ⟨b, s, rfl⟩ | ⟨a, rfl⟩
  · rfl
  · rw [ctlRefs_nonctl _ _ _ (by decide)]; rfl

theorem textNode_shape (els : List Refs.Chain) (path : List Str) (tag : Str) (cell : Option Str) :
    ∃ a ks, textNode els path tag cell = .elem tag a ks ∧ ks.all outputKid = true := by
  unfold textNode
  split
  · exact ⟨_, [], rfl, rfl⟩
  · split
    · rename_i s n hn
      obtain ⟨-, ho, a, ks, rfl⟩ := textOutcome_ok hn
      exact ⟨a, ks, rfl, by simpa only [outputOnly] using ho⟩
    · exact ⟨_, [], rfl, rfl⟩

theorem ctlRefs_textNode (els : List Refs.Chain) (path : List Str) (tag : Str) (cell : Option Str)
    (h : controlTags.contains tag = false) : ctlRefs (textNode els path tag cell) = [] := by
  obtain ⟨a, ks, he, hk⟩ := textNode_shape els path tag cell
  rw [he, ctlRefs_nonctl _ _ _ h]
  exact ctlRefsL_outputKids ks hk

theorem ctlRefs_labelNode (els : List Refs.Chain) (path : List Str) (r : Cells) : ctlRefs (labelNode els path r) = [] :=
  ctlRefs_textNode _ _ _ _ (by decide)

theorem ctlRefsL_labelAndHint (els : List Refs.Chain) (path : List Str) (r : Cells) :
    ctlRefsL (labelAndHint els path r) = [] := by
  unfold labelAndHint hintNode
  rw [ctlRefsL_append, ctlRefsL_opt _ (ctlRefs_labelNode ..), ctlRefsL_opt _ (ctlRefs_textNode _ _ _ _ (by decide))]
  rfl

theorem ctlRefsL_itemsetNodes (r : Cells) : ctlRefsL (itemsetNodes r) = [] := by
  have h1 : controlTags.contains (l!"itemset") = false := by decide
  have h2 : controlTags.contains (l!"value") = false := by decide
  have h3 : controlTags.contains (l!"label") = false := by decide
  unfold itemsetNodes
  split
  · rfl
  · split
    · rfl
    · simp only [pyNode, ctlRefsL, ctlRefs_nonctl _ _ _ h1, ctlRefs_nonctl _ _ _ h2, ctlRefs_nonctl _ _ _ h3,
        List.append_nil]

def cleanAttrs (a : List (Str × Str)) : Bool :=
  a.all fun kv => attrLocal kv.1 != l!"ref" && attrLocal kv.1 != l!"nodeset"

theorem clean_both {a : List (Str × Str)} (h : cleanAttrs a = true) :
    a.all (fun kv => attrLocal kv.1 != attrLocal (l!"ref")) = true ∧
    a.all (fun kv => attrLocal kv.1 != attrLocal (l!"nodeset")) = true := by
  rw [show attrLocal (l!"ref") = l!"ref" from by decide, show attrLocal (l!"nodeset") = l!"nodeset" from by decide]
  simp only [cleanAttrs, List.all_eq_true, Bool.and_eq_true] at h ⊢
  exact ⟨fun x hx => (h x hx).1, fun x hx => (h x hx).2⟩

theorem clean_ref {a : List (Str × Str)} (h : cleanAttrs a = true) :
    a.all (fun kv => attrLocal kv.1 != attrLocal (l!"ref")) = true := (clean_both h).1

theorem clean_nodeset {a : List (Str × Str)} (h : cleanAttrs a = true) :
    a.all (fun kv => attrLocal kv.1 != attrLocal (l!"nodeset")) = true := (clean_both h).2

/-- attributes `(k, v) :: a` set on a fresh element: `k` is there, `k2` is not (`a` has neither local name) -/
theorem head_attrs (k k2 v : Str) (a : List (Str × Str)) (hk : a.all (fun kv => attrLocal kv.1 != attrLocal k) = true)
    (hk2 : a.all (fun kv => attrLocal kv.1 != attrLocal k2) = true) (hne : (attrLocal k != attrLocal k2) = true) :
    lookup k (setAttrs [] ((k, v) :: a)) = some v ∧ lookup k2 (setAttrs [] ((k, v) :: a)) = none := by
  refine ⟨lookup_setAttrs_last [] [] k v a hk, ?_⟩
  rw [lookup_setAttrs_frame k2 ((k, v) :: a) [] (by simp only [List.all_cons, hne, hk2]; rfl)]
  rfl

theorem last_attrs (v : Str) (a : List (Str × Str)) (h : cleanAttrs a = true) :
    lookup (l!"ref") (setAttrs [] (a ++ [(l!"ref", v)])) = some v ∧
    lookup (l!"nodeset") (setAttrs [] (a ++ [(l!"ref", v)])) = none := by
  refine ⟨lookup_setAttrs_last [] a _ v [] rfl, ?_⟩
  rw [lookup_setAttrs_frame (l!"nodeset") (a ++ [(l!"ref", v)]) []]
  · rfl
  · rw [List.all_append, clean_nodeset h]
    have : attrLocal (l!"ref") != attrLocal (l!"nodeset") := by decide
    simp only [List.all_cons, List.all_nil, this]; rfl

theorem cleanAttrs_subAttrs (els : List Refs.Chain) (ctx : Refs.Chain) (a : List (Str × Str)) :
    cleanAttrs (Convert.subAttrs els ctx a) = cleanAttrs a := by
  unfold cleanAttrs Convert.subAttrs
  rw [List.all_map]; rfl

theorem ctlRefsL_dynSetsL (els : List Refs.Chain) (pre : List Str) (ds : List DItem) : ctlRefsL (dynSetsL els pre ds) = [] := by
  rw [ctlRefsL_eq, List.flatMap_eq_nil_iff]
  intro n hn
  obtain ⟨ctx, dv, rfl⟩ := mem_dynSetsL els pre ds hn
  exact ctlRefs_nonctl _ _ _ (by decide)

theorem ctlRefsL_dynSets (els : List Refs.Chain) : ∀ (pre : List Str) (d : DItem), ctlRefsL (dynSets els pre d) = [] :=
  fun pre d => by simpa only [dynSetsL, List.append_nil] using ctlRefsL_dynSetsL els pre [d]

mutual
theorem bodyNodes_refs (els : List Refs.Chain) : ∀ (pre : List Str) (d : DItem), ctlOk d = true →
    ctlRefsL (bodyNodes els pre d) = (bodyPaths pre (Convert.erase d)).map xpathStr
  | pre, .q d p, h => by
    simp only [ctlOk, Bool.and_eq_true, Bool.or_eq_true, Bool.not_eq_true'] at h
    simp only [bodyNodes, Convert.erase, bodyPaths]
    cases hc : d.control with
    | false => simp [ctlRefsL]
    | true =>
      have ht := h.1.resolve_left (by simp [hc])
      have hcl : cleanAttrs p.attrs = true := h.2
      obtain ⟨e1, e2⟩ := head_attrs (l!"ref") (l!"nodeset") (xpathStr (pre ++ [d.name])) p.attrs
        (clean_ref hcl) (clean_nodeset hcl) (by decide)
      simp only [↓reduceIte, ctlRefsL_single, pyNode, List.map]
      rw [ctlRefs_ctl _ _ _ ht, e1, e2, ctlRefsL_append, ctlRefsL_labelAndHint, ctlRefsL_itemsetNodes]
      rfl
  | pre, .sec .rep n b p ks, h => by
    simp only [ctlOk, Bool.and_eq_true] at h
    have hcl : cleanAttrs (Convert.subAttrs els (ctxOf els (pre ++ [n])) p.attrs) = true := by
      rw [cleanAttrs_subAttrs]; exact h.1
    obtain ⟨e1, e2⟩ := head_attrs (l!"nodeset") (l!"ref") (xpathStr (pre ++ [n]))
      (Convert.subAttrs els (ctxOf els (pre ++ [n])) p.attrs) (clean_nodeset hcl) (clean_ref hcl) (by decide)
    obtain ⟨g1, g2⟩ := head_attrs (l!"ref") (l!"nodeset") (xpathStr (pre ++ [n])) [] rfl rfl (by decide)
    have hg : controlTags.contains (l!"group") = true := by decide
    have hr : controlTags.contains (l!"repeat") = true := by decide
    simp only [bodyNodes, Convert.erase, bodyPaths, ctlRefsL_single, pyNode, List.map]
    rw [ctlRefs_ctl _ _ _ hg, g1, g2]
    simp only [ctlRefsL, ctlRefs_labelNode, List.nil_append, List.append_nil]
    rw [ctlRefs_ctl _ _ _ hr, e1, e2, ctlRefsL_append, bodyNodesL_refs els (pre ++ [n]) ks h.2, ctlRefsL_dynSetsL]
    simp
  | pre, .sec .group n b p ks, h | pre, .sec .loop n b p ks, h => by
    simp only [ctlOk, Bool.and_eq_true] at h
    obtain ⟨e1, e2⟩ := last_attrs (xpathStr (pre ++ [n])) p.attrs h.1
    have hg : controlTags.contains (l!"group") = true := by decide
    simp only [bodyNodes, Convert.erase, bodyPaths, ctlRefsL_single, pyNode, List.map]
    rw [ctlRefs_ctl _ _ _ hg, e1, e2, ctlRefsL_append, bodyNodesL_refs els (pre ++ [n]) ks h.2,
      ctlRefsL_opt _ (ctlRefs_labelNode ..)]
    rfl
theorem bodyNodesL_refs (els : List Refs.Chain) : ∀ (pre : List Str) (ds : List DItem), ctlOkL ds = true →
    ctlRefsL (bodyNodesL els pre ds) = (bodyPathsL pre (Convert.eraseL ds)).map xpathStr
  | _, [], _ => by simp [bodyNodesL, Convert.eraseL, bodyPathsL, ctlRefsL]
  | pre, k :: ks, h => by
    simp only [ctlOkL, Bool.and_eq_true] at h
    simp only [bodyNodesL, Convert.eraseL, bodyPathsL, ctlRefsL_append, List.map_append,
      bodyNodes_refs els pre k h.1, bodyNodesL_refs els pre ks h.2]
end

theorem erase_dWithMeta (root : Str) (rows : List Cells) (ds : List DItem) :
    Convert.eraseL (dWithMeta root rows ds) = withMeta rows [] (Convert.eraseL ds) := by
  unfold dWithMeta withMeta
  simp only []
  split
  · rfl
  · rw [eraseL_append]
    congr 1
    simp only [Convert.eraseL, Convert.erase]
    congr 2
    rw [eq_map_of_eqns (gL := Convert.eraseL) rfl (fun _ _ => rfl), List.map_map]; rfl

theorem trace_items {wb doc f lists rows drows o ditems} (T : Trace wb doc f lists rows drows o ditems) :
    Convert.eraseL ditems = o.items ∧ o.inst = instanceOf f.name (withMeta rows [] o.items) ∧
    o.binds = bindPathsL [f.name] (withMeta rows [] o.items) ∧ o.body = bodyPathsL [f.name] o.items := by
  obtain ⟨ks, items, hc, hp, hi, hinst, hb, hbody⟩ := formOut_ok _ _ _ _ _ T.hform
  have hc' := decorateAll_classifyAll _ _ _ _ T.hdec
  rw [hc] at hc'
  have hks : ks = drows.map (·.1) := by simpa using hc'
  have he := dparse_erase drows
  rw [T.hpar, ← hks, hp] at he
  have : Convert.eraseL ditems = items := by simpa [Except.map] using he
  subst hi
  exact ⟨this, hinst, hb, hbody⟩

theorem trace_erase_all {wb doc f lists rows drows o ditems} (T : Trace wb doc f lists rows drows o ditems) :
    Convert.eraseL (dWithMeta f.name rows ditems) = withMeta rows [] o.items := by
  rw [erase_dWithMeta, (trace_items T).1]

theorem filterMap_choiceInst {β} (g : Node → Option β) (h : ∀ a ks, g (.elem (c!"instance") a ks) = none)
    (l : List Choices.Inst) : (l.map Choices.instNode).filterMap g = [] := by
  rw [List.filterMap_eq_nil_iff]
  intro n hn
  obtain ⟨i, -, rfl⟩ := List.mem_map.mp hn
  unfold Choices.instNode
  cases i.src <;> exact h _ _

theorem bindRef_choiceInst (l : List Choices.Inst) : (l.map Choices.instNode).filterMap bindRef = [] :=
  filterMap_choiceInst _ (fun _ _ => bindRef_ne (by decide)) l

theorem bindRefs_doc {wb doc f lists rows drows o ditems} (T : Trace wb doc f lists rows drows o ditems) :
    bindRefs doc = o.binds.map xpathStr := by
  rw [bindRefs, trace_model_filterMap T bindRef (fun _ => bindRef_ne (by decide)) (fun _ => bindRef_ne (by decide)),
    bindRef_choiceInst, List.nil_append, bindNodesL_refs _ _ _ T.hbinds, trace_erase_all T, (trace_items T).2.2.1]
  rfl

theorem ctlRefs_doc {wb doc f lists rows drows o ditems} (T : Trace wb doc f lists rows drows o ditems) :
    ctlRefsL (bodyKidsOf doc) = o.body.map xpathStr := by
  obtain ⟨hi, -, -, hbody⟩ := trace_items T
  rw [trace_bodyKids T, bodyNodesL_refs _ _ _ T.hctl, hi, hbody]

theorem trace_c02 {wb doc f lists rows drows o ditems} (T : Trace wb doc f lists rows drows o ditems) :
    ∀ s ∈ bindRefs doc ++ ctlRefsL (bodyKidsOf doc), ∃ p, s = xpathStr p ∧ resolves o.inst p = true := by
  intro s hs
  rw [bindRefs_doc T, ctlRefs_doc T, ← List.map_append, List.mem_map] at hs
  obtain ⟨p, hp, rfl⟩ := hs
  exact ⟨p, rfl, C02.refs_resolve _ _ _ _ _ T.hform p hp⟩

theorem trace_inst_read {wb doc f lists rows drows o ditems} (T : Trace wb doc f lists rows drows o ditems) :
    NT.node f.name false (ntOfL (instNodes (defaultsOfL [f.name] ditems) [f.name] (ntKids o.inst))) = o.inst := by
  rw [ntOfL_instNodes, (trace_items T).2.1]; rfl

/-- **C02 for the whole conversion (document level).**  In the produced document the `nodeset` of every `<bind>` and
    the `ref` / `nodeset` of every body control is an absolute path naming a node of the primary instance *of that same
    document*; `setAttribute` keeps the `nodeset` / `ref` it was given because no later attribute has that local name
    (`ctlOk`).  `_partial`: on the DOM tree; about `parseDoc text` it is `convert_c02` (ConvertText). -/
theorem convert_c02_partial (wb : Workbook) (doc : Node) (h : convertDoc wb = .ok doc) :
    ∃ rt, primaryRoot doc = some rt ∧
      ∀ s ∈ bindRefs doc ++ ctlRefsL (bodyKidsOf doc),
        ∃ p, s = xpathStr p ∧ resolves (NT.node (tagOf rt) false (ntOfL (kidsOf rt))) p = true := by
  obtain ⟨f, lists, rows, drows, o, ditems, T⟩ := convertDoc_trace wb doc h
  refine ⟨_, trace_primaryRoot T, ?_⟩
  simp only [tagOf, kidsOf, trace_inst_read T]
  exact trace_c02 T

#print axioms convert_c02_partial

/-! ## C03: every `${name}` of a bind value resolves to the named element -/

/-- the references of the text `s`, read from the element `ctx`, all reach the element they name -/
def HolesResolve (els : List Refs.Chain) (ctx : Refs.Chain) (s : Str) : Prop :=
  ∀ r ∈ Refs.findRefs (s.length + 1) s, ∃ cur e t,
    Refs.refFor els (some ctx) r.2 { lastSaved := r.1 } = .ok cur e ∧
    els.filter (Refs.named r.2) = [t] ∧ Refs.resolve ctx.path e = some t.path

theorem insertXpaths_holes (els : List Refs.Chain) (hv : ∀ t ∈ els, Refs.GoodNames t.path)
    (ctx : Refs.Chain) (hc : Refs.GoodNames ctx.path) (s out : Str)
    (h : Refs.insertXpaths els (some ctx) {} s = some out) : HolesResolve els ctx s := by
  intro r hr
  have hok := Scan.substRefs_refs_ok _ (fun ls name => (Refs.refFor els (some ctx) name { lastSaved := ls }).text)
    (fun _ _ _ _ => rfl) _ _ _ h r hr
  cases hf : Refs.refFor els (some ctx) r.2 { lastSaved := r.1 } with
  | ok cur e =>
    obtain ⟨t, ht, hres⟩ := Refs.ref_resolves els hv ctx hc r.2 _ cur e hf
    exact ⟨cur, e, t, rfl, ht, hres⟩
  | unknown n => simp [hf, Refs.Out.text] at hok
  | ambiguous n => simp [hf, Refs.Out.text] at hok

/-- `false`: no trigger, so nothing is dropped -/
theorem attrsOfR_eq (els : List Refs.Chain) (ctx : Refs.Chain) (path : Str) (b : Binds.BindDict) :
    attrsOfR els ctx path b = Binds.renderBy (Binds.attrStep (Refs.insertXpaths els (some ctx) {}) path false) b := by
  induction b with
  | nil => rfl
  | cons p rest ih =>
    obtain ⟨k, v⟩ := p
    rw [attrsOfR, Binds.renderBy, ← ih, Binds.attrStep, Bool.false_and, if_neg Bool.false_ne_true]
    cases Binds.convVal path k v with
    | none => rfl
    | some s =>
      dsimp only [Option.bind_some]
      cases Refs.insertXpaths els (some ctx) {} s <;> cases attrsOfR els ctx path rest <;> rfl

theorem attrsOfR_holes (els : List Refs.Chain) (hv : ∀ t ∈ els, Refs.GoodNames t.path)
    (ctx : Refs.Chain) (hc : Refs.GoodNames ctx.path) (path : Str) : ∀ (b : Binds.BindDict) (a : List (Str × Str)),
    attrsOfR els ctx path b = some a →
    ∀ kv ∈ b, ∃ s s', Binds.convVal path kv.1 kv.2 = some s ∧ Refs.insertXpaths els (some ctx) {} s = some s' ∧
      (kv.1, s') ∈ a ∧ HolesResolve els ctx s := by
  intro b a h kv hkv
  obtain ⟨s, s', h1, h2, h3⟩ := Binds.attrStep_mem (attrsOfR_eq .. ▸ h) hkv (Bool.false_and _)
  exact ⟨s, s', h1, h2, h3, insertXpaths_holes els hv ctx hc s s' h2⟩

/-- **C03 for a bind of the conversion.**  When the bind of the element `ctx` is produced, every entry of its bind dict
    reached `a` with its references substituted by `Refs.refFor`, and every `${name}` of the entry — absolute or
    relative, any depth of groups and repeats — evaluated from `ctx`'s node reaches the one element called `name`. -/
theorem bind_holes_resolve (els : List Refs.Chain) (hv : ∀ t ∈ els, Refs.GoodNames t.path)
    (ctx : Refs.Chain) (hc : Refs.GoodNames ctx.path) (q : Binds.Q) (a : List (Str × Str))
    (h : bindAttrs els ctx q = some a) :
    ∃ b, bindDict q = some b ∧ ∀ kv ∈ b, ∃ s s', Binds.convVal ctx.xpath kv.1 kv.2 = some s ∧
      Refs.insertXpaths els (some ctx) {} s = some s' ∧ (kv.1, s') ∈ a ∧ HolesResolve els ctx s := by
  obtain ⟨hb, ha, -⟩ := bindAttrs_inv h
  exact ⟨_, hb, attrsOfR_holes els hv ctx hc _ _ a ha⟩

mutual
/-- the (chain, bind source) of every element of the walk that has a bind -/
def bindElems (pc : Refs.Chain) : DItem → List (Refs.Chain × Binds.Q)
  | .q d p => if d.bind then [(pc ++ [(d.name, .q)], p.bq)] else []
  | .sec ct n b p ks => (if b then [(pc ++ [(n, kindOf ct)], p.bq)] else []) ++ bindElemsL (pc ++ [(n, kindOf ct)]) ks
def bindElemsL (pc : Refs.Chain) : List DItem → List (Refs.Chain × Binds.Q)
  | [] => []
  | k :: ks => bindElems pc k ++ bindElemsL pc ks
end

theorem bindElemsL_walk : ∀ ds pc, bindElemsL pc ds =
    (dnodesL pc ds).flatMap fun x => if x.head.bind then [(x.chain, x.pay.bq)] else [] :=
  dwalk_eq _ (fun _ _ _ => rfl) (fun _ _ _ _ _ _ => rfl) (fun _ => rfl) (fun _ _ _ => rfl)

theorem mem_bindElemsL {pc : Refs.Chain} {ds : List DItem} {cq : Refs.Chain × Binds.Q} :
    cq ∈ bindElemsL pc ds ↔ ∃ x ∈ dnodesL pc ds, x.head.bind = true ∧ cq = (x.chain, x.pay.bq) := by
  rw [bindElemsL_walk, List.mem_flatMap]
  refine exists_congr fun x => and_congr_right fun _ => ?_
  by_cases hb : x.head.bind = true
  · rw [if_pos hb, List.mem_singleton]; exact ⟨fun e => ⟨hb, e⟩, fun e => e.2⟩
  · rw [if_neg hb]; exact ⟨nofun, fun e => absurd e.1 hb⟩

theorem bindsOkL_elems (els : List Refs.Chain) (pc : Refs.Chain) (ds : List DItem) (h : bindsOkL els pc ds = true) :
    ∀ cq ∈ bindElemsL pc ds, (bindAttrs els cq.1 cq.2).isSome = true := by
  intro cq hcq
  obtain ⟨x, hx, hb, rfl⟩ := mem_bindElemsL.1 hcq
  have hok := List.all_eq_true.1 (bindsOkL_walk els ds pc ▸ h) x hx
  rw [bindOkAt, hb] at hok
  exact hok

/-- **C03 on a run.**  Every bind of every element of the run's tree (generated `_count` / `_other` / `instanceID`
    included) carries its dict entries with all references resolved by `Refs.refFor`, and each reference, evaluated
    from the element's node, reaches the element it names. -/
theorem trace_c03 {wb doc f lists rows drows o ditems} (T : Trace wb doc f lists rows drows o ditems)
    (hv : ∀ t ∈ elsOf f.name (dWithMeta f.name rows ditems), Refs.GoodNames t.path) :
    ∀ cq ∈ bindElemsL [(f.name, .group)] (dWithMeta f.name rows ditems), Refs.GoodNames cq.1.path →
      ∃ a b, bindAttrs (elsOf f.name (dWithMeta f.name rows ditems)) cq.1 cq.2 = some a ∧ bindDict cq.2 = some b ∧
        ∀ kv ∈ b, ∃ s s', Binds.convVal cq.1.xpath kv.1 kv.2 = some s ∧
          Refs.insertXpaths (elsOf f.name (dWithMeta f.name rows ditems)) (some cq.1) {} s = some s' ∧
          (kv.1, s') ∈ a ∧ HolesResolve (elsOf f.name (dWithMeta f.name rows ditems)) cq.1 s := by
  intro cq hcq hc
  obtain ⟨a, ha⟩ := Option.isSome_iff_exists.mp (bindsOkL_elems _ _ _ T.hbinds cq hcq)
  obtain ⟨b, hb, hall⟩ := bind_holes_resolve _ hv cq.1 hc cq.2 a ha
  exact ⟨a, b, ha, hb, hall⟩

/-- **C03 for the whole conversion** (`_partial`: `GoodNames` is a hypothesis; `convert_c03`, ConvertNames, discharges
    it).  The existential closure of `trace_c03`: that the witnesses are the run's root name and tree is said there,
    not here. -/
theorem convert_c03_partial (wb : Workbook) (doc : Node) (h : convertDoc wb = .ok doc) :
    ∃ (els : List Refs.Chain) (root : Str) (dall : List DItem), els = elsOf root dall ∧
      ((∀ t ∈ els, Refs.GoodNames t.path) → ∀ cq ∈ bindElemsL [(root, .group)] dall, Refs.GoodNames cq.1.path →
        ∃ a b, bindAttrs els cq.1 cq.2 = some a ∧ bindDict cq.2 = some b ∧
          ∀ kv ∈ b, ∃ s s', Binds.convVal cq.1.xpath kv.1 kv.2 = some s ∧
            Refs.insertXpaths els (some cq.1) {} s = some s' ∧ (kv.1, s') ∈ a ∧ HolesResolve els cq.1 s) := by
  obtain ⟨f, lists, rows, drows, o, ditems, T⟩ := convertDoc_trace wb doc h
  exact ⟨_, f.name, dWithMeta f.name rows ditems, rfl, trace_c03 T⟩

#print axioms convert_c03_partial

/-! ## C03 for dynamic defaults and repeat counts (the other cells that go through `insert_xpaths`) -/

theorem orErr_none {a b : Option Convert.Err} (h : orErr a b = none) : a = none ∧ b = none := by
  cases a with
  | none => exact ⟨rfl, h⟩
  | some e => simp [orErr] at h

theorem exprErr_none {els : List Refs.Chain} {ctx : Refs.Chain} {v : Str} (h : exprErr els ctx v = none) :
    ∃ out, Refs.insertXpaths els (some ctx) {} v = some out := by
  unfold exprErr at h
  split at h
  · simp at h
  · split at h
    · simp at h
    · rename_i hn
      cases hi : Refs.insertXpaths els (some ctx) {} v with
      | none => simp [hi] at hn
      | some out => exact ⟨out, rfl⟩

mutual
/-- (path of the element, expression) of every dynamic default and every repeat-count attribute of the walk -/
def exprCells (pre : List Str) : DItem → List (List Str × Str)
  | .q d p =>
    (match get p.cells "default" with
     | some dv => if isDynDefault p.cells then [(pre ++ [d.name], dv)] else []
     | none => [])
  | .sec ct n _ p ks =>
    (if ct = .rep then p.attrs.map fun kv => (pre ++ [n], kv.2) else []) ++ exprCellsL (pre ++ [n]) ks
def exprCellsL (pre : List Str) : List DItem → List (List Str × Str)
  | [] => []
  | k :: ks => exprCells pre k ++ exprCellsL pre ks
end

theorem attrsErr_none (els : List Refs.Chain) (ctx : Refs.Chain) : ∀ (a : Controls.Dict), attrsErr els ctx a = none →
    ∀ kv ∈ a, ∃ out, Refs.insertXpaths els (some ctx) {} kv.2 = some out
  | [], _ => by simp
  | (k, v) :: rest, h => by
    obtain ⟨h1, h2⟩ := orErr_none (by simpa [attrsErr] using h)
    intro kv hkv
    simp only [List.mem_cons] at hkv
    rcases hkv with rfl | hkv
    · exact exprErr_none h1
    · exact attrsErr_none els ctx rest h2 kv hkv

mutual
theorem textsErr_exprs (els : List Refs.Chain) : ∀ (pre : List Str) (d : DItem), textsErr els pre d = none →
    ∀ pe ∈ exprCells pre d, ∃ out, Refs.insertXpaths els (some (ctxOf els pe.1)) {} pe.2 = some out
  | pre, .q d p, h => by
    obtain ⟨-, h2⟩ := orErr_none (by simpa [textsErr] using h)
    intro pe hpe
    simp only [exprCells] at hpe
    split at hpe
    · rename_i dv hdv
      rw [hdv] at h2
      simp only [] at h2
      split at hpe
      · rename_i hdyn
        simp only [hdyn, if_true] at h2
        simp only [List.mem_singleton] at hpe; subst hpe
        exact exprErr_none h2
      · simp at hpe
    · simp at hpe
  | pre, .sec ct n b p ks, h => by
    obtain ⟨-, h2⟩ := orErr_none (by simpa [textsErr] using h)
    obtain ⟨h3, h4⟩ := orErr_none h2
    intro pe hpe
    simp only [exprCells, List.mem_append] at hpe
    rcases hpe with hpe | hpe
    · split at hpe
      · rename_i hrep
        simp only [hrep, if_true] at h3
        obtain ⟨kv, hkv, rfl⟩ := List.mem_map.mp hpe
        exact attrsErr_none els _ p.attrs h3 kv hkv
      · simp at hpe
    · exact textsErrL_exprs els (pre ++ [n]) ks h4 pe hpe
theorem textsErrL_exprs (els : List Refs.Chain) : ∀ (pre : List Str) (ds : List DItem), textsErrL els pre ds = none →
    ∀ pe ∈ exprCellsL pre ds, ∃ out, Refs.insertXpaths els (some (ctxOf els pe.1)) {} pe.2 = some out
  | _, [], _ => by simp [exprCellsL]
  | pre, k :: ks, h => by
    obtain ⟨h1, h2⟩ := orErr_none (by simpa [textsErrL] using h)
    intro pe hpe
    simp only [exprCellsL, List.mem_append] at hpe
    rcases hpe with hpe | hpe
    · exact textsErr_exprs els pre k h1 pe hpe
    · exact textsErrL_exprs els pre ks h2 pe hpe
end

/-- **C03 on a run, for dynamic defaults and repeat counts.**  Every dynamic default and every control attribute of a
    repeat of the run's tree is substituted by `Refs.refFor` from the element's own node, and every `${name}` in it,
    evaluated from that node, reaches the element it names. -/
theorem trace_c03_exprs {wb doc f lists rows drows o ditems} (T : Trace wb doc f lists rows drows o ditems)
    (hv : ∀ t ∈ elsOf f.name (dWithMeta f.name rows ditems), Refs.GoodNames t.path) :
    ∀ pe ∈ exprCellsL [f.name] ditems,
      Refs.GoodNames (ctxOf (elsOf f.name (dWithMeta f.name rows ditems)) pe.1).path →
      (∃ out, Refs.insertXpaths (elsOf f.name (dWithMeta f.name rows ditems))
          (some (ctxOf (elsOf f.name (dWithMeta f.name rows ditems)) pe.1)) {} pe.2 = some out) ∧
        HolesResolve (elsOf f.name (dWithMeta f.name rows ditems))
          (ctxOf (elsOf f.name (dWithMeta f.name rows ditems)) pe.1) pe.2 := by
  intro pe hpe hc
  obtain ⟨out, hout⟩ := textsErrL_exprs _ _ _ T.htexts pe hpe
  exact ⟨⟨out, hout⟩, insertXpaths_holes _ hv _ hc _ out hout⟩

/-- **C03 for dynamic defaults and repeat counts** (`_partial`: `GoodNames` as hypotheses; full: `convert_c03_exprs`).
    The existential closure of `trace_c03_exprs`; the witnesses are untied as in `convert_c03_partial`. -/
theorem convert_c03_exprs_partial (wb : Workbook) (doc : Node) (h : convertDoc wb = .ok doc) :
    ∃ (els : List Refs.Chain) (root : Str) (ditems : List DItem),
      (∀ t ∈ els, Refs.GoodNames t.path) → ∀ pe ∈ exprCellsL [root] ditems, Refs.GoodNames (ctxOf els pe.1).path →
        (∃ out, Refs.insertXpaths els (some (ctxOf els pe.1)) {} pe.2 = some out) ∧ HolesResolve els (ctxOf els pe.1) pe.2 := by
  obtain ⟨f, lists, rows, drows, o, ditems, T⟩ := convertDoc_trace wb doc h
  exact ⟨_, f.name, ditems, trace_c03_exprs T⟩

#print axioms convert_c03_exprs_partial

/-! ## the hypothesis of `convert_c01`, on the sources of the names -/

theorem noBr_instNodes (defs : List (List Str × Str)) (pre : List Str) (ts : List NT) (h : ntAllL noBr ts = true) :
    noBrKids (instNodes defs pre ts) = true :=
  instNodes_ok noBrCheck () noBr defs (fun _ => rfl) (fun _ t hn => noBrCheck_elem hn (tmplAttrs_noBr t))
    (fun _ => rfl) ts pre h

theorem noBr_instNode (defs : List (List Str × Str)) : ∀ (pre : List Str) (t : NT), ntAll noBr t = true →
    noBrTree (instNode defs pre t) = true :=
  fun pre t h => noBrCheck.node_of_single (s := ()) (noBr_instNodes defs pre [t] (ntAllL_single h))

/-- **`NamesClean` from the sources of the names.**  The produced document is `]`-free when the header's
    user-supplied names (`HeaderNoBr`), the names of the element tree (the `name` cells and the generated `_count` /
    `_other` / meta names) and the bind / secondary-instance / body nodes are: the frame and the whole primary
    instance are discharged. -/
theorem namesClean_of_sources {wb : Workbook} {doc : Node} {f : Fields} {lists rows drows o ditems}
    (T : Trace wb doc f lists rows drows o ditems) (H : HeaderNoBr f)
    (hnames : ∀ x ∈ allNamesL (withMeta rows [] o.items), noBr x = true)
    (hrest : noBrKids ((Choices.staticInsts [] (othersApplied (activeRows rows) lists)).map Choices.instNode ++
      bindNodesL (elsOf f.name (dWithMeta f.name rows ditems)) [(f.name, .group)] (dWithMeta f.name rows ditems)) = true)
    (hbody : noBrKids (bodyNodesL (elsOf f.name (dWithMeta f.name rows ditems)) [f.name] ditems) = true) : NamesClean doc := by
  have hk : ntKids o.inst = instKids false (withMeta rows [] o.items) := by rw [(trace_items T).2.1]; rfl
  unfold NamesClean
  rw [T.hdoc]
  refine noBrTree_assemble f H none _ _ _ (fun ks h => by cases h) ?_ hrest hbody
  rw [hk]
  exact noBr_instNodes _ _ _ (ntAll_instKids noBr false _ hnames)

/-- **C01 for the whole conversion**, `NamesClean` replaced by the hypotheses of `namesClean_of_sources`. -/
theorem convert_c01_sources (wb : Workbook) (p : Bool) (text : Str) (h : convert wb p = .ok text)
    (hs : ∀ doc f lists rows drows o ditems, Trace wb doc f lists rows drows o ditems →
      HeaderNoBr f ∧ (∀ x ∈ allNamesL (withMeta rows [] o.items), noBr x = true) ∧
      noBrKids ((Choices.staticInsts [] (othersApplied (activeRows rows) lists)).map Choices.instNode ++
        bindNodesL (elsOf f.name (dWithMeta f.name rows ditems)) [(f.name, .group)] (dWithMeta f.name rows ditems)) = true ∧
      noBrKids (bodyNodesL (elsOf f.name (dWithMeta f.name rows ditems)) [f.name] ditems) = true) :
    holds text (normAttrVal (formId wb)) = true := by
  refine convert_c01 wb p text h ?_
  intro doc hd
  obtain ⟨f, lists, rows, drows, o, ditems, T⟩ := convertDoc_trace wb doc hd
  obtain ⟨h1, h2, h3, h4⟩ := hs doc f lists rows drows o ditems T
  exact namesClean_of_sources T h1 h2 h3 h4

#print axioms convert_c01_sources

def exWb : Workbook :=
  { surveyCols := [l!"type", l!"name", l!"label", l!"relevant"],
    survey := [
      [(l!"type", l!"text"), (l!"name", l!"q"), (l!"label", l!"Q & A")],
      [(l!"type", l!"select_one yn"), (l!"name", l!"s"), (l!"label", l!"S")],
      [(l!"type", l!"begin repeat"), (l!"name", l!"r"), (l!"label", l!"R"), (l!"relevant", l!"${q} = 'a'")],
      [(l!"type", l!"integer"), (l!"name", l!"n"), (l!"label", l!"N")],
      [(l!"type", l!"end repeat")]],
    choiceCols := [l!"list_name", l!"name", l!"label"],
    choices := [[(l!"list_name", l!"yn"), (l!"name", l!"y"), (l!"label", l!"Yes")]],
    settingsCols := [l!"form_id"],
    settings := some [(l!"form_id", l!"f1")] }

/-- the text pyxform returns for `exWb` with `pretty_print=False` (`EX_WB` of `harness/props/e2e.py`, `e2e_corr`) -/
def exText : Str := l!"<?xml version=\"1.0\"?><h:html xmlns=\"http://www.w3.org/2002/xforms\" xmlns:h=\"http://www.w3.org/1999/xhtml\" xmlns:ev=\"http://www.w3.org/2001/xml-events\" xmlns:xsd=\"http://www.w3.org/2001/XMLSchema\" xmlns:jr=\"http://openrosa.org/javarosa\" xmlns:orx=\"http://openrosa.org/xforms\" xmlns:odk=\"http://www.opendatakit.org/xforms\"><h:head><h:title>f1</h:title><model odk:xforms-version=\"1.0.0\"><instance><data id=\"f1\"><q/><s/><r jr:template=\"\"><n/></r><r><n/></r><meta><instanceID/></meta></data></instance><instance id=\"yn\"><root><item><name>y</name><label>Yes</label></item></root></instance><bind nodeset=\"/data/q\" type=\"string\"/><bind nodeset=\"/data/s\" type=\"string\"/><bind nodeset=\"/data/r\" relevant=\" /data/q  = 'a'\"/><bind nodeset=\"/data/r/n\" type=\"int\"/><bind nodeset=\"/data/meta/instanceID\" type=\"string\" readonly=\"true()\" jr:preload=\"uid\"/></model></h:head><h:body><input ref=\"/data/q\"><label>Q &amp; A</label></input><select1 ref=\"/data/s\"><label>S</label><itemset nodeset=\"instance('yn')/root/item\"><value ref=\"name\"/><label ref=\"label\"/></itemset></select1><group ref=\"/data/r\"><label>R</label><repeat nodeset=\"/data/r\"><input ref=\"/data/r/n\"><label>N</label></input></repeat></group></h:body></h:html>"

def namesCleanB (wb : Workbook) : Bool :=
  match convertDoc wb with
  | .ok d => noBrTree d
  | .error _ => false

theorem namesClean_of_B {wb : Workbook} (h : namesCleanB wb = true) : ∀ doc, convertDoc wb = .ok doc → NamesClean doc := by
  intro doc hd
  simp only [namesCleanB, hd] at h
  exact h

/-- the part of `convertDoc` below `canonRows`, copied so that `ex_doc` can evaluate it on literal rows;
    `convertDoc_of_rows` (by `rfl`) holds the copy to the model -/
def convertRows (f : Fields) (lists : List (Str × List Choices.Choice)) (rows : List Cells) : Except Convert.Err Node :=
  match decorateAll (lists.map (·.1)) 2 rows with
  | .error e => .error e
  | .ok drows =>
  match formOut f.name (lists.map (·.1)) rows [] with
  | .error (.unsupported w) => .error (.unsupported w)
  | .error (.err _) => .error (.rejected "structure")
  | .error (.unknownType _) => .error (.rejected "unknown type")
  | .ok o =>
  match Rows17.validate17 f.name (withMeta rows [] o.items) with
  | .error _ => .error (.rejected "empty section or duplicate name")
  | .ok () =>
  match dparse drows with
  | .error _ => .error (.unsupported "decorated tree (unreachable)")
  | .ok ditems =>
  let dall := dWithMeta f.name rows ditems
  let els := elsOf f.name dall
  let rc : Refs.Chain := [(f.name, .group)]
  if !bindsSupL rc dall then .error (.unsupported "bind value outside the fragment") else
  if !bindsOkL els rc dall then .error (.rejected "reference") else
  if !ctlOkL ditems then .error (.unsupported "control attribute with the local name ref / nodeset") else
  match textsErrL els [f.name] ditems with
  | some e => .error e
  | none =>
  let doc := Asm.assemble f none (instNodes (defaultsOfL [f.name] ditems) [f.name] (ntKids o.inst))
    ((Choices.staticInsts [] (othersApplied (activeRows rows) lists)).map Choices.instNode ++ bindNodesL els rc dall)
    (bodyNodesL els [f.name] ditems)
  if Asm.validDoc [] doc then .ok doc else .error (.rejected "validate_xml_document")

theorem convertDoc_of_rows {wb : Workbook} {f : Fields} {ch : List Cells} {key : List (Str × List Str)} {rows : List Cells}
    (hf : fieldsOf wb = .ok f)
    (hcc : (wb.choiceCols.all fun h => (lookup h choiceKeys).isSome) = true)
    (hch : canonChoices wb.choices = some ch)
    (hco : ch.any choiceOutside = false)
    (hv : Choices.validateLists false (Choices.groupByKey Choices.listKey ch) = none)
    (ha : wb.surveyCols.all Binds.isAscii = true)
    (hkey : Binds.headerKey wb.surveyCols = .ok key)
    (hrows : canonRows key wb.survey = .ok rows) :
    convertDoc wb = convertRows f (Choices.choicesOf (wb.choiceCols.filterMap fun h => lookup h choiceKeys) ch) rows := by
  unfold convertDoc
  rw [hf]; dsimp only
  rw [if_neg (by simp [hcc]), hch]; dsimp only
  rw [if_neg (by simp [hco]), hv]; dsimp only
  rw [if_neg (by simp [ha]), hkey]; dsimp only
  rw [hrows]
  rfl

/-- one cell of `canonRow`, with `Lexer.activeRules_eq` rewritten in -/
theorem canonRow_cons (key : List (Str × List Str)) (h v : Str) (rest : Cells) :
    canonRow key ((h, v) :: rest) =
      if (Binds.cleanCell v).isEmpty then .error (.unsupported "whitespace-only cell") else
      match (if (Binds.cleanCell v).length ≤ 2 || !isInfix ['$', '{'] (Binds.cleanCell v) then some true
        else some (Lexer.refLoop none (Lexer.scanWith Lexer.pinnedRules (Binds.cleanCell v)).1)) with
      | none => .error (.unsupported "lexer rule table is not the pinned one")
      | some false => .error (.rejected "reference syntax")
      | some true =>
      match lookup h key with
      | none => .error (.unsupported "cell under a column that is not in the header row")
      | some toks =>
        match canonRow key rest with
        | .ok r => .ok ((canonKey toks, Binds.cleanCell v) :: r)
        | .error e => .error e := by
  rw [canonRow, Lexer.refSyntaxOk, Lexer.activeRules_eq]
  rfl

theorem toOption_eq_ok {ε α} {e : Except ε α} {a : α} (h : e.toOption = some a) : e = .ok a := by
  cases e with
  | error x => cases h
  | ok b => injection h with h; rw [h]

def exRows : List Cells := [
  [(l!"type", l!"text"), (l!"name", l!"q"), (l!"label", l!"Q & A")],
  [(l!"type", l!"select_one yn"), (l!"name", l!"s"), (l!"label", l!"S")],
  [(l!"type", l!"begin repeat"), (l!"name", l!"r"), (l!"label", l!"R"), (l!"bind::relevant", l!"${q} = 'a'")],
  [(l!"type", l!"integer"), (l!"name", l!"n"), (l!"label", l!"N")],
  [(l!"type", l!"end repeat")]]

/-- unfolded by `rw` down to the lexicon's equation before anything is evaluated: evaluating `canonRows` (or
    checking a `simp` unfolding) resolves the regenerated lexer table for the one cell with a `${…}` -/
theorem ex_rows : canonRows [(l!"type", [l!"type"]), (l!"name", [l!"name"]), (l!"label", [l!"label"]),
    (l!"relevant", [l!"bind", l!"relevant"])] exWb.survey = .ok exRows := by
  apply toOption_eq_ok
  rw [exWb]; dsimp only
  repeat rw [canonRows]
  repeat rw [canonRow_cons]
  decide +kernel

/-- the sheets' headers and the rest of the pipeline on `exRows`, evaluated in one go -/
theorem ex_doc : ∃ doc, convertDoc exWb = .ok doc ∧ renderDoc false doc = exText ∧ noBrTree doc = true := by
  have h : (match fieldsOf exWb, canonChoices exWb.choices, Binds.headerKey exWb.surveyCols with
      | .ok f, some ch, .ok key =>
        (exWb.choiceCols.all fun h => (lookup h choiceKeys).isSome) && !ch.any choiceOutside &&
        (Choices.validateLists false (Choices.groupByKey Choices.listKey ch)).isNone &&
        exWb.surveyCols.all Binds.isAscii &&
        key == [(l!"type", [l!"type"]), (l!"name", [l!"name"]), (l!"label", [l!"label"]),
          (l!"relevant", [l!"bind", l!"relevant"])] &&
        (match convertRows f (Choices.choicesOf (exWb.choiceCols.filterMap fun h => lookup h choiceKeys) ch) exRows with
         | .ok d => renderDoc false d == exText && noBrTree d
         | .error _ => false)
      | _, _, _ => false) = true := by decide +kernel
  split at h
  · rename_i f ch key hf hch hkey
    simp only [Bool.and_eq_true, Bool.not_eq_true', Option.isNone_iff_eq_none, beq_iff_eq] at h
    obtain ⟨⟨⟨⟨⟨hcc, hco⟩, hv⟩, ha⟩, hk⟩, h⟩ := h
    subst hk
    rw [convertDoc_of_rows hf hcc hch hco hv ha hkey ex_rows]
    split at h
    · rename_i d hd
      rw [Bool.and_eq_true, beq_iff_eq] at h
      exact ⟨d, hd, h⟩
    · cases h
  · cases h

/-- the worked example: escaped label text, a select with itemset and secondary instance, a repeat with template, a
    `${q}` in a bind, the form id -/
theorem ex_convert : convert exWb false = .ok exText := by
  obtain ⟨d, hd, ht, -⟩ := ex_doc
  rw [convert_eq exWb d hd false, ht]

theorem ex_clean : namesCleanB exWb = true := by
  obtain ⟨d, hd, -, hc⟩ := ex_doc
  rw [namesCleanB, hd]; exact hc

-- the hypotheses of the theorems hold for the example, and the conclusions are about this very text
example : holds exText (normAttrVal (formId exWb)) = true :=
  convert_c01 exWb false exText ex_convert (namesClean_of_B ex_clean)
example : ∃ tp tc, convert exWb true = .ok tp ∧ convert exWb false = .ok tc ∧
    Option.map stripWs (parseDoc tp) = Option.map stripWs (parseDoc tc) ∧
    (parseDoc tp).isSome = true ∧ (parseDoc tc).isSome = true :=
  convert_c15 exWb false exText ex_convert (fun d hd => namesClean_of_B ex_clean d hd)
example : ∃ doc, convertDoc exWb = .ok doc ∧ exText = renderDoc false doc := convert_ok exWb false exText ex_convert
example : ∃ doc, convertDoc exWb = .ok doc ∧ ∃ rt, primaryRoot doc = some rt ∧
    ∀ s ∈ bindRefs doc ++ ctlRefsL (bodyKidsOf doc),
      ∃ p, s = xpathStr p ∧ resolves (NT.node (tagOf rt) false (ntOfL (kidsOf rt))) p = true := by
  obtain ⟨doc, hd, -, -⟩ := ex_doc
  exact ⟨doc, hd, convert_c02_partial exWb doc hd⟩
example : ∃ doc, convertDoc exWb = .ok doc ∧ ∃ key rows lists ks items rt,
    Binds.headerKey exWb.surveyCols = .ok key ∧ canonRows key exWb.survey = .ok rows ∧
    classifyAll lists 2 rows = .ok ks ∧ nest ks = .ok items ∧ primaryRoot doc = some rt ∧
    Form.eraseL (ntOfL (kidsOf rt)) = Form.plainL (withMeta rows [] items) := by
  obtain ⟨doc, hd, -, -⟩ := ex_doc
  exact ⟨doc, hd, convert_c04 exWb doc hd⟩

end Pyxv.ConvertP
