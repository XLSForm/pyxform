import Pyxv.Proofs.JValLemmas
import Pyxv.Proofs.ToJsonLemmas
import Pyxv.Proofs.FromJsonLemmas
import Pyxv.Proofs.QStable
import Pyxv.Proofs.UniqueKeysDump
import Pyxv.Proofs.OptionStable
import Pyxv.Model.OpsToJson
import Pyxv.Proofs.Literals
/-!
# C16 — the JSON intermediate form is a faithful, reloadable representation

The text layer: `JV.print` models `json.dumps` (defaults, `ensure_ascii=True`), `JV.parse` models `json.loads`;
both are tied to CPython's `json` by `./check C16`.
-/
namespace Pyxv.C16
open Pyxv Pyxv.JV

/-- Every string (any Unicode scalar values) written as a JSON string literal is read back exactly, whatever follows
    the closing quote. -/
theorem string_literal_roundtrip (s rest : Str) :
    readStr (printStr s ++ rest) = some (s, rest) :=
  readStr_printStr s rest

example : readStr (printStr "é\"\\\n\u0001\u007f😀".toList ++ ", 1]".toList)
    = some ("é\"\\\n\u0001\u007f😀".toList, ", 1]".toList) := string_literal_roundtrip _ _

/-- for every JSON value `j` (duplicate keys or not), reading the text `json.dumps` writes gives back `j` as the
    sequence of pairs the decoder sees (before `dict()` merges duplicate keys). -/
theorem parseRaw_print (j : J) : parseRaw (print j) = some j := by
  have h := readValue_print j [] (print j).length (Or.inl rfl) (size_le_print j)
  have hs := skipWs_print j []
  simp only [List.append_nil] at h hs
  simp [parseRaw, hs, h, skipWs]

example : parseRaw (print (.obj [("a".toList, .arr [.null, .num (-30), .bool true, .str "é\"😀".toList]),
    ("b".toList, .obj []), ("a".toList, .num 0)])) = some (.obj [("a".toList, .arr [.null, .num (-30),
    .bool true, .str "é\"😀".toList]), ("b".toList, .obj []), ("a".toList, .num 0)]) := parseRaw_print _

/-- A value that is a nest of Python dicts (keys unique within every object) is unchanged by the
    decoder's `dict(pairs)`. -/
theorem dedup_of_uniqueKeys (j : J) (h : UniqueKeys j) : dedup j = j :=
  JV.dedup_of_uniqueKeys j h

/-- `json.loads(json.dumps(v)) == v` for every value `v` of the intermediate form (nests of Python
    dicts/lists/str/int/bool/None; `UniqueKeys` says exactly that the objects are dicts). -/
theorem loads_dumps (j : J) (h : UniqueKeys j) : parse (print j) = some j := by
  simp [parse, parseRaw_print, JV.dedup_of_uniqueKeys j h]

example : parse (print (.obj [("type".toList, .str "survey".toList), ("children".toList,
    .arr [.obj [("name".toList, .str "qé\"".toList), ("bind".toList, .obj [("required".toList, .bool true)])]])]))
    = some (.obj [("type".toList, .str "survey".toList), ("children".toList,
    .arr [.obj [("name".toList, .str "qé\"".toList), ("bind".toList, .obj [("required".toList, .bool true)])]])]) :=
  loads_dumps _ (by simp [UniqueKeys, UniqueKeysL, UniqueKeysM])

/-- the duplicate-key behaviour of the decoder is real: the hypothesis of `loads_dumps` cannot be dropped
    (such a value is not a Python dict, so nothing of pyxform is excluded by it). -/
example : parse (print (.obj [("a".toList, .num 1), ("a".toList, .num 2)])) = some (.obj [("a".toList, .num 2)]) := by
  simp [parse, parseRaw_print, dedup, dedupM, dictInsert]

theorem dumps_loads_dumps (j : J) (h : UniqueKeys j) : (parse (print j)).map print = some (print j) := by
  simp [loads_dumps j h]

example : (parse (print (.arr [.str "x".toList, .num 7]))).map print = some (print (.arr [.str "x".toList, .num 7])) :=
  dumps_loads_dumps _ (by simp [UniqueKeys, UniqueKeysL])

/-!
The dict layer, one element: `to_json_dict` (`ToJson.ownDump`; `optionDump`, `restoreScalars`: what the class
overrides put back) and the builder's reading of a dumped dict (`reloadSlots`, `reloadOption`, `reloadScalar`).
-/
open Pyxv.ToJson

/-- dump, load, dump: an element rebuilt from its own dump dumps the same dict (keys, order, values). -/
theorem dump_stable (del : List Str) (slots : Dict) (hn : (slots.map Prod.fst).Nodup) :
    ownDump del (reloadSlots (slots.map Prod.fst) (ownDump del slots)) = ownDump del slots := by
  -- distinct slot names: the slots are a function on the names, and `ownDump_reload` applies with nothing put back
  obtain ⟨f, hf⟩ : ∃ f : Str → J, slots = (slots.map Prod.fst).map fun n => (n, f n) := ⟨_, slots_eq_map hn⟩
  generalize slots.map Prod.fst = names at hf
  subst hf
  exact ownDump_reload del names f _ [] fun n _ _ => Or.inr ⟨rfl, by rw [List.append_nil]⟩

example : ownDump [k!"extra_data"] (reloadSlots [k!"name", k!"bind", k!"label"]
      (ownDump [k!"extra_data"] [(k!"name", .str k!"g"), (k!"bind", .obj [(k!"relevant", .str k!"1")]),
        (k!"label", .null)]))
    = ownDump [k!"extra_data"] [(k!"name", .str k!"g"), (k!"bind", .obj [(k!"relevant", .str k!"1")]),
        (k!"label", .null)] :=
  dump_stable _ _ (by decide)

/-- Every slot that `to_json_dict` does not delete comes back from dump + reload with its value (a falsy value as a
    falsy initial value).  That the rebuilt survey generates the same XForm is decided on the implementation: the
    XForm generator is outside this slice. -/
theorem survey_json_roundtrip_slots (del : List Str) (slots : Dict) (hn : (slots.map Prod.fst).Nodup)
    (k : Str) (v : J) (hm : (k, v) ∈ slots) (hk : k ∉ del) :
    lookup k (reloadSlots (slots.map Prod.fst) (ownDump del slots)) = some (if truthy v then v else .null) := by
  rw [lookup_reload_ownDump del hn hm]
  simp [keeps, hk]

example : lookup k!"label" (reloadSlots [k!"name", k!"label"]
    (ownDump [k!"extra_data"] [(k!"name", .str k!"g"), (k!"label", .str k!"L")]))
    = some (.str k!"L") := by
  have := survey_json_roundtrip_slots [k!"extra_data"] [(k!"name", .str k!"g"), (k!"label", .str k!"L")]
    (by decide) k!"label" (.str k!"L") (by simp) (by decide)
  simpa [truthy] using this

/-- a key in the delete list comes back falsy unless a class override restores it (findings F12, F37). -/
theorem deleted_key_lost (del : List Str) (slots : Dict) (hn : (slots.map Prod.fst).Nodup)
    (k : Str) (v : J) (hm : (k, v) ∈ slots) (hk : k ∈ del) :
    lookup k (reloadSlots (slots.map Prod.fst) (ownDump del slots)) = some .null := by
  rw [lookup_reload_ownDump del hn hm]
  simp [keeps, hk]

example : lookup k!"extra_data" (reloadSlots [k!"name", k!"extra_data"]
    (ownDump (allDelete .option [k!"name", k!"extra_data"] [] [k!"parent"])
      [(k!"name", .str k!"a"), (k!"extra_data", .obj [(k!"pop", .str k!"1")])]))
    = some .null :=
  deleted_key_lost _ _ (by decide) _ (.obj [(k!"pop", .str k!"1")]) (by simp) (by decide)

/-- group logic is kept (fix cecbf61): `GroupedSection.to_json_dict` does not delete a group's `bind`, so it
    survives dump + reload. -/
theorem group_bind_survives (slots : Dict) (hn : (slots.map Prod.fst).Nodup) (qtd : List Str)
    (v : J) (hm : (k!"bind", v) ∈ slots) (ht : truthy v = true) :
    lookup k!"bind" (reloadSlots (slots.map Prod.fst)
      (ownDump (allDelete .group (slots.map Prod.fst) qtd [k!"parent"]) slots)) = some v := by
  have := survey_json_roundtrip_slots (allDelete .group (slots.map Prod.fst) qtd [k!"parent"]) slots hn
    k!"bind" v hm (by simp [allDelete, clsDelete])
  simpa [ht] using this

example : lookup k!"bind" (reloadSlots [k!"name", k!"bind"]
    (ownDump (allDelete .group [k!"name", k!"bind"] [] [k!"parent"])
      [(k!"name", .str k!"g"), (k!"bind", .obj [(k!"relevant", .str k!"1 = 1")])]))
    = some (.obj [(k!"relevant", .str k!"1 = 1")]) :=
  group_bind_survives _ (by decide) [] _ (by simp) (by simp [truthy])

/-- extra choice columns are kept (fix d15eb33): the `extra_data` of an Option rebuilt from its dump is the
    original without its falsy entries. -/
theorem option_extra_survives (slots extra : Dict) (hn : (extra.map Prod.fst).Nodup)
    (hd : ∀ k ∈ extra.map Prod.fst, k ∉ slots.map Prod.fst) :
    (reloadOption (slots.map Prod.fst) (optionDump (slots, extra))).2 = extra.filter fun kv => truthy kv.2 := by
  simp only [reloadOption, optionDump]
  have hsub := ownDump_keys_subset (allDelete .option (slots.map Prod.fst) [] [k!"parent"]) slots
  rw [restoreExtra_fresh extra _ hn (fun k hk hin => hd k hk (hsub k hin))]
  exact reloadExtra_append _ _ _ hsub fun k hk => hd k (keys_filter_subset _ _ k hk)

example : (reloadOption [k!"name", k!"label"]
    (optionDump ([(k!"name", .str k!"a"), (k!"label", .str k!"A")],
      [(k!"pop", .str k!"1"), (k!"empty", .str [])]))).2 = [(k!"pop", .str k!"1")] := by
  have := option_extra_survives [(k!"name", .str k!"a"), (k!"label", .str k!"A")]
    [(k!"pop", .str k!"1"), (k!"empty", .str [])] (by decide) (by decide)
  simpa [truthy] using this

/-- a user's hint on a type whose type-table entry has a hint is kept (fix 86e7ba3): any truthy value of the slot,
    the table's own string or not, comes back from dump + reload. -/
theorem user_hint_survives (slots d : Dict) (k v : Str) (value : J)
    (hv : lookup k slots = some value) (ht : truthy value = true) (hd : lookup k d = none) :
    reloadScalar k v (restoreScalars slots [(k, v)] d) = value := by
  simp only [restoreScalars, hv, Option.getD_some, ht, Bool.true_and]
  by_cases hne : neStr value v = true
  · simp [hne, reloadScalar, setKey, lookup_dictInsert]
  · cases value with
    | str s =>
      have : s = v := by simpa [neStr] using hne
      subst this
      simp [hne, reloadScalar, hd]
    | _ => simp [neStr] at hne

example : reloadScalar k!"hint" k!"Enter numbers only."
    (restoreScalars [(k!"hint", .str k!"my hint")] [(k!"hint", k!"Enter numbers only.")]
      [(k!"name", .str k!"p")]) = .str k!"my hint" :=
  user_hint_survives _ _ _ _ _ rfl (by simp [truthy]) (by decide)

/-- `group_bind_survives` is about a slot sections have in the current source -/
theorem bind_is_a_section_slot : "bind" ∈ Gen.sectionFields := by decide

/-- exactly four types carry a top-level (string) `hint` in the type table: the keys `restoreScalars` is about -/
theorem types_with_table_hint :
    (Gen.questionTypes.filter fun e => e.2.any fun t => t.1 == "" && t.2.1 == "hint").map Prod.fst =
      ["number of days in last month", "number of days in last six months", "phone number",
       "number of days in last year"] := by decide +kernel

/-!
Whole trees: `ToJson.fromJson` models `builder.create_survey_element_from_dict` on the fragment described in
`Model/FromJson.lean`; the correspondence run compares `toJson (fromJson d)` with the dump of the reloaded survey.
-/

/-- the section part's facts about the regenerated slot tuples (re-checked against the source on every run). -/
theorem genCfg_secOk : SecOk genCfg := by
  apply SecOk.of_all
  -- the slot tuples as character lists (`toList_lit`), then all fields evaluated at once
  simp only [genCfg, Gen.surveyFields, Gen.sectionFields, treeKeys, List.filter, List.contains, List.elem,
    String.reduceBEq, Bool.not_false, Bool.not_true, List.map, toList_lit rfl]
  decide +kernel

/-- the question part's facts about the regenerated question slot tuples and every entry of the regenerated type
    table. -/
theorem genCfg_qOk : QOk genCfg := QOk.of_all genCfg (by
  simp only [genCfg, Gen.questionFields, Gen.selectQuestionFields, treeKeys, List.filter, List.contains, List.elem,
    String.reduceBEq, Bool.not_false, Bool.not_true, List.map, toList_lit rfl]
  decide +kernel)

/-- a question built by the builder dumps to a dict the builder accepts again, and the question built from that
    dumps to the same dict — for the tables of the current source. -/
theorem question_dump_stable : QStable genCfg := question_stable genCfg genCfg_qOk

theorem dump_stable_tree_cfg (cfg : Cfg) (ok : SecOk cfg) (hq : QStable cfg) (f : Nat) (d : J) (e : El)
    (h : fromJson cfg f d = some e) :
    ∃ e', fromJson cfg f (toJson e []) = some e' ∧ toJson e' [] = toJson e [] := by
  obtain ⟨e', h1, h2⟩ := stable_all cfg ok hq f d e h [] (by simp)
  exact ⟨e', h1, h2 [] (by simp)⟩

/-- dump, load, dump on whole element trees, for the regenerated tables: for every dict the builder model accepts, the
    survey it builds dumps to a dict the builder accepts again, and the survey built from that dumps to the same dict. -/
theorem dump_stable_tree (f : Nat) (d : J) (e : El) (h : fromJson genCfg f d = some e) :
    ∃ e', fromJson genCfg f (toJson e []) = some e' ∧ toJson e' [] = toJson e [] :=
  dump_stable_tree_cfg genCfg genCfg_secOk question_dump_stable f d e h

/-- non-vacuity with the real tables: a survey with a group (with a bind) holding a `phone number` question with
    a user hint and a user constraint. -/
example : ∃ e e', fromJson genCfg 4 (.obj [(k!"type", .str k!"survey"), (k!"name", .str k!"data"),
      (k!"children", .arr [.obj [(k!"name", .str k!"g"), (k!"type", .str k!"group"),
        (k!"bind", .obj [(k!"relevant", .str k!"1 = 1")]),
        (k!"children", .arr [.obj [(k!"name", .str k!"p"), (k!"type", .str k!"phone number"),
          (k!"hint", .str k!"my hint"), (k!"bind", .obj [(k!"constraint", .str k!". > 0")])]])]])]) = some e ∧
    fromJson genCfg 4 (toJson e []) = some e' ∧ toJson e' [] = toJson e [] := by
  have hsome : (fromJson genCfg 4 (.obj [(k!"type", .str k!"survey"), (k!"name", .str k!"data"),
      (k!"children", .arr [.obj [(k!"name", .str k!"g"), (k!"type", .str k!"group"),
        (k!"bind", .obj [(k!"relevant", .str k!"1 = 1")]),
        (k!"children", .arr [.obj [(k!"name", .str k!"p"), (k!"type", .str k!"phone number"),
          (k!"hint", .str k!"my hint"), (k!"bind", .obj [(k!"constraint", .str k!". > 0")])]])]])])).isSome = true := by
    simp only [genCfg, Gen.questionTypes, List.map, toList_lit rfl]
    decide +kernel
  obtain ⟨e, he⟩ := Option.isSome_iff_exists.mp hsome
  obtain ⟨e', h1, h2⟩ := dump_stable_tree 4 _ e he
  exact ⟨e, e', he, h1, h2⟩

/-- …composed with the text layer: dump, `json.dumps`, `json.loads`, build, dump gives the same dict
    (`UniqueKeys`: the dump is a nest of Python dicts). -/
theorem text_tree_roundtrip (f : Nat) (d : J) (e : El) (h : fromJson genCfg f d = some e)
    (hu : UniqueKeys (toJson e [])) :
    ∃ e', (parse (print (toJson e []))).bind (fromJson genCfg f) = some e' ∧ toJson e' [] = toJson e [] := by
  rw [loads_dumps _ hu]
  exact dump_stable_tree f d e h

/-- the dump of a survey built from a nest of Python dicts is a nest of Python dicts: the hypothesis of
    `text_tree_roundtrip`, derived. -/
theorem dump_is_python_dict (f : Nat) (d : J) (e : El) (hu : UniqueKeys d) (h : fromJson genCfg f d = some e) :
    UniqueKeys (toJson e []) :=
  dump_uniqueKeys genCfg genCfg_secOk genCfg_qOk f d e hu h [] (by simp)

/-- no hypothesis about keys: for every JSON text `json.loads` accepts and whose value the builder accepts, dump,
    `json.dumps`, `json.loads`, build, dump gives the same dict. -/
theorem loaded_survey_roundtrip (f : Nat) (text : Str) (d : J) (e : El) (hp : parse text = some d)
    (h : fromJson genCfg f d = some e) :
    ∃ e', (parse (print (toJson e []))).bind (fromJson genCfg f) = some e' ∧ toJson e' [] = toJson e [] :=
  text_tree_roundtrip f d e h (dump_is_python_dict f d e (parse_uniqueKeys text d hp) h)

example : ∃ d e e', parse ("{\"type\": \"survey\", \"name\": \"data\", \"name\": \"d2\", \"children\": " ++
      "[{\"type\": \"phone number\", \"name\": \"p\", \"hint\": \"my \\u00e9\"}]}").toList = some d ∧
    fromJson genCfg 3 d = some e ∧
    (parse (print (toJson e []))).bind (fromJson genCfg 3) = some e' ∧ toJson e' [] = toJson e [] := by
  -- one evaluation gives both the parsed value and the element built from it
  have h : ((parse ("{\"type\": \"survey\", \"name\": \"data\", \"name\": \"d2\", \"children\": " ++
      "[{\"type\": \"phone number\", \"name\": \"p\", \"hint\": \"my \\u00e9\"}]}").toList).bind
        (fromJson genCfg 3)).isSome = true := by
    simp only [String.toList_append, genCfg, Gen.questionTypes, List.map, toList_lit rfl]
    decide +kernel
  obtain ⟨e, he⟩ := Option.isSome_iff_exists.mp h
  obtain ⟨d, hd, hee⟩ := Option.bind_eq_some_iff.mp he
  obtain ⟨e', h1, h2⟩ := loaded_survey_roundtrip 3 _ d e hd hee
  exact ⟨d, e, e', hd, hee, h1, h2⟩

/-- a configuration without question types: sections only; there `QStable` holds trivially
    (`sectionsOnly_qstable`) and `dump_stable_tree_cfg` rests on the section facts alone. -/
def sectionsOnly : Cfg where
  surveyNames := [k!"name", k!"label", k!"type", k!"title", k!"version"]
  sectionNames := [k!"name", k!"label", k!"bind", k!"type"]
  questionNames := []
  selectNames := []
  qtd := []
  selectTags := []
  knownTags := []

theorem sectionsOnly_qstable : QStable sectionsOnly := by
  intro t kvs e _ h
  simp only [questionFromJson, sectionsOnly, lookup] at h
  split at h
  · cases h
  · split at h <;> cases h

example : ∃ e e', fromJson sectionsOnly 3 (.obj [(k!"type", .str k!"survey"), (k!"name", .str k!"data"),
      (k!"version", .str k!"3"), (k!"children", .arr [.obj [(k!"name", .str k!"g"), (k!"type", .str k!"group"),
        (k!"bind", .obj [(k!"relevant", .str k!"1 = 1")]), (k!"junk", .null)]])]) = some e ∧
    fromJson sectionsOnly 3 (toJson e []) = some e' ∧ toJson e' [] = toJson e [] := by
  have hsome : (fromJson sectionsOnly 3 (.obj [(k!"type", .str k!"survey"), (k!"name", .str k!"data"),
      (k!"version", .str k!"3"), (k!"children", .arr [.obj [(k!"name", .str k!"g"), (k!"type", .str k!"group"),
        (k!"bind", .obj [(k!"relevant", .str k!"1 = 1")]), (k!"junk", .null)]])])).isSome = true := by decide
  obtain ⟨e, he⟩ := Option.isSome_iff_exists.mp hsome
  obtain ⟨e', h1, h2⟩ := dump_stable_tree_cfg sectionsOnly (SecOk.of_all _ (by decide)) sectionsOnly_qstable 3 _ e he
  exact ⟨e, e', he, h1, h2⟩

/-! Options and the survey-level `choices` object (`fromJson` itself answers `unsupported` for dicts that carry them;
`fromJsonC` in C16Choices reads them). -/

/-- the slot tuple of `Option` from the regenerated tables, without the tree key `parent` -/
def genOptionSlots : List Str := (Gen.optionFields.filter fun n => n != "parent").map String.toList

/-- the named parameters of `Option.__init__` (question.py): what `Option(**d)` reads into slots; every other
    key of `d` becomes `extra_data`.  (The correspondence op receives this list from `inspect.signature` of the
    source under test.) -/
def optionCtor : List Str := [k!"name", k!"label", k!"media", k!"sms_option"]

/-- the regenerated Option slot tuple: distinct names; the constructor's parameters are slots, in slot order; every
    other slot is deleted by `Option.to_json_dict`. -/
theorem genOptionSlots_ok :
    genOptionSlots.Nodup ∧ genOptionSlots.filter (fun k => optionCtor.contains k) = optionCtor ∧
    ∀ k ∈ genOptionSlots, optionCtor.contains k = false → k ∈ allDelete .option genOptionSlots [] [k!"parent"] := by
  decide +kernel

/-- dump, load, dump of one Option of the current source. -/
theorem option_dump_stable (f : Str → J) (extra : Dict) (hn : (extra.map Prod.fst).Nodup)
    (hd : ∀ k ∈ extra.map Prod.fst, k ∉ genOptionSlots) :
    optionDump (reloadOption optionCtor (optionDump (genOptionSlots.map (fun n => (n, f n)), extra))) =
      optionDump (genOptionSlots.map (fun n => (n, f n)), extra) := by
  have h := ToJson.option_dump_stable genOptionSlots genOptionSlots_ok.1 (fun k => optionCtor.contains k) f extra
    genOptionSlots_ok.2.2 hn hd
  rw [genOptionSlots_ok.2.1] at h
  exact h

example : optionDump (reloadOption optionCtor (optionDump (genOptionSlots.map (fun n => (n,
      if n = k!"name" then J.str k!"a" else if n = k!"label" then J.str k!"A" else J.null)),
      [(k!"parent", J.str k!"n"), (k!"pop", J.str k!"1"), (k!"empty", J.str [])]))) =
    optionDump (genOptionSlots.map (fun n => (n,
      if n = k!"name" then J.str k!"a" else if n = k!"label" then J.str k!"A" else J.null)),
      [(k!"parent", J.str k!"n"), (k!"pop", J.str k!"1"), (k!"empty", J.str [])]) :=
  option_dump_stable _ _ (by decide) (by decide +kernel)

/-- dump, load, dump of a survey-level `choices` object (and of the option list a select carries), for the Option
    class of the current source. -/
theorem choices_dump_stable (choices : List (Str × List Opt)) (hok : ∀ c ∈ choices, ∀ o ∈ c.2, OptOk genOptionSlots o) :
    choicesJson (reloadChoices optionCtor choices) = choicesJson choices := by
  have h := ToJson.choices_dump_stable genOptionSlots genOptionSlots_ok.1 (fun k => optionCtor.contains k)
    genOptionSlots_ok.2.2 choices hok
  rw [genOptionSlots_ok.2.1] at h
  exact h

example : choicesJson (reloadChoices optionCtor [(k!"l", [(genOptionSlots.map (fun n => (n,
      if n = k!"name" then J.str k!"a" else J.null)), [(k!"parent", J.str k!"n")])])]) =
    choicesJson [(k!"l", [(genOptionSlots.map (fun n => (n, if n = k!"name" then J.str k!"a" else J.null)),
      [(k!"parent", J.str k!"n")])])] := by
  apply choices_dump_stable
  intro c hc o ho
  simp only [List.mem_singleton] at hc; subst hc
  simp only [List.mem_singleton] at ho; subst ho
  exact ⟨fun n => if n = k!"name" then J.str k!"a" else J.null, rfl, by decide, by decide +kernel⟩

end Pyxv.C16
