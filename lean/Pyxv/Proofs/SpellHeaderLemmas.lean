import Pyxv.Proofs.SpellLemmas
import Pyxv.Proofs.BaseLemmas
import Pyxv.Proofs.BindsLemmas
/-! Lemmas about `process_header`: splitting on `::` / `:` and the token list it computes. -/
namespace Pyxv.Spell
open Pyxv

def noColon (x : Str) : Prop := ∀ c ∈ x, c ≠ ':'

/-- `Spell.splitDC` is the bind slice's `split("::")`, whose lemmas (BindsLemmas) it shares -/
theorem splitDC_eq (s : Str) : splitDC s = Binds.splitOn2 ':' s := by
  fun_induction Binds.splitOn2 ':' s <;> simp_all [splitDC]

theorem splitDC_append (x z : Str) (hx : noColon x) : splitDC (x ++ ':' :: ':' :: z) = x :: splitDC z := by
  rw [splitDC_eq, splitDC_eq]
  exact Binds.splitOn2_prefix z x hx

theorem splitDC_noColon (x : Str) (hx : noColon x) : splitDC x = [x] := by
  rw [splitDC_eq]
  exact Binds.splitOn2_of_noDouble x (isInfix_dcolon_none x hx)

theorem splitDC_join (xs : List Str) (h : ∀ x ∈ xs, noColon x) (hne : xs ≠ []) :
    splitDC (joinWith [':', ':'] xs) = xs :=
  split_joinWith splitDC _ noColon (fun x z hx => by simpa using splitDC_append x z hx) splitDC_noColon xs h hne

theorem hasDC_cons (c : Char) (r : Str) : hasDC (c :: r) = ((c == ':' && r.head? == some ':') || hasDC r) := by
  rw [hasDC.eq_def]
  split
  · rename_i heq; cases heq; simp
  · rename_i h heq
    cases heq
    cases r with
    | nil => simp [hasDC]
    | cons d r' =>
      by_cases hc : c = ':'
      · by_cases hd : d = ':'
        · exact (h r' hc (by rw [hd])).elim
        · simp [hd]
      · simp [hc]
  · rename_i heq; cases heq

theorem hasDC_eq (s : Str) : hasDC s = isInfix "::".toList s := by
  induction s with
  | nil => rfl
  | cons c r ih =>
    rw [hasDC_cons, ih, isInfix]
    cases r <;> simp [startsWith]

theorem hasDC_noColon (x : Str) (hx : noColon x) : hasDC x = false := by
  rw [hasDC_eq]
  exact isInfix_dcolon_none x hx

theorem hasDC_mid (a b : Str) : hasDC (a ++ ':' :: ':' :: b) = true := by
  rw [hasDC_eq]
  exact isInfix_dcolon_prefix b a

/-- tokens non-empty: an empty one would put two colons side by side -/
theorem hasDC_join_single (xs : List Str) (h : ∀ x ∈ xs, noColon x ∧ x ≠ []) : hasDC (joinWith [':'] xs) = false := by
  rw [hasDC_eq]
  induction xs with
  | nil => rfl
  | cons x rest ih =>
    cases rest with
    | nil => simpa [joinWith] using isInfix_dcolon_none x (h x (by simp)).1
    | cons y ys =>
      have hy := h y (by simp)
      -- the rest of the join starts with a character of `y`, which is not a colon
      have hhead : (joinWith [':'] (y :: ys)).head? ≠ some ':' := by
        cases y with
        | nil => exact absurd rfl hy.2
        | cons c r =>
          obtain ⟨t, ht⟩ := joinWith_head [':'] c r ys
          rw [ht]; simpa using hy.1 c (by simp)
      rw [joinWith, List.append_assoc, List.singleton_append, isInfix_dcolon_step _ hhead x (h x (by simp)).1]
      exact ih (fun z hz => h z (List.mem_cons_of_mem _ hz))

theorem jrJoin_none (ts : List Str) (h : ['j', 'r'] ∉ ts) : jrJoin ts = .ok ts := by
  induction ts with
  | nil => rfl
  | cons t rest ih =>
    simp only [List.mem_cons, not_or] at h
    simp only [jrJoin, Ne.symm h.1, if_false, ih h.2]
    rfl

theorem colon_mem_toSnake (h : Str) (hc : ':' ∈ h) : ':' ∈ toSnake h :=
  mem_snake lowerChar ':' h hc (by decide) (by decide)

/-- the token tuple `process_header` returns once the header has been split into `toks` -/
def tokensOf (T : HeaderTables) : List Str → List Str
  | [] => []
  | t0 :: rest =>
    let nh := toSnake t0
    match lookup nh T.aliases with
    | some d =>
      if d.isEmpty || d = [[]] then (if T.columns.contains nh then nh :: rest else t0 :: rest)
      else d ++ rest
    | none => if T.columns.contains nh then nh :: rest else t0 :: rest

/-- a header with a colon is none of the (colon-free) expected columns, so its tokens depend on the split alone -/
theorem processHeader_tokens (T : HeaderTables) (d : Bool) (h : Str) (toks : List Str)
    (hcols : ∀ c ∈ T.columns, noColon c) (hc : ':' ∈ h)
    (ht : (if d || hasDC h then (Except.ok ((splitDC h).map strip) : Except HdrErr (List Str))
           else jrJoin ((splitOnChar ':' h).map strip)) = .ok toks) :
    (processHeader T d h).map (·.tokens) = .ok (tokensOf T toks) := by
  have hno : ∀ x, ':' ∈ x → T.columns.contains x = false := fun x hx => by
    rw [Bool.eq_false_iff]; intro hm
    exact hcols x (by simpa using hm) ':' hx rfl
  unfold processHeader
  simp only [hno h hc, hno _ (colon_mem_toSnake h hc), Bool.false_and, Bool.false_eq_true, if_false]
  rw [ht]
  cases toks with
  | nil => rfl
  | cons t0 rest =>
    simp only [tokensOf]
    cases lookup (toSnake t0) T.aliases with
    | none => simp only; split <;> rfl
    | some dd =>
      simp only
      split
      · split <;> rfl
      · rfl

theorem colon_mem_join (sep : Str) (hs : ':' ∈ sep) (xs : List Str) (h : 2 ≤ xs.length) : ':' ∈ joinWith sep xs := by
  match xs, h with
  | x :: y :: rest, _ => simp [joinWith, hs]

theorem hasDC_join_double (xs : List Str) (h : 2 ≤ xs.length) : hasDC (joinWith [':', ':'] xs) = true := by
  match xs, h with
  | x :: y :: rest, _ =>
    have : joinWith [':', ':'] (x :: y :: rest) = x ++ ':' :: ':' :: joinWith [':', ':'] (y :: rest) := by simp [joinWith]
    rw [this]; exact hasDC_mid _ _

theorem toSnake_strip (x : Str) : toSnake (strip x) = toSnake x := by
  unfold toSnake
  rw [splitWs_strip]

/-- `s` is an expected column or an alias key of the sheet -/
def known (T : HeaderTables) (s : Str) : Bool := T.columns.contains s || (lookup s T.aliases).isSome

/-- decidable sanity of a sheet's header tables: a non-alias column whose snake-case form is known is
    already in snake case; `jr` is not a known header; no alias has an empty value -/
def tableSane (T : HeaderTables) : Bool :=
  (T.columns.all fun c => (lookup c T.aliases).isSome || !(known T (toSnake c)) || toSnake c == c) &&
  !(known T ['j', 'r']) &&
  (T.aliases.all fun p => !(p.2.isEmpty || p.2 == [[]]))

/-- the token tuple of a delimiter-free header, as a function of its snake-case normal form -/
def canonTokens (T : HeaderTables) (s : Str) : List Str :=
  if T.columns.contains s && (lookup s T.aliases).isNone then [s]
  else match lookup s T.aliases with
    | some d => d
    | none => [s]

/-- **a delimiter-free header is read through its snake-case normal form only** (C13: two spellings with the same
    `to_snake_case` image — case, spacing, `_` for a blank — get the same tokens, under either delimiter regime) -/
theorem processHeader_nf (T : HeaderTables) (hT : tableSane T = true) (d : Bool) (x : Str)
    (hx : noColon x) (hk : known T (toSnake x) = true) :
    (processHeader T d x).map (·.tokens) = .ok (canonTokens T (toSnake x)) := by
  simp only [tableSane, Bool.and_eq_true] at hT
  obtain ⟨⟨hcol, hjr⟩, hal⟩ := hT
  have hjr' : known T ['j', 'r'] = false := by simpa using hjr
  unfold processHeader
  by_cases b1 : (T.columns.contains x && (lookup x T.aliases).isNone) = true
  · simp only [b1, if_true]
    simp only [Bool.and_eq_true] at b1
    have hmem : x ∈ T.columns := by simpa using b1.1
    have := List.all_eq_true.mp hcol x hmem
    have hnone : (lookup x T.aliases).isSome = false := by
      cases h : lookup x T.aliases <;> simp_all
    simp only [hnone, hk, Bool.not_true, Bool.false_or, beq_iff_eq] at this
    simp only [Except.map, canonTokens, this, b1.1, b1.2, Bool.and_self, if_true]
  · simp only [b1, Bool.false_eq_true, if_false]
    by_cases b2 : (T.columns.contains (toSnake x) && (lookup (toSnake x) T.aliases).isNone) = true
    · simp only [b2, if_true, Except.map, canonTokens]
    · simp only [b2, Bool.false_eq_true, if_false]
      have hs : strip x ≠ ['j', 'r'] := by
        intro e
        have : toSnake x = ['j', 'r'] := by rw [← toSnake_strip, e]; decide
        rw [this, hjr'] at hk; cases hk
      have htoks : (if (d || hasDC x) = true then (Except.ok ((splitDC x).map strip) : Except HdrErr (List Str))
          else jrJoin ((splitOnChar ':' x).map strip)) = .ok [strip x] := by
        rw [hasDC_noColon x hx, splitDC_noColon x hx, splitOnChar_of_not_mem ':' x (fun hm => hx ':' hm rfl)]
        cases d with
        | true => rfl
        | false =>
          simp only [Bool.or_self, Bool.false_eq_true, if_false, List.map_cons, List.map_nil]
          exact jrJoin_none [strip x] (by simpa using Ne.symm hs)
      rw [htoks]
      simp only [toSnake_strip]
      cases hl : lookup (toSnake x) T.aliases with
      | some dd =>
        have hmem := lookup_mem hl
        have hf := List.all_eq_true.mp hal _ hmem
        have hf' : (dd.isEmpty || dd == [[]]) = false := by simpa using hf
        have hne : ¬(dd = [] ∨ dd = [[]]) := by
          simp only [Bool.or_eq_false_iff, beq_eq_false_iff_ne] at hf'
          rintro (h | h)
          · subst h; simp at hf'
          · exact hf'.2 h
        simp [Except.map, canonTokens, hl, hne]
      | none =>
        exfalso
        simp only [known, hl, Option.isSome_none, Bool.or_false] at hk
        simp [hl] at b2
        exact b2 (by simpa using hk)

end Pyxv.Spell
