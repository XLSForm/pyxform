import Pyxv.Proofs.QStableLemmas
/-!
# own-level stability of questions (`QStable`)

The dump of a question built from a dict `kvs` is one listing (`toJson_question_eq`): at each key it can have
(`qKeys`), what `qKeep` keeps of the value `kvs` holds there.  `qKeep` is idempotent at every key, which is dump stability
(`qDump_idem`); the builder's guards on the dump are read off `lookup_qDump`.
-/
namespace Pyxv.ToJson
open Pyxv Pyxv.JV

/-- what the proofs use of one type-table entry: distinct keys, none that the builder's guards read -/
structure EntryOk (entry : Dict) : Prop where
  nodup : (entry.map Prod.fst).Nodup
  noType : k!"type" ∉ entry.map Prod.fst
  noName : k!"name" ∉ entry.map Prod.fst
  noTrigger : k!"trigger" ∉ entry.map Prod.fst
  noChildren : k!"children" ∉ entry.map Prod.fst
  noChoices : k!"choices" ∉ entry.map Prod.fst
  noItemset : k!"itemset" ∉ entry.map Prod.fst
  noListName : k!"list_name" ∉ entry.map Prod.fst

instance (entry : Dict) : Decidable (EntryOk entry) :=
  decidable_of_iff ((entry.map Prod.fst).Nodup ∧ k!"type" ∉ entry.map Prod.fst ∧ k!"name" ∉ entry.map Prod.fst ∧
      k!"trigger" ∉ entry.map Prod.fst ∧ k!"children" ∉ entry.map Prod.fst ∧ k!"choices" ∉ entry.map Prod.fst ∧
      k!"itemset" ∉ entry.map Prod.fst ∧ k!"list_name" ∉ entry.map Prod.fst)
    ⟨fun h => ⟨h.1, h.2.1, h.2.2.1, h.2.2.2.1, h.2.2.2.2.1, h.2.2.2.2.2.1, h.2.2.2.2.2.2.1, h.2.2.2.2.2.2.2⟩,
     fun h => ⟨h.nodup, h.noType, h.noName, h.noTrigger, h.noChildren, h.noChoices, h.noItemset, h.noListName⟩⟩

/-- what the proofs use of the slot tuple of a question class -/
structure NamesOk (names : List Str) : Prop where
  nodup : names.Nodup
  hasType : k!"type" ∈ names
  hasName : k!"name" ∈ names
  noParent : k!"parent" ∉ names
  keepType : k!"type" ∉ allDelete .question names [] []
  keepName : k!"name" ∉ allDelete .question names [] []

instance (names : List Str) : Decidable (NamesOk names) :=
  decidable_of_iff (names.Nodup ∧ k!"type" ∈ names ∧ k!"name" ∈ names ∧ k!"parent" ∉ names ∧
      k!"type" ∉ allDelete .question names [] [] ∧ k!"name" ∉ allDelete .question names [] [])
    ⟨fun ⟨a, b, c, d, e, f⟩ => ⟨a, b, c, d, e, f⟩, fun ⟨a, b, c, d, e, f⟩ => ⟨a, b, c, d, e, f⟩⟩

theorem mem_allDelete_question (names qk : List Str) (k : Str) :
    k ∈ allDelete .question names qk [] ↔ k ∈ allDelete .question names [] [] ∨ k ∈ qk := by
  simp only [allDelete, clsDelete, List.append_nil, List.mem_append, List.mem_cons, List.not_mem_nil, or_false]
  exact or_assoc.symm

theorem reloadSlots_keys (names : List Str) (d : Dict) : (reloadSlots names d).map Prod.fst = names :=
  keys_slots names _

theorem slotValue (names : List Str) (d : Dict) (k : Str) :
    (lookup k (reloadSlots names d)).getD J.null = if k ∈ names then (lookup k d).getD .null else .null := by
  rw [lookup_reloadSlots]
  split <;> rfl

/-- the value given for a key whose type-table default is the string `s`, if it is truthy and not `s` -/
def overrides (s : Str) (u : Option J) : Option J := (some (u.getD (.str s))).filter fun v => truthy v && neStr v s

/-- read back: the dumped override if any, else the table's own string, which is not dumped again -/
theorem overrides_idem (s : Str) (u : Option J) : overrides s (overrides s u) = overrides s u := by
  unfold overrides
  generalize u.getD (J.str s) = w
  by_cases hP : (truthy w && neStr w s) = true
  · simp only [Option.filter_some, hP, if_true, Option.getD_some]
  · have hs : ¬ (truthy (J.str s) && neStr (J.str s) s) = true := by simp [neStr]
    simp only [Option.filter_some, if_neg hP, Option.getD_none, if_neg hs]

/-- what `dump ∘ load` of a question keeps at key `k`, `u` being what the dict holds there: a truthy value; where the
    type table has a string default `s`, the value that overrides it -/
def qKeep (names : List Str) (entry : Dict) (k : Str) (u : Option J) : Option J :=
  match lookup k (scalarsOf entry) with
  | some s => if k ∈ names then overrides s u else none
  | none => u.filter truthy

/-- the keys of the type-table entry with a dict value -/
def objKeys (entry : Dict) : List Str :=
  (entry.filter fun kv => match kv.2 with | .obj _ => true | _ => false).map Prod.fst

/-- the keys a question's dump can have, in dump order: kept slots, `_qtd_kwargs`, overridden string defaults -/
def qKeys (names : List Str) (entry : Dict) : List Str :=
  names.filter (fun n => !(allDelete .question names (entry.map Prod.fst) []).contains n)
    ++ objKeys entry ++ (scalarsOf entry).map Prod.fst

/-- the dump of a question built from `kvs` (`toJson_question_eq`) -/
def qDump (names : List Str) (entry kvs : Dict) : Dict :=
  listing (qKeys names entry) fun k => qKeep names entry k (lookup k kvs)

theorem mem_objKeys {entry : Dict} {k : Str} : k ∈ objKeys entry ↔ ∃ t, (k, J.obj t) ∈ entry := by
  constructor
  · intro h
    obtain ⟨⟨k', v⟩, hm, rfl⟩ := List.mem_map.mp h
    obtain ⟨hm, hv⟩ := List.mem_filter.mp hm
    cases v with
    | obj t => exact ⟨t, hm⟩
    | _ => cases hv
  · exact fun ⟨t, ht⟩ => List.mem_map.mpr ⟨_, List.mem_filter.mpr ⟨ht, rfl⟩, rfl⟩

theorem kept_not_entryKey {names : List Str} {entry : Dict} {k : Str}
    (h : k ∈ names.filter fun n => !(allDelete .question names (entry.map Prod.fst) []).contains n) :
    k ∉ entry.map Prod.fst := fun hk => by
  have := (List.mem_filter.mp h).2
  simp [(mem_allDelete_question names _ k).mpr (Or.inr hk)] at this

theorem qKeys_nodup {names : List Str} (hN : names.Nodup) {entry : Dict} (eo : EntryOk entry) :
    (qKeys names entry).Nodup := by
  refine List.nodup_append.mpr ⟨List.nodup_append.mpr ⟨hN.filter _, ?_, ?_⟩, scalarsOf_nodup entry eo.nodup, ?_⟩
  · exact nodup_keys_filter _ eo.nodup
  · rintro a ha b hb rfl
    obtain ⟨t, ht⟩ := mem_objKeys.mp hb
    exact kept_not_entryKey ha (List.mem_map.mpr ⟨_, ht, rfl⟩)
  · rintro a ha b hb rfl
    obtain ⟨s, hs⟩ := scalarsOf_key_mem entry a hb
    rcases List.mem_append.mp ha with ha | ha
    · exact kept_not_entryKey ha (List.mem_map.mpr ⟨_, hs, rfl⟩)
    · obtain ⟨t, ht⟩ := mem_objKeys.mp ha
      cases AList.value_unique eo.nodup ht hs

theorem kwOf_eq_listing (entry kvs : Dict) : kwOf entry kvs = listing (objKeys entry) fun k => lookup k kvs := by
  rw [kwOf, listing, objKeys, List.filterMap_map, List.filterMap_filter]
  refine filterMap_congr fun kv _ => ?_
  cases kv.2 <;> rfl

theorem lookup_scalarsOf_none {entry : Dict} {k : Str} (h : ∀ s, (k, J.str s) ∉ entry) : lookup k (scalarsOf entry) = none :=
  (lookup_eq_none_iff _ _).2 fun hk => by
    obtain ⟨s, hs⟩ := scalarsOf_key_mem entry k hk
    exact h s hs

section
variable (names : List Str) {entry : Dict} (eo : EntryOk entry) (kvs : Dict)

theorem qOwn_eq :
    ownDump (allDelete .question names (entry.map Prod.fst) []) (reloadSlots names (mergeQtd entry kvs)) =
      listing (names.filter fun n => !(allDelete .question names (entry.map Prod.fst) []).contains n)
        fun k => qKeep names entry k (lookup k kvs) := by
  rw [show reloadSlots names (mergeQtd entry kvs) = names.map fun n => (n, (lookup n (mergeQtd entry kvs)).getD .null)
    from rfl, ownDump_eq_listing]
  refine listing_congr fun k hk => ?_
  have hne := kept_not_entryKey hk
  rw [qKeep, lookup_scalarsOf_none fun s hs => hne (List.mem_map.mpr ⟨_, hs, rfl⟩), lookup_mergeQtd_ne entry kvs k hne]
  cases lookup k kvs <;> rfl

include eo

theorem qKw_eq :
    (kwOf entry kvs).filter (fun kv => truthy kv.2) =
      listing (objKeys entry) fun k => qKeep names entry k (lookup k kvs) := by
  rw [kwOf_eq_listing, filter_listing]
  refine listing_congr fun k hk => ?_
  obtain ⟨t, ht⟩ := mem_objKeys.mp hk
  rw [qKeep, lookup_scalarsOf_none fun s hs => nomatch AList.value_unique eo.nodup ht hs]

theorem qScalars_eq :
    (scalarsOf entry).filterMap (scalarEntry (reloadSlots names (mergeQtd entry kvs))) =
      listing ((scalarsOf entry).map Prod.fst) fun k => qKeep names entry k (lookup k kvs) := by
  have hn := scalarsOf_nodup entry eo.nodup
  have h := filterMap_eq_listing hn fun k s =>
    (some ((lookup k (reloadSlots names (mergeQtd entry kvs))).getD .null)).filter fun v => truthy v && neStr v s
  refine Eq.trans (filterMap_congr fun kv _ => ?_) (h.trans (listing_congr fun k hk => ?_))
  · unfold scalarEntry
    split <;> simp [Option.filter, *]
  · obtain ⟨⟨k', s⟩, hks, rfl⟩ := List.mem_map.mp hk
    rw [lookup_of_mem hn hks, qKeep, lookup_of_mem hn hks, Option.bind_some, slotValue]
    split
    · rw [lookup_mergeQtd_scalar entry kvs k' s eo.nodup ((scalarsOf_mem entry k' s).mp hks)]
      cases lookup k' kvs <;> rfl
    · rfl

end

theorem toJson_question_eq {names : List Str} (hN : names.Nodup) (np : k!"parent" ∉ names) {entry : Dict}
    (eo : EntryOk entry) (kvs : Dict) (x : List Str) (hx : ∀ k ∈ x, k = k!"parent") :
    toJson (.mk .question (reloadSlots names (mergeQtd entry kvs)) (entry.map Prod.fst) (kwOf entry kvs)
      (scalarsOf entry) [] none []) x = .obj (qDump names entry kvs) := by
  obtain ⟨h12, h3, d3⟩ := List.nodup_append.mp (qKeys_nodup hN eo)
  obtain ⟨_, h2, d2⟩ := List.nodup_append.mp h12
  -- the class puts back keys the dump does not have yet: each `update` appends
  rw [toJson_question, reloadSlots_keys,
    ownDump_extra .question names _ x _ (reloadSlots_keys names _) (fun k hk => by rw [hx k hk]; exact np),
    restoreKwargs_eq, restoreScalars_eq, qOwn_eq, qKw_eq names eo, qScalars_eq names eo,
    AList.update_eq_append (nodup_listing h2 _) fun k hk hin => d2 k (mem_keys_listing hin) k (mem_keys_listing hk) rfl,
    ← listing_append,
    AList.update_eq_append (nodup_listing h3 _) fun k hk hin => d3 k (mem_keys_listing hin) k (mem_keys_listing hk) rfl,
    ← listing_append]
  rfl

theorem qKeep_idem (names : List Str) (entry : Dict) (k : Str) (u : Option J) :
    qKeep names entry k (qKeep names entry k u) = qKeep names entry k u := by
  unfold qKeep
  cases lookup k (scalarsOf entry) with
  | some s =>
    dsimp only
    split
    · exact overrides_idem s u
    · rfl
  | none =>
    cases u with
    | none => rfl
    | some v => cases h : truthy v <;> simp [Option.filter, h]

theorem qDump_idem (names : List Str) (entry kvs : Dict) :
    qDump names entry (qDump names entry kvs) = qDump names entry kvs :=
  listing_idem _ _ (fun k _ => qKeep_idem names entry k) kvs

theorem lookup_qDump (names : List Str) (entry kvs : Dict) (k : Str) :
    lookup k (qDump names entry kvs) = if k ∈ qKeys names entry then qKeep names entry k (lookup k kvs) else none :=
  lookup_listing _ _ k

theorem lookup_qDump_plain (names : List Str) {entry : Dict} (kvs : Dict) {k : Str} (hk : k ∉ entry.map Prod.fst) :
    lookup k (qDump names entry kvs) =
      if k ∈ names ∧ k ∉ allDelete .question names [] [] then (lookup k kvs).filter truthy else none := by
  have hsc : k ∉ (scalarsOf entry).map Prod.fst := fun h =>
    (scalarsOf_key_mem entry k h).elim fun s hs => hk (List.mem_map.mpr ⟨_, hs, rfl⟩)
  have hob : k ∉ objKeys entry := fun h => (mem_objKeys.mp h).elim fun t ht => hk (List.mem_map.mpr ⟨_, ht, rfl⟩)
  have hmem : k ∈ qKeys names entry ↔ k ∈ names ∧ k ∉ allDelete .question names [] [] := by
    simp only [qKeys, List.mem_append, hsc, hob, or_false, List.mem_filter, Bool.not_eq_true', List.contains_eq_mem,
      decide_eq_false_iff_not]
    rw [mem_allDelete_question, or_iff_left hk]
  rw [lookup_qDump, qKeep, (lookup_eq_none_iff _ _).2 hsc]
  simp only [hmem]

theorem lookup_qDump_obj (names : List Str) {entry : Dict} (eo : EntryOk entry) (kvs : Dict) {k : Str} {t : Dict}
    (hk : (k, J.obj t) ∈ entry) : lookup k (qDump names entry kvs) = (lookup k kvs).filter truthy := by
  rw [lookup_qDump, if_pos (by simp [qKeys, mem_objKeys.mpr ⟨t, hk⟩]), qKeep,
    lookup_scalarsOf_none fun s hs => nomatch AList.value_unique eo.nodup hk hs]

theorem mergeOk_qDump (names : List Str) {entry : Dict} (eo : EntryOk entry) (kvs : Dict) (h : mergeOk entry kvs = true) :
    mergeOk entry (qDump names entry kvs) = true := by
  unfold mergeOk at h ⊢
  rw [List.all_eq_true] at h ⊢
  intro kv hkv
  have h0 := h kv hkv
  cases hv : kv.2 with
  | obj t =>
    rw [lookup_qDump_obj names eo kvs (hv ▸ hkv : (kv.1, J.obj t) ∈ entry)]
    rw [hv] at h0
    cases hl : lookup kv.1 kvs with
    | none => rfl
    | some u =>
      rw [hl] at h0
      cases u with
      | obj c => rw [Option.filter_some]; cases truthy (J.obj c) <;> rfl
      | _ => cases h0
  | _ => rfl

/-- the table facts `question_stable` rests on; for the regenerated tables: `C16.genCfg_qOk` -/
structure QOk (cfg : Cfg) : Prop where
  qNames : NamesOk cfg.questionNames
  sNames : NamesOk cfg.selectNames
  sItemset : k!"itemset" ∈ cfg.selectNames
  sListName : k!"list_name" ∈ cfg.selectNames
  keepItemset : k!"itemset" ∉ allDelete .question cfg.selectNames [] []
  keepListName : k!"list_name" ∉ allDelete .question cfg.selectNames [] []
  entries : ∀ t entry, lookup t cfg.qtd = some entry → EntryOk entry

theorem QOk.names {cfg : Cfg} (ok : QOk cfg) (b : Bool) :
    NamesOk (if b = true then cfg.selectNames else cfg.questionNames) := by
  cases b
  · exact ok.qNames
  · exact ok.sNames

theorem question_stable (cfg : Cfg) (ok : QOk cfg) : QStable cfg := by
  intro t kvs e hty h x hx
  obtain ⟨g1, g2, entry, tag, hentry, hm, htag, hk, g5, rfl⟩ := questionFromJson_eq_some.mp h
  have eo := ok.entries t entry hentry
  have nok := ok.names (cfg.selectTags.contains tag)
  generalize hnames : (if cfg.selectTags.contains tag = true then cfg.selectNames else cfg.questionNames) = names
    at nok ⊢
  have keep : ∀ {k v}, k ∉ entry.map Prod.fst → k ∈ names → k ∉ allDelete .question names [] [] →
      lookup k kvs = some v → truthy v = true → lookup k (qDump names entry kvs) = some v := fun hk hin hd hl tv => by
    rw [lookup_qDump_plain names kvs hk, if_pos ⟨hin, hd⟩, hl, Option.filter_some, if_pos tv]
  have absent : ∀ {k}, k ∉ entry.map Prod.fst → ¬ hasKey k kvs = true → ¬ hasKey k (qDump names entry kvs) = true :=
    fun hk h0 => by
      rw [hasKey, lookup_qDump_plain names kvs hk, lookup_none_of_hasKey h0]
      split <;> simp
  have truthyAt : ∀ {k}, k ∉ entry.map Prod.fst → k ∈ names → k ∉ allDelete .question names [] [] →
      isTruthyAt k kvs = true → isTruthyAt k (qDump names entry kvs) = true := fun {k} hk hin hd h => by
    unfold isTruthyAt at h ⊢
    cases hl : lookup k kvs with
    | none => simp [hl] at h
    | some v => rw [hl] at h; rw [keep hk hin hd hl h]; exact h
  have htne : t.isEmpty = false := eq_false_of_ne_true fun h => g1 (Or.inr (Or.inl h))
  have hname : nameOk kvs = true := eq_true_of_ne_false fun hn => g1 (Or.inr (Or.inr (by rw [hn]; rfl)))
  obtain ⟨s, hl, hs⟩ := nameOk_eq_true.mp hname
  refine ⟨qDump names entry kvs,
    .mk .question (reloadSlots names (mergeQtd entry (qDump names entry kvs))) (entry.map Prod.fst)
      (kwOf entry (qDump names entry kvs)) (scalarsOf entry) [] none [],
    toJson_question_eq nok.nodup nok.noParent eo kvs x hx,
    keep eo.noType nok.hasType nok.keepType hty (by simp [truthy, htne]), ?_, fun y hy => ?_⟩
  · -- the builder accepts the dump
    refine questionFromJson_eq_some.mpr ⟨?_, ?_, entry, tag, hentry, mergeOk_qDump names eo kvs hm, htag, hk, ?_,
      by rw [hnames]⟩
    · have : nameOk (qDump names entry kvs) = true :=
        nameOk_eq_true.mpr ⟨s, keep eo.noName nok.hasName nok.keepName hl (by simp [truthy, hs]), hs⟩
      rintro (h | h | h)
      · exact g1 (Or.inl h)
      · exact g1 (Or.inr (Or.inl h))
      · rw [this] at h; cases h
    · rintro (h | h | h)
      · exact absent eo.noTrigger (fun h => g2 (Or.inl h)) h
      · exact absent eo.noChildren (fun h => g2 (Or.inr (Or.inl h))) h
      · exact absent eo.noChoices (fun h => g2 (Or.inr (Or.inr h))) h
    · -- a select keeps its truthy `itemset` / `list_name`
      intro ⟨hs, hb⟩
      have hn2 : names = cfg.selectNames := by rw [← hnames, if_pos hs]
      refine g5 ⟨hs, ?_⟩
      simp only [Bool.not_eq_true', decide_eq_false_iff_not] at hb ⊢
      exact fun h => hb (h.imp (truthyAt eo.noItemset (hn2 ▸ ok.sItemset) (hn2 ▸ ok.keepItemset))
        (truthyAt eo.noListName (hn2 ▸ ok.sListName) (hn2 ▸ ok.keepListName)))
  · rw [toJson_question_eq nok.nodup nok.noParent eo _ y hy, toJson_question_eq nok.nodup nok.noParent eo kvs y hy,
      qDump_idem]

/-- as one decidable conjunction, for `decide` -/
theorem QOk.of_all (cfg : Cfg)
    (h : NamesOk cfg.questionNames ∧ NamesOk cfg.selectNames ∧
      k!"itemset" ∈ cfg.selectNames ∧ k!"list_name" ∈ cfg.selectNames ∧
      k!"itemset" ∉ allDelete .question cfg.selectNames [] [] ∧
      k!"list_name" ∉ allDelete .question cfg.selectNames [] [] ∧ ∀ e ∈ cfg.qtd, EntryOk e.2) : QOk cfg :=
  let ⟨q, s, h1, h2, h3, h4, hall⟩ := h
  ⟨q, s, h1, h2, h3, h4, fun t entry h => hall (t, entry) (lookup_mem h)⟩

end Pyxv.ToJson
