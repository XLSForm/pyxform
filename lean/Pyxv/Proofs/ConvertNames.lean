import Pyxv.Proofs.Convert
import Pyxv.Proofs.C01Names
import Pyxv.Proofs.C01Tree
import Pyxv.Proofs.ConvertHeads
/-!
# `GoodNames` of the end-to-end composition, from the name cells

`Refs.GoodNames` — every name on an element's path is non-empty and has no `/` — is a hypothesis of `trace_c03` /
`trace_c03_exprs`.  It holds of every converted workbook: a name on a path is a `name` cell the row classifier accepted
(`Rows.nameOrErr`, hence `is_xml_tag`), or generated from one (`_count`, `_other`), or `generated_note_name_<row>`, or a
literal of the meta block — `C01.formOut_names` at the test `goodName`, read through the erasure — or the root name,
which `Asm.validDoc`, the last step of `convertDoc`, checked as the tag of the primary instance's child.
-/
namespace Pyxv.ConvertP
open Pyxv Pyxv.Form Pyxv.Rows Pyxv.Xml Pyxv.Asm Pyxv.Convert Pyxv.C01

/-- what `Refs.GoodNames` asks of one name -/
def GoodName (s : Str) : Prop := '/' ∉ s ∧ s ≠ []

/-! ## `is_xml_tag` names are good -/

theorem goodName_of_isXmlTag (s : Str) (h : isXmlTag s = true) : GoodName s :=
  ⟨fun hm => isXmlTag_forall (P := (· ≠ '/')) (fun c hc e => by subst e; revert hc; decide) (by decide) (by decide)
    h _ hm rfl, isXmlTag_ne_nil h⟩

theorem goodName_append (s t : Str) (hs : GoodName s) (ht : '/' ∉ t) : GoodName (s ++ t) := by
  refine ⟨?_, by simp [hs.2]⟩
  intro hm
  rcases List.mem_append.1 hm with h | h
  · exact hs.1 h
  · exact ht h

theorem natToStr_noSlash (n : Nat) : '/' ∉ natToStr n := fun h => by
  have := List.all_eq_true.mp (nmOk_digits n) _ h
  revert this; decide

/-! ## the names a classified row carries are good -/

def optGood : Option QData → Prop
  | some d => GoodName d.name
  | none => True

/-- the names a row contributes to the tree: its own and the generated companion's -/
def kGood : RowK → Prop
  | .q d other => GoodName d.name ∧ optGood other
  | .begin_ _ name _ helper => GoodName name ∧ optGood helper
  | _ => True

instance (s : Str) : Decidable (GoodName s) := inferInstanceAs (Decidable (_ ∧ _))

/-- `GoodName` as a test, so that `C01.classify_all` and `C01.formOut_names` apply to it -/
def goodName (s : Str) : Bool := decide (GoodName s)

theorem nameClosed_goodName : NameClosed goodName where
  count _ h := decide_eq_true (goodName_append _ _ (of_decide_eq_true h) (by decide))
  other _ h := decide_eq_true (goodName_append _ _ (of_decide_eq_true h) (by decide))
  note n := decide_eq_true (goodName_append "generated_note_name_".toList _ ⟨by decide, by decide⟩ (natToStr_noSlash n))

theorem metaNames_goodName : MetaNames goodName := by constructor <;> decide

theorem kGood_of_rowkAll {k : RowK} (h : rowkAll goodName k = true) : kGood k := by
  cases k with
  | skip | bad | end_ => trivial
  | q d o => cases o <;> simpa [rowkAll, optAll, kGood, optGood, goodName] using h
  | begin_ ct name b hp => cases hp <;> simpa [rowkAll, optAll, kGood, optGood, goodName] using h

/-- `nameOrErr` is the only source of names -/
theorem classify_good (lists : List Str) (n : Nat) (r : Cells) (k : RowK) (h : classify lists n r = .row k) :
    kGood k :=
  kGood_of_rowkAll (classify_all goodName nameClosed_goodName lists n r k
    (fun x _ hx => decide_eq_true (goodName_of_isXmlTag x hx)) h)

#print axioms classify_good

/-! ## the decorated tree carries good names -/

mutual
def dGood : DItem → Prop
  | .q d _ => GoodName d.name
  | .sec _ n _ _ ks => GoodName n ∧ dGoodL ks
def dGoodL : List DItem → Prop
  | [] => True
  | k :: ks => dGood k ∧ dGoodL ks
end

theorem dGoodL_of_erase (ts : List DItem) : itAllL goodName (Convert.eraseL ts) = true → dGoodL ts := by
  induction ts using ditems_induct with
  | nil => exact fun _ => trivial
  | q d p rest ih =>
    intro h
    simp only [Convert.eraseL, Convert.erase, itAllL, itAll, Bool.and_eq_true] at h
    exact ⟨(of_decide_eq_true h.1 : GoodName d.name), ih h.2⟩
  | sec ct n b p ks rest ihk ih =>
    intro h
    simp only [Convert.eraseL, Convert.erase, itAllL, itAll, Bool.and_eq_true] at h
    exact ⟨⟨(of_decide_eq_true h.1.1 : GoodName n), ihk h.1.2⟩, ih h.2⟩

/-! ## good names on the tree → `GoodNames` on every chain -/

theorem dnodesL_good (ds : List DItem) : ∀ (pc : Refs.Chain), Refs.GoodNames pc.path → dGoodL ds →
    ∀ x ∈ dnodesL pc ds, Refs.GoodNames x.chain.path := by
  induction ds using ditems_induct with
  | nil => intro pc _ _ x hx; cases hx
  | q d p rest ih =>
    intro pc hp hd x hx
    rcases List.mem_cons.1 hx with rfl | hx
    · exact hp.snoc hd.1
    · exact ih pc hp hd.2 x hx
  | sec ct n b p ks rest ihk ihr =>
    intro pc hp hd x hx
    have hn := Refs.GoodNames.snoc (seg := (n, kindOf ct)) hp hd.1.1
    rcases List.mem_cons.1 hx with rfl | hx
    · exact hn
    · exact (List.mem_append.1 hx).elim (ihk _ hn hd.1.2 x) (ihr pc hp hd.2 x)

theorem elsOf_good (root : Str) (dall : List DItem) (hr : GoodName root) (hd : dGoodL dall) :
    ∀ t ∈ elsOf root dall, Refs.GoodNames t.path := by
  intro t ht
  have hroot : Refs.GoodNames (Refs.Chain.path ([] ++ [(root, Refs.Kind.group)])) :=
    Refs.GoodNames.snoc (pre := []) (by intro s hs; cases hs) hr
  rw [elsOf_eq] at ht
  rcases List.mem_cons.1 ht with rfl | ht
  · exact hroot
  · obtain ⟨x, hx, rfl⟩ := List.mem_map.1 ht
    exact dnodesL_good dall _ hroot hd x hx

/-! ## the root name: `validate_xml_document` checked it -/

theorem validKids_mem (S : List Str) (ks : List Node) (h : validKids S ks = true) : ∀ k ∈ ks, validDoc S k = true :=
  List.all_eq_true.1 (validKids_eq S ks ▸ h)

theorem validDoc_kid (S : List Str) (t : Str) (a : List (Str × Str)) (ks : List Node)
    (h : validDoc S (.elem t a ks) = true) (k : Node) (hk : k ∈ ks) : ∃ S', validDoc S' k = true := by
  simp only [validDoc, Bool.and_eq_true] at h
  obtain ⟨⟨_, hkids⟩, _hprefix⟩ := h
  exact ⟨_, validKids_mem _ ks hkids k hk⟩

theorem validDoc_tag (S : List Str) (t : Str) (a : List (Str × Str)) (ks : List Node)
    (h : validDoc S (.elem t a ks) = true) : isXmlTag t = true := by
  simp only [validDoc, Bool.and_eq_true] at h
  obtain ⟨⟨⟨⟨_hdecls, htag⟩, _hattrs⟩, _hkids⟩, _hprefix⟩ := h
  -- `nameValid scope t` is `is_xml_tag t` and the prefix test
  rw [nameValid, Bool.and_eq_true] at htag
  exact htag.1

theorem root_valid (f : Fields) (rk rest bk : List Node) (h : validDoc [] (assemble f none rk rest bk) = true) :
    isXmlTag f.name = true := by
  unfold assemble pyNode at h
  obtain ⟨S1, h1⟩ := validDoc_kid _ _ _ _ h _ (List.mem_cons_self ..)
  obtain ⟨S2, h2⟩ := validDoc_kid _ _ _ _ h1 _ (List.mem_cons_of_mem _ (List.mem_cons_self ..))
  obtain ⟨S3, h3⟩ := validDoc_kid _ _ _ _ h2 (pyNode "instance".toList [] [.elem f.name (rootAttrs f) rk])
    (by simp [modelKids])
  unfold pyNode at h3
  obtain ⟨S4, h4⟩ := validDoc_kid _ _ _ _ h3 _ (List.mem_cons_self ..)
  exact validDoc_tag _ _ _ _ h4

/-! ## `GoodNames` discharged for every converted workbook -/

theorem trace_dGood {wb : Workbook} {doc : Node} {f : Fields} {lists : List (Str × List Choices.Choice)}
    {rows : List Cells} {drows : List ((Nat × RowK) × Pay)} {o : FormOut} {ditems : List DItem}
    (T : Trace wb doc f lists rows drows o ditems) : GoodName f.name ∧ dGoodL (dWithMeta f.name rows ditems) :=
  ⟨goodName_of_isXmlTag _ (by have := T.hvalid; rw [T.hdoc] at this; exact root_valid _ _ _ _ this),
    dGoodL_of_erase _ (by
      rw [erase_dWithMeta, (trace_items T).1]
      exact formOut_names goodName nameClosed_goodName metaNames_goodName _ _ rows [] o
        (fun _ _ x _ hx => decide_eq_true (goodName_of_isXmlTag x hx)) T.hform)⟩

/-- **`GoodNames` holds on a run**: every element path (root, rows' own and generated elements, meta block) consists
    of non-empty, `/`-free names. -/
theorem trace_goodNames {wb : Workbook} {doc : Node} {f : Fields} {lists : List (Str × List Choices.Choice)}
    {rows : List Cells} {drows : List ((Nat × RowK) × Pay)} {o : FormOut} {ditems : List DItem}
    (T : Trace wb doc f lists rows drows o ditems) :
    ∀ t ∈ elsOf f.name (dWithMeta f.name rows ditems), Refs.GoodNames t.path := by
  exact elsOf_good _ _ (trace_dGood T).1 (trace_dGood T).2

#print axioms trace_goodNames

theorem bindElemsL_good (pc : Refs.Chain) (hp : Refs.GoodNames pc.path) (es : List DItem) (hd : dGoodL es) :
    ∀ cq ∈ bindElemsL pc es, Refs.GoodNames cq.1.path := by
  intro cq hcq
  obtain ⟨x, hx, -, rfl⟩ := mem_bindElemsL.1 hcq
  exact dnodesL_good es pc hp hd x hx

theorem bindElems_good (pc : Refs.Chain) (hp : Refs.GoodNames pc.path) : (e : DItem) → dGood e →
    ∀ cq ∈ bindElems pc e, Refs.GoodNames cq.1.path :=
  fun e hd => by simpa only [bindElemsL, List.append_nil] using bindElemsL_good pc hp [e] ⟨hd, trivial⟩

/-- the chain `ctxOf` finds is one of the list's, or empty -/
theorem ctxOf_good (els : List Refs.Chain) (hv : ∀ t ∈ els, Refs.GoodNames t.path) (path : List Str) :
    Refs.GoodNames (ctxOf els path).path := by
  unfold ctxOf
  cases hf : els.find? (fun c => c.path == path) with
  | none => intro s hs; simp [Refs.Chain.path] at hs
  | some c => exact hv c (List.mem_of_find?_eq_some hf)

/-- **C03 on a run, binds, no hypothesis left** -/
theorem trace_c03_full {wb doc f lists rows drows o ditems} (T : Trace wb doc f lists rows drows o ditems) :
    ∀ cq ∈ bindElemsL [(f.name, .group)] (dWithMeta f.name rows ditems),
      ∃ a b, bindAttrs (elsOf f.name (dWithMeta f.name rows ditems)) cq.1 cq.2 = some a ∧ bindDict cq.2 = some b ∧
        ∀ kv ∈ b, ∃ s s', Binds.convVal cq.1.xpath kv.1 kv.2 = some s ∧
          Refs.insertXpaths (elsOf f.name (dWithMeta f.name rows ditems)) (some cq.1) {} s = some s' ∧
          (kv.1, s') ∈ a ∧ HolesResolve (elsOf f.name (dWithMeta f.name rows ditems)) cq.1 s := fun cq hcq =>
  trace_c03 T (trace_goodNames T) cq hcq
    (bindElemsL_good _ (Refs.GoodNames.snoc (pre := []) (seg := (f.name, .group)) (by intro s hs; cases hs) (trace_dGood T).1) _ (trace_dGood T).2 cq hcq)

/-- **C03 on a run, dynamic defaults and repeat counts, no hypothesis left** -/
theorem trace_c03_exprs_full {wb doc f lists rows drows o ditems} (T : Trace wb doc f lists rows drows o ditems) :
    ∀ pe ∈ exprCellsL [f.name] ditems,
      (∃ out, Refs.insertXpaths (elsOf f.name (dWithMeta f.name rows ditems))
          (some (ctxOf (elsOf f.name (dWithMeta f.name rows ditems)) pe.1)) {} pe.2 = some out) ∧
        HolesResolve (elsOf f.name (dWithMeta f.name rows ditems))
          (ctxOf (elsOf f.name (dWithMeta f.name rows ditems)) pe.1) pe.2 := fun pe hpe =>
  trace_c03_exprs T (trace_goodNames T) pe hpe (ctxOf_good _ (trace_goodNames T) _)

/-- **C03 for the whole conversion, binds** (full).  `trace_c03_full`, existentially closed (the statement does not tie
    the witnesses to the run): every element path consists of non-empty `/`-free names, and every bind of every element
    (generated `_count` / `_other` / `instanceID` included) carries its dict entries with all references resolved by
    `Refs.refFor`, each reaching, from the element's node, the element it names. -/
theorem convert_c03 (wb : Workbook) (doc : Node) (h : convertDoc wb = .ok doc) :
    ∃ (els : List Refs.Chain) (root : Str) (dall : List DItem), els = elsOf root dall ∧
      (∀ t ∈ els, Refs.GoodNames t.path) ∧
      ∀ cq ∈ bindElemsL [(root, .group)] dall,
        ∃ a b, bindAttrs els cq.1 cq.2 = some a ∧ bindDict cq.2 = some b ∧
          ∀ kv ∈ b, ∃ s s', Binds.convVal cq.1.xpath kv.1 kv.2 = some s ∧
            Refs.insertXpaths els (some cq.1) {} s = some s' ∧ (kv.1, s') ∈ a ∧ HolesResolve els cq.1 s := by
  obtain ⟨f, lists, rows, drows, o, ditems, T⟩ := convertDoc_trace wb doc h
  exact ⟨_, f.name, dWithMeta f.name rows ditems, rfl, trace_goodNames T, trace_c03_full T⟩

#print axioms convert_c03

/-- **C03 for dynamic defaults and repeat counts** (full).  `trace_c03_exprs_full`, existentially closed (witnesses
    untied): every dynamic default (the `value` of its `setvalue`) and every control attribute of a repeat (`jr:count`)
    is substituted by `Refs.refFor` from the element's own node, and every `${name}` in it reaches the element it names. -/
theorem convert_c03_exprs (wb : Workbook) (doc : Node) (h : convertDoc wb = .ok doc) :
    ∃ (els : List Refs.Chain) (root : Str) (ditems : List DItem),
      (∀ t ∈ els, Refs.GoodNames t.path) ∧ ∀ pe ∈ exprCellsL [root] ditems,
        (∃ out, Refs.insertXpaths els (some (ctxOf els pe.1)) {} pe.2 = some out) ∧
          HolesResolve els (ctxOf els pe.1) pe.2 := by
  obtain ⟨f, lists, rows, drows, o, ditems, T⟩ := convertDoc_trace wb doc h
  exact ⟨_, f.name, ditems, trace_goodNames T, trace_c03_exprs_full T⟩

#print axioms convert_c03_exprs

example : GoodName "kids".toList := goodName_of_isXmlTag _ (by decide +kernel)
example : GoodName ("generated_note_name_".toList ++ natToStr 17) :=
  goodName_append _ _ ⟨by decide, by decide⟩ (natToStr_noSlash 17)
example : ¬ GoodName "a/b".toList := fun h => h.1 (by decide)
example : ¬ GoodName [] := fun h => h.2 rfl
example : kGood (.q { name := "q".toList, bind := true, control := true, node := true, tag := "input".toList } none) :=
  classify_good [] 2 [("type".toList, "text".toList), ("name".toList, "q".toList)] _ (by rfl)
example : isXmlTag "data".toList = true :=
  root_valid { name := "data".toList, title := [], idString := [], version := [] } [] [] [] (by decide +kernel)
-- the theorems applied to the example workbook
example : ∃ doc, convertDoc exWb = .ok doc ∧ ∃ els root dall, els = elsOf root dall ∧
    (∀ t ∈ els, Refs.GoodNames t.path) ∧ ∀ cq ∈ bindElemsL [(root, .group)] dall,
      ∃ a b, bindAttrs els cq.1 cq.2 = some a ∧ bindDict cq.2 = some b ∧
        ∀ kv ∈ b, ∃ s s', Binds.convVal cq.1.xpath kv.1 kv.2 = some s ∧
          Refs.insertXpaths els (some cq.1) {} s = some s' ∧ (kv.1, s') ∈ a ∧ HolesResolve els cq.1 s := by
  obtain ⟨doc, hd, -, -⟩ := ex_doc
  exact ⟨doc, hd, convert_c03 exWb doc hd⟩
example : ∃ doc, convertDoc exWb = .ok doc ∧ ∃ els root ditems,
    (∀ t ∈ els, Refs.GoodNames t.path) ∧ ∀ pe ∈ exprCellsL [root] ditems,
      (∃ out, Refs.insertXpaths els (some (ctxOf els pe.1)) {} pe.2 = some out) ∧
        HolesResolve els (ctxOf els pe.1) pe.2 := by
  obtain ⟨doc, hd, -, -⟩ := ex_doc
  exact ⟨doc, hd, convert_c03_exprs exWb doc hd⟩

end Pyxv.ConvertP
