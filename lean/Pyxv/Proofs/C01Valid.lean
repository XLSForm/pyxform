import Pyxv.Proofs.C01
import Pyxv.Proofs.NcNameLemmas
/-!
# C01: what `validate_xml_document` establishes

`Survey.xml()` ends with `validate_xml_document(result)`; a conversion succeeds only if it does
not raise.  `validDoc` (Model/Assemble.lean) is its model.  Here: an accepted DOM tree is (lax)
well-formed, has every prefix bound and only legal namespace declarations — *provided no name contains `]`*,
the one hole the NCName regex has (finding F5: the literal alternative `À-Ö]`).  A reader of the written text sees
the same, and of the assembled document the skeleton as well: the oracle `holds` is true of its text
(`accepted_assembled_holds`).
-/
namespace Pyxv.C01
open Pyxv Pyxv.Xml Pyxv.Asm Pyxv.Rows

/-- the name does not contain `]` (so the typo literal `À-Ö]` of the NCName regex cannot match) -/
def noBr (s : Str) : Bool := !s.contains ']'

/-! ## pyxform's character classes are inside the XML ones -/

theorem nameStartChar_of_isNameStart1 (c : Char) (h : isNameStart1 c = true) : nameStartChar c = true := by
  unfold isNameStart1 at h
  unfold nameStartChar
  simp only [Bool.or_eq_true] at h ⊢
  rcases h with ((((((((((((h|h)|h)|h)|h)|h)|h)|h)|h)|h)|h)|h)|h)|h <;> simp [h]

theorem nameChar_of_nmOk (c : Char) (h : nmOk c = true) : nameChar c = true := by
  unfold nmOk at h
  rw [Bool.or_eq_true] at h
  rcases h with h | h
  · exact nameStartChar_nameChar (nameStartChar_of_isNameStart1 c h)
  · unfold isNameExtra at h
    unfold nameChar
    simp only [Bool.or_eq_true] at h ⊢
    rcases h with (((((h|h)|h)|h)|h)|h) <;> simp [h]

theorem nmOk_colon : nmOk ':' = false := by decide

theorem not_contains_of_all {q : Char → Bool} {c : Char} (hq : q c = false) {t : Str} (h : t.all q = true) :
    t.contains c = false := by
  rw [List.contains_eq_mem, decide_eq_false_iff_not]
  intro hm
  rw [List.all_eq_true.mp h c hm] at hq
  cases hq

/-- the string does not contain the four-character literal `À-Ö]` -/
def TypoFree (s : Str) : Prop := ∀ a b, s ≠ a ++ (typoLit ++ b)

theorem typoFree_suffix {a s : Str} (h : TypoFree (a ++ s)) : TypoFree s := by
  intro a' b e; exact h (a ++ a') b (by rw [e, List.append_assoc])

theorem typoFree_tail {c : Char} {cs : Str} (h : TypoFree (c :: cs)) : TypoFree cs := typoFree_suffix (a := [c]) h

theorem typoFree_of_noBr (s : Str) (h : noBr s = true) : TypoFree s := by
  intro a b e
  subst e
  simp [noBr, typoLit] at h

theorem run_typoFree {s : Str} (h : NcRun s) (hb : TypoFree s) : s.all nmOk = true := by
  induction h with
  | nil => rfl
  | char hc _ ih => rw [List.all_cons, hc, ih (typoFree_tail hb)]; rfl
  | typo _ _ => exact absurd rfl (hb [] _)

/-- an NCName in pyxform's sense (`]`-free): a colon-free XML name -/
structure IsNc (s : Str) : Prop where
  name : isName s = true
  nocolon : s.contains ':' = false

theorem isNc_cons {c : Char} {pre : Str} (hc : isNameStart1 c = true) (hpre : pre.all nmOk = true) :
    IsNc (c :: pre) := by
  have hnm : nmOk c = true := by simp [nmOk, hc]
  refine ⟨?_, not_contains_of_all nmOk_colon (t := c :: pre) (by simp [List.all_cons, hnm, hpre])⟩
  simp only [isName, Bool.and_eq_true]
  exact ⟨nameStartChar_of_isNameStart1 c hc, all_imp nameChar_of_nmOk hpre⟩

theorem isNc_of_isNcName {s : Str} (h : IsNcName s) (hb : TypoFree s) : IsNc s := by
  obtain ⟨hd, pre, hh, hp, rfl⟩ := h
  cases hh with
  | char hc => exact isNc_cons hc (run_typoFree hp (typoFree_tail hb))
  | typo => exact absurd rfl (hb [] pre)

theorem noBr_append_eq (a b : Str) : noBr (a ++ b) = (noBr a && noBr b) := by
  rw [noBr, noBr, noBr, List.contains_append, Bool.not_or]

theorem noBr_append (a b : Str) (ha : noBr a = true) (hb : noBr b = true) : noBr (a ++ b) = true := by
  rw [noBr_append_eq, ha, hb]; rfl

theorem noBr_append_left (a b : Str) (h : noBr (a ++ b) = true) : noBr a = true := by
  rw [noBr_append_eq, Bool.and_eq_true] at h
  exact h.1

/-- `is_xml_tag` on a string without the typo literal: an NCName, or two NCNames joined by one colon -/
theorem isXmlTag_typoFree (s : Str) (hb : TypoFree s) (h : isXmlTag s = true) :
    IsNc s ∨ ∃ p l, s = p ++ ':' :: l ∧ IsNc p ∧ IsNc l := by
  rcases (isXmlTag_iff s).mp h with h | ⟨p, l, hp, hl, rfl⟩
  · exact Or.inl (isNc_of_isNcName h hb)
  · exact Or.inr ⟨p, l, rfl, isNc_of_isNcName hp fun a b e => hb a (b ++ ':' :: l) (by rw [e]; simp),
      isNc_of_isNcName hl (typoFree_suffix (a := p ++ [':']) (by simpa using hb))⟩

theorem isXmlTag_spec (s : Str) (hb : noBr s = true) (h : isXmlTag s = true) :
    IsNc s ∨ ∃ p l, s = p ++ ':' :: l ∧ IsNc p ∧ IsNc l :=
  isXmlTag_typoFree s (typoFree_of_noBr s hb) h

/-! ## colon bookkeeping: Python's `partition(":")` / `startswith("xmlns:")` vs the reader's `splitOnChar` -/

theorem partitionColon_append (p r : Str) (h : p.contains ':' = false) :
    partitionColon (p ++ r) = (p ++ (partitionColon r).1, (partitionColon r).2) := by
  induction p with
  | nil => rfl
  | cons c q ih =>
    simp only [List.contains_cons, Bool.or_eq_false_iff, beq_eq_false_iff_ne] at h
    have hc : ¬ c = ':' := fun e => h.1 e.symm
    simp [partitionColon, hc, ih h.2]

theorem partitionColon_nocolon (s : Str) (h : s.contains ':' = false) : partitionColon s = (s, false) := by
  have := partitionColon_append s [] h
  rwa [List.append_nil, partitionColon, List.append_nil] at this

theorem partitionColon_join (p l : Str) (h : p.contains ':' = false) :
    partitionColon (p ++ ':' :: l) = (p, true) := by
  have := partitionColon_append p (':' :: l) h
  rwa [partitionColon, if_pos rfl, List.append_nil] at this

theorem splitOnChar_join (p l : Str) (h : p.contains ':' = false) :
    splitOnChar ':' (p ++ ':' :: l) = p :: splitOnChar ':' l :=
  _root_.Pyxv.splitOnChar_append_sep ':' p l (by simpa using h)

theorem xmlns_nocolon : ("xmlns".toList).contains ':' = false := by decide

theorem xmlnsColon_join (k : Str) : xmlnsColon ++ k = "xmlns".toList ++ ':' :: k := by simp [xmlnsColon]

theorem pyDeclared_xmlns (p v : Str) : pyDeclared (xmlnsColon ++ p, v) = some p := by
  rw [pyDeclared, if_pos (startsWith_append_self _ _)]
  rfl

/-- `pyDeclared` (Python: `startswith("xmlns:")`, slice) and the reader's `declaredPrefixes` agree on a
    colon-free name -/
theorem decl_nocolon (k v : Str) (h : k.contains ':' = false) :
    pyDeclared (k, v) = none ∧ splitOnChar ':' k = [k] := by
  refine ⟨?_, splitOnChar_nosep k h⟩
  unfold pyDeclared
  split
  · rename_i hs
    have hk := startsWith_eq_append_drop (a := k) hs
    have : k.contains ':' = true := by rw [hk]; exact contains_colon_xmlns _
    rw [this] at h; cases h
  · rfl

/-- … and on `p:l` with colon-free parts -/
theorem decl_join (p l v : Str) (hp : p.contains ':' = false) (hl : l.contains ':' = false) :
    pyDeclared (p ++ ':' :: l, v) = (if p = "xmlns".toList then some l else none) ∧
    splitOnChar ':' (p ++ ':' :: l) = [p, l] := by
  refine ⟨?_, by rw [splitOnChar_join p l hp, splitOnChar_nosep l hl]⟩
  unfold pyDeclared
  by_cases e : p = "xmlns".toList
  · subst e
    rw [← xmlnsColon_join, if_pos rfl]
    exact pyDeclared_xmlns l v
  · rw [if_neg e]
    split
    · rename_i hs
      -- the text before the first colon is `p` by the one decomposition and `xmlns` by the other
      have h2 := partitionColon_join _ ((p ++ ':' :: l).drop xmlnsColon.length) xmlns_nocolon
      rw [← xmlnsColon_join, ← startsWith_eq_append_drop hs, partitionColon_join p l hp] at h2
      injection h2 with h2 _
      exact absurd h2 e
    · rfl

theorem isName_join (p l : Str) (hp : isName p = true) (hl : isName l = true) : isName (p ++ ':' :: l) = true := by
  obtain ⟨c, r, rfl, hc, hr⟩ := isName_cons hp
  simp only [List.cons_append, isName, Bool.and_eq_true, List.all_append, List.all_cons, List.all_eq_true]
  exact ⟨hc, fun x hx => hr x (List.mem_cons_of_mem _ hx), by decide, nameChars_of_isName hl⟩

/-- how Python's and the reader's string operations see a `]`-free name that `_validate_xml_name` accepts in `scope`:
    an NCName, or `p:l` of two NCNames with `p` reserved or in scope -/
inductive NameView (scope : List Str) : Str → Prop
  | plain {q : Str} (nc : IsNc q) (split : splitOnChar ':' q = [q]) (part : partitionColon q = (q, false))
      (decl : ∀ v, pyDeclared (q, v) = none) : NameView scope q
  | pref {p l : Str} (hp : IsNc p) (hl : IsNc l) (split : splitOnChar ':' (p ++ ':' :: l) = [p, l])
      (part : partitionColon (p ++ ':' :: l) = (p, true))
      (decl : ∀ v, pyDeclared (p ++ ':' :: l, v) = if p = "xmlns".toList then some l else none)
      (bound : (decide (p = "xml".toList) || decide (p = "xmlns".toList) || scope.contains p) = true) :
      NameView scope (p ++ ':' :: l)

theorem nameValid_inv (scope : List Str) (q : Str) (hb : noBr q = true) (h : nameValid scope q = true) :
    NameView scope q := by
  simp only [nameValid, Bool.and_eq_true] at h
  rcases isXmlTag_spec q hb h.1 with hnc | ⟨p, l, rfl, hp, hl⟩
  · exact .plain hnc (splitOnChar_nosep q hnc.nocolon) (partitionColon_nocolon q hnc.nocolon)
      fun v => (decl_nocolon q v hnc.nocolon).1
  · have hpart := partitionColon_join p l hp.nocolon
    have h2 := h.2
    rw [hpart] at h2
    exact .pref hp hl (decl_join p l [] hp.nocolon hl.nocolon).2 hpart
      (fun v => (decl_join p l v hp.nocolon hl.nocolon).1) h2

/-- `_validate_xml_name` on a `]`-free name gives exactly what `prefixesBound` asks of a name -/
theorem nameValid_ok (scope : List Str) (q : Str) (hb : noBr q = true) (h : nameValid scope q = true) :
    isName q = true ∧ qnameOk scope q = true := by
  cases nameValid_inv scope q hb h with
  | plain nc split _ _ =>
    exact ⟨nc.name, by simp [qnameOk, isQName, splitQName, split, nc.name]⟩
  | pref hp hl split _ _ bound =>
    refine ⟨isName_join _ _ hp.name hl.name, ?_⟩
    simp only [qnameOk, isQName, splitQName, split, hp.name, hl.name, Bool.and_self, Bool.true_and]
    exact bound

/-- on accepted attribute names Python's and the reader's notion of "declares a prefix" coincide -/
theorem pyDeclared_eq (scope : List Str) (kv : Str × Str) (hb : noBr kv.1 = true)
    (h : nameValid scope kv.1 = true) :
    pyDeclared kv = (match splitOnChar ':' kv.1 with
      | [x, p] => if x = "xmlns".toList then some p else none
      | _ => none) := by
  obtain ⟨k, v⟩ := kv
  cases nameValid_inv scope k hb h with
  | plain _ split _ decl => simp only [decl v, split]
  | pref _ _ split _ decl _ => simp only [decl v, split]

theorem declared_eq (scope : List Str) (a : List (Str × Str)) (hb : a.all (fun kv => noBr kv.1) = true)
    (hv : a.all (fun kv => nameValid scope kv.1) = true) : a.filterMap pyDeclared = declaredPrefixes a := by
  unfold declaredPrefixes
  apply filterMap_congr
  intro kv hkv
  have h1 := (List.all_eq_true.mp hb) kv hkv
  have h2 := (List.all_eq_true.mp hv) kv hkv
  rw [pyDeclared_eq scope kv h1 h2]
  obtain ⟨k, v⟩ := kv
  rfl

/-! ## the names the converter writes itself

They are judged once, by `is_xml_tag` and `partition(":")` on the closed string; what the validator, an XML
reader and the `]`-condition ask of them in a scope follows. -/

/-- a closed name with its prefix: a name for `is_xml_tag`, `]`-free, no namespace declaration, the prefix
    (if any) as stated and not `xmlns` -/
def staticOk (p : Option Str) (q : Str) : Bool :=
  isXmlTag q && noBr q && !isNsDecl q && elemPrefixOk q &&
  partitionColon q == (match p with | some x => (x, true) | none => (q, false))

def inScope (S : List Str) : Option Str → Bool
  | none => true
  | some x => S.contains x

/-- what the checks ask of a static name in scope `S` -/
def isStatic (S : List Str) (q : Str) : Bool := nameValid S q && elemPrefixOk q && noBr q && !isNsDecl q

theorem isStatic_of {p : Option Str} {q : Str} (h : staticOk p q = true) {S : List Str} (hp : inScope S p = true) :
    isStatic S q = true := by
  simp only [staticOk, Bool.and_eq_true, Bool.not_eq_true', beq_iff_eq] at h
  obtain ⟨⟨⟨⟨h1, h2⟩, h3⟩, h4⟩, h5⟩ := h
  have : nameValid S q = true := by
    cases p with
    | none => simp [nameValid, h1, h5]
    | some x => simp only [nameValid, h1, h5, Bool.true_and, Bool.or_eq_true]; exact Or.inr hp
  simp [isStatic, this, h2, h3, h4]

structure Static (S : List Str) (q : Str) : Prop where
  py : nameValid S q = true
  el : elemPrefixOk q = true
  br : noBr q = true
  decl : isNsDecl q = false

theorem static_of {S : List Str} {q : Str} (h : isStatic S q = true) : Static S q := by
  simp only [isStatic, Bool.and_eq_true, Bool.not_eq_true'] at h
  exact ⟨h.1.1.1, h.1.1.2, h.1.2, h.2⟩

theorem Static.of {p : Option Str} {q : Str} (h : staticOk p q = true) {S : List Str} (hp : inScope S p = true) :
    Static S q := static_of (isStatic_of h hp)

theorem Static.name {S : List Str} {q : Str} (st : Static S q) : isName q = true := (nameValid_ok S q st.br st.py).1

theorem Static.qname {S : List Str} {q : Str} (st : Static S q) : qnameOk S q = true := (nameValid_ok S q st.br st.py).2

theorem contains_of_right (X S : List Str) (p : Str) (h : S.contains p = true) : (X ++ S).contains p = true := by
  simp only [List.contains_eq_mem, decide_eq_true_eq, List.mem_append] at h ⊢
  exact Or.inr h

/-- the tags of the frame and the attribute names `Survey.xml_instance` writes, in a scope that has `h` and `odk` -/
structure FrameNames (S : List Str) : Prop where
  html : Static S "h:html".toList
  head : Static S "h:head".toList
  title : Static S "h:title".toList
  body : Static S "h:body".toList
  model : Static S "model".toList
  submission : Static S "submission".toList
  itext : Static S "itext".toList
  inst : Static S "instance".toList
  id : Static S "id".toList
  version : Static S "version".toList
  pfx : Static S "odk:prefix".toList
  delimiter : Static S "odk:delimiter".toList

theorem frameNames {S : List Str} (hh : S.contains "h".toList = true) (hodk : S.contains "odk".toList = true) :
    FrameNames S where
  html := .of (p := some "h".toList) (by decide) hh
  head := .of (p := some "h".toList) (by decide) hh
  title := .of (p := some "h".toList) (by decide) hh
  body := .of (p := some "h".toList) (by decide) hh
  model := .of (p := none) (by decide) rfl
  submission := .of (p := none) (by decide) rfl
  itext := .of (p := none) (by decide) rfl
  inst := .of (p := none) (by decide) rfl
  id := .of (p := none) (by decide) rfl
  version := .of (p := none) (by decide) rfl
  pfx := .of (p := some "odk".toList) (by decide) hodk
  delimiter := .of (p := some "odk".toList) (by decide) hodk

theorem subAttrs_static (f : Fields) {S : List Str} (horx : S.contains "orx".toList = true) :
    (subAttrs f).all (fun kv => isStatic S kv.1) = true :=
  all_subAttrs _ f (isStatic_of (p := none) (q := "action".toList) (by decide) rfl)
    (isStatic_of (p := none) (q := "method".toList) (by decide) rfl)
    (isStatic_of (p := none) (q := "base64RsaPublicKey".toList) (by decide) rfl)
    (isStatic_of (p := some "orx".toList) (q := "orx:auto-send".toList) (by decide) horx)
    (isStatic_of (p := some "orx".toList) (q := "orx:auto-delete".toList) (by decide) horx)

theorem subAttrs_chars (f : Fields) (h1 : f.submissionUrl.all isXmlChar = true) (h2 : f.publicKey.all isXmlChar = true)
    (h3 : f.autoSend.all isXmlChar = true) (h4 : f.autoDelete.all isXmlChar = true) :
    (subAttrs f).all (fun kv => kv.2.all isXmlChar) = true :=
  all_subAttrs _ f h1 (by decide) h2 h3 h4

theorem modelAttrs_static (f : Fields) {S : List Str} (hodk : S.contains "odk".toList = true)
    (hent : f.entityFeatures = true → S.contains "entities".toList = true) :
    (modelAttrs f).all (fun kv => isStatic S kv.1) = true :=
  all_modelAttrs _ f (isStatic_of (p := some "odk".toList) (q := "odk:xforms-version".toList) (by decide) hodk)
    (fun hef => isStatic_of (p := some "entities".toList) (q := "entities:entities-version".toList) (by decide) (hent hef))

theorem modelAttrs_chars (f : Fields) : (modelAttrs f).all (fun kv => kv.2.all isXmlChar) = true :=
  all_modelAttrs _ f (by decide +kernel) (fun _ => by decide +kernel)

theorem bodyAttrs_static (S : List Str) (s : Str) :
    (setAttrs [] (optAttr "class" s)).all (fun kv => isStatic S kv.1) = true :=
  all_bodyAttrs _ s (isStatic_of (p := none) (q := "class".toList) (by decide) rfl)

theorem pyDeclared_none {k v : Str} (h : startsWith k xmlnsColon = false) : pyDeclared (k, v) = none := by
  simp [pyDeclared, h]

/-- a list of static names declares no namespace, for Python and for the reader -/
theorem scope_of_static {S : List Str} {a : List (Str × Str)} (h : a.all (fun kv => isStatic S kv.1) = true) :
    a.filterMap pyDeclared = [] ∧ declaredPrefixes a = [] := by
  have hpy : a.filterMap pyDeclared = [] := List.filterMap_eq_nil_iff.mpr fun kv hkv => by
    have hd := (static_of (List.all_eq_true.mp h kv hkv)).decl
    simp only [isNsDecl, Bool.or_eq_false_iff] at hd
    exact pyDeclared_none hd.2
  exact ⟨hpy, (declared_eq S a (all_imp (fun _ hx => (static_of hx).br) h)
    (all_imp (fun _ hx => (static_of hx).py) h)).symm.trans hpy⟩

theorem modelAttrs_scope (f : Fields) : (setAttrs [] (modelAttrs f)).filterMap pyDeclared = [] ∧
    declaredPrefixes (setAttrs [] (modelAttrs f)) = [] :=
  scope_of_static (all_setAttrs _ _ [] rfl
    (modelAttrs_static f (S := ["odk".toList, "entities".toList]) rfl fun _ => rfl))

theorem subAttrs_scope (f : Fields) : (setAttrs [] (subAttrs f)).filterMap pyDeclared = [] ∧
    declaredPrefixes (setAttrs [] (subAttrs f)) = [] :=
  scope_of_static (all_setAttrs _ _ [] rfl (subAttrs_static f (S := ["orx".toList]) rfl))

theorem bodyAttrs_scope (s : Str) : (setAttrs [] (optAttr "class" s)).filterMap pyDeclared = [] ∧
    declaredPrefixes (setAttrs [] (optAttr "class" s)) = [] :=
  scope_of_static (bodyAttrs_static [] s)

mutual
/-- no tag or attribute name contains `]` (complement of finding F5) -/
def noBrTree : Node → Bool
  | .text _ _ => true
  | .elem t a ks => noBr t && a.all (fun kv => noBr kv.1) && noBrKids ks
def noBrKids : List Node → Bool
  | [] => true
  | k :: ks => noBrTree k && noBrKids ks
end

mutual
/-- the tree is a DOM tree: the attributes of an element form a map (distinct names).  Not a
    property of the compiler but of the data structure `Element._attrs` (`setAttribute`). -/
def isDom : Node → Bool
  | .text _ _ => true
  | .elem _ a ks => attrKeysNodup a && isDomKids ks
def isDomKids : List Node → Bool
  | [] => true
  | k :: ks => isDom k && isDomKids ks
end

/-- acceptance of one element with `]`-free names, in the reader's scope (`declaredPrefixes`), not
    Python's (`pyDeclared`): on accepted names the two agree -/
structure Accepted (sc : List Str) (t : Str) (a : List (Str × Str)) (ks : List Node) : Prop where
  tag : nameValid (declaredPrefixes a ++ sc) t = true
  elemOk : elemPrefixOk t = true
  tagBr : noBr t = true
  attrs : ∀ kv ∈ a, noBr kv.1 = true ∧ nameValid (declaredPrefixes a ++ sc) kv.1 = true ∧
    kv.2.all isXmlChar = true ∧ pyDeclOk kv = true
  kids : validKids (declaredPrefixes a ++ sc) ks = true
  kidsBr : noBrKids ks = true

theorem accepted_elem {sc : List Str} {t : Str} {a : List (Str × Str)} {ks : List Node}
    (h : validDoc sc (.elem t a ks) = true) (hb : noBrTree (.elem t a ks) = true) : Accepted sc t a ks := by
  simp only [validDoc, Bool.and_eq_true] at h
  simp only [noBrTree, Bool.and_eq_true] at hb
  obtain ⟨⟨⟨⟨hd, ht⟩, ha⟩, hk⟩, hel⟩ := h
  rw [declared_eq _ a hb.1.2 (all_imp (fun _ hx => (Bool.and_eq_true_iff.mp hx).1) ha)] at ht ha hk
  refine ⟨ht, hel, hb.1.1, fun kv hkv => ?_, hk, hb.2⟩
  have h1 := List.all_eq_true.mp ha kv hkv
  rw [Bool.and_eq_true] at h1
  exact ⟨List.all_eq_true.mp hb.1.2 kv hkv, h1.1, h1.2, List.all_eq_true.mp hd kv hkv⟩

/-- element tag does not carry the prefix `xmlns` (complement of finding F3x) -/
def tagFree (t : Str) : Bool := (splitQName t).1 != some "xmlns".toList

/-- a namespace declaration does not bind to one of the two reserved namespace names, as a reader
    sees the value (complement of finding F2b-reserved-namespace-uri) -/
def attrFree (kv : Str × Str) : Bool :=
  !(kv.1 == "xmlns".toList || startsWith kv.1 xmlnsColon) ||
  (normAttrVal kv.2 != xmlNsUri && normAttrVal kv.2 != xmlnsNsUri)

mutual
/-- no tag has the prefix `xmlns`, no declaration binds a reserved namespace name -/
def noReserved : Node → Bool
  | .text _ _ => true
  | .elem t a ks => tagFree t && a.all attrFree && noReservedKids ks
def noReservedKids : List Node → Bool
  | [] => true
  | k :: ks => noReserved k && noReservedKids ks
end

theorem normAttrVal_isEmpty (v : Str) : (normAttrVal v).isEmpty = v.isEmpty := by
  cases v with
  | nil => rfl
  | cons c r =>
    rw [normAttrVal.eq_def]
    split <;> simp_all

/-- whatever normalisation changes becomes a space, so a value whose normal form is the space-free `U` is `U`:
    comparing the raw value (validator) or the normalised one (reader) with a reserved namespace name is the same -/
theorem normAttrVal_eq_nospace : ∀ (v U : Str), U.all (fun c => c != ' ') = true → normAttrVal v = U → v = U
  | [], U, _, h => by simpa [normAttrVal] using h
  | c :: r, U, hU, h => by
    by_cases hcr : c = '\r' ∧ ∃ r', r = '\n' :: r'
    · obtain ⟨hc, r', hr⟩ := hcr
      subst hc; subst hr
      rw [normAttrVal_cr_lf] at h
      subst h
      simp at hU
    · have hcons := normAttrVal_cons c r (fun h1 r' h2 => hcr ⟨h1, r', h2⟩)
      rw [hcons] at h
      cases U with
      | nil => cases h
      | cons u us =>
        injection h with h1 h2
        simp only [List.all_cons, Bool.and_eq_true, bne_iff_ne] at hU
        split at h1
        · exact absurd h1.symm hU.1
        · subst h1
          rw [normAttrVal_eq_nospace r us hU.2 h2]

theorem attrFree_of_declOk (kv : Str × Str) (h : pyDeclOk kv = true) : attrFree kv = true := by
  simp only [pyDeclOk, Bool.and_eq_true, Bool.not_eq_true', Bool.and_eq_false_iff] at h
  simp only [attrFree, Bool.or_eq_true, Bool.not_eq_true', Bool.and_eq_true, bne_iff_ne]
  rcases h.2 with h2 | h2
  · left; simpa [isNsDecl] using h2
  · right
    simp only [reservedNs, Bool.or_eq_false_iff, beq_eq_false_iff_ne] at h2
    exact ⟨fun e => h2.1 (normAttrVal_eq_nospace _ _ (by decide) e),
           fun e => h2.2 (normAttrVal_eq_nospace _ _ (by decide) e)⟩

/-- `pyDeclOk` (Python: raw value, `startswith`) gives `declOk` (the oracle: normalised value, `splitOnChar`);
    emptiness and the reserved names are untouched by normalisation -/
theorem declOk_of_valid (scope : List Str) (kv : Str × Str) (hb : noBr kv.1 = true)
    (hn : nameValid scope kv.1 = true) (hd : pyDeclOk kv = true) :
    declOk (kv.1, normAttrVal kv.2) = true := by
  have hf := attrFree_of_declOk kv hd
  obtain ⟨k, v⟩ := kv
  simp only [attrFree, Bool.or_eq_true, Bool.not_eq_true', Bool.or_eq_false_iff, Bool.and_eq_true] at hf
  cases nameValid_inv scope k hb hn with
  | plain _ split _ _ =>
    simp only [declOk, split]
    split
    · rename_i e
      rcases hf with hf | hf
      · simp [e] at hf
      · simp only [Bool.and_eq_true]; exact hf
    · rfl
  | @pref p l _ _ split _ decl _ =>
    simp only [declOk, split]
    split
    · rename_i e
      subst e
      have h1 := decl v
      rw [if_pos rfl] at h1
      have hs : startsWith ("xmlns".toList ++ ':' :: l) xmlnsColon = true := by
        rw [← xmlnsColon_join]; exact startsWith_append_self _ _
      simp only [pyDeclOk, h1, Bool.and_eq_true] at hd
      replace hd := hd.1
      rcases hf with hf | hf
      · rw [hs] at hf; simp at hf
      · have hlx : (l == "xml".toList) = false := by
          have := hd.1.2
          simpa [bne_iff_ne] using this
        have hvx : (normAttrVal v == xmlNsUri) = false := by
          have := hf.1
          simpa [bne_iff_ne] using this
        simp only [Bool.and_eq_true, normAttrVal_isEmpty, hlx, hvx]
        exact ⟨⟨⟨hd.1.1, hd.2⟩, rfl⟩, hf.2⟩
    · rfl

theorem tagFree_of_valid (scope : List Str) (t : Str) (hb : noBr t = true) (hn : nameValid scope t = true)
    (he : elemPrefixOk t = true) : tagFree t = true := by
  cases nameValid_inv scope t hb hn with
  | plain _ split _ _ => simp [tagFree, splitQName, split]
  | pref _ _ split part _ _ =>
    rw [elemPrefixOk, part] at he
    simp only [tagFree, splitQName, split, bne_iff_ne, ne_eq, Option.some.injEq]
    intro e
    subst e
    simp at he

/-- what an XML reader asks of one element, in its own scope -/
structure Reader (sc : List Str) (t : Str) (a : List (Str × Str)) : Prop where
  name : isName t = true
  qname : qnameOk (declaredPrefixes a ++ sc) t = true
  free : tagFree t = true
  attrs : ∀ kv ∈ a, isName kv.1 = true ∧ qnameOk (declaredPrefixes a ++ sc) kv.1 = true ∧ kv.2.all isXmlChar = true ∧
    attrFree kv = true ∧ declOk (kv.1, normAttrVal kv.2) = true

theorem Accepted.reader {sc : List Str} {t : Str} {a : List (Str × Str)} {ks : List Node} (A : Accepted sc t a ks) :
    Reader sc t a :=
  have hn := nameValid_ok _ t A.tagBr A.tag
  ⟨hn.1, hn.2, tagFree_of_valid _ t A.tagBr A.tag A.elemOk, fun kv hkv => by
    obtain ⟨h1, h2, h3, h4⟩ := A.attrs kv hkv
    have hk := nameValid_ok _ kv.1 h1 h2
    exact ⟨hk.1, hk.2, h3, attrFree_of_declOk kv h4, declOk_of_valid _ kv h1 h2 h4⟩⟩

mutual
/-- what acceptance gives, by one induction; the theorems after it are its projections.  Only well-formedness needs
    the tree to be a DOM tree (distinct attribute names are not the validator's business). -/
theorem reader_of_validDoc : ∀ (n : Node) (sc : List Str), validDoc sc n = true → noBrTree n = true →
    prefixesBound sc n = true ∧ (isDom n = true → n.WFLax = true) ∧ noReserved n = true ∧ declsOk (normAttrs n) = true
  | .text _ s, sc, h, _ =>
    ⟨pb_text sc _ _, fun _ => by simpa [validDoc, Node.WFLax] using h, by simp [noReserved], by simp [normAttrs, declsOk]⟩
  | .elem t a ks, sc, h, hb => by
    have A := accepted_elem h hb
    have R := A.reader
    obtain ⟨pk, wk, rk, dk⟩ := reader_of_validKids ks _ A.kids A.kidsBr
    refine ⟨pb_elem_intro R.qname (List.all_eq_true.mpr fun kv hkv => (R.attrs kv hkv).2.1) pk, fun hd => ?_, ?_, ?_⟩
    · simp only [isDom, Bool.and_eq_true] at hd
      simp only [Node.WFLax, attrsWFLax, Bool.and_eq_true]
      exact ⟨⟨R.name, List.all_eq_true.mpr fun kv hkv => by
        rw [Bool.and_eq_true]; exact ⟨(R.attrs kv hkv).1, (R.attrs kv hkv).2.2.1⟩, hd.1⟩, wk hd.2⟩
    · simp only [noReserved, Bool.and_eq_true]
      exact ⟨⟨R.free, List.all_eq_true.mpr fun kv hkv => (R.attrs kv hkv).2.2.2.1⟩, rk⟩
    · simp only [normAttrs, declsOk, normAttrList, List.all_map, Bool.and_eq_true]
      exact ⟨⟨R.free, List.all_eq_true.mpr fun kv hkv => (R.attrs kv hkv).2.2.2.2⟩, dk⟩
theorem reader_of_validKids : ∀ (ks : List Node) (sc : List Str), validKids sc ks = true → noBrKids ks = true →
    prefixesBoundKids sc ks = true ∧ (isDomKids ks = true → WFKidsLax ks = true) ∧ noReservedKids ks = true ∧
    declsOkKids (normAttrsKids ks) = true
  | [], sc, _, _ => ⟨pbKids_nil sc, fun _ => wfKids_nil, by simp [noReservedKids], by simp [normAttrsKids, declsOkKids]⟩
  | k :: ks, sc, h, hb => by
    simp only [validKids, Bool.and_eq_true] at h
    simp only [noBrKids, Bool.and_eq_true] at hb
    obtain ⟨p1, w1, r1, d1⟩ := reader_of_validDoc k sc h.1 hb.1
    obtain ⟨p2, w2, r2, d2⟩ := reader_of_validKids ks sc h.2 hb.2
    refine ⟨pbKids_cons_intro p1 p2, fun hd => ?_, ?_, ?_⟩
    · simp only [isDomKids, Bool.and_eq_true] at hd
      exact wfKids_cons (w1 hd.1) (w2 hd.2)
    · simp only [noReservedKids, r1, r2, Bool.and_self]
    · simp only [normAttrsKids, declsOkKids, d1, d2, Bool.and_self]
end

theorem wf_of_validDoc : ∀ (n : Node) (sc : List Str), validDoc sc n = true → noBrTree n = true →
    isDom n = true → n.WFLax = true :=
  fun n sc h hb => (reader_of_validDoc n sc h hb).2.1
theorem wfKids_of_validKids : ∀ (ks : List Node) (sc : List Str), validKids sc ks = true →
    noBrKids ks = true → isDomKids ks = true → WFKidsLax ks = true :=
  fun ks sc h hb => (reader_of_validKids ks sc h hb).2.1

theorem pb_of_validDoc : ∀ (n : Node) (sc : List Str), validDoc sc n = true → noBrTree n = true →
    prefixesBound sc n = true :=
  fun n sc h hb => (reader_of_validDoc n sc h hb).1
theorem pbKids_of_validKids : ∀ (ks : List Node) (sc : List Str), validKids sc ks = true →
    noBrKids ks = true → prefixesBoundKids sc ks = true :=
  fun ks sc h hb => (reader_of_validKids ks sc h hb).1

theorem noReserved_of_validDoc : ∀ (n : Node) (sc : List Str), validDoc sc n = true → noBrTree n = true →
    noReserved n = true :=
  fun n sc h hb => (reader_of_validDoc n sc h hb).2.2.1
theorem noReservedKids_of_validKids : ∀ (ks : List Node) (sc : List Str), validKids sc ks = true →
    noBrKids ks = true → noReservedKids ks = true :=
  fun ks sc h hb => (reader_of_validKids ks sc h hb).2.2.1

theorem declsOk_of_validDoc : ∀ (n : Node) (sc : List Str), validDoc sc n = true → noBrTree n = true →
    noReserved n = true → declsOk (normAttrs n) = true :=
  fun n sc h hb _ => (reader_of_validDoc n sc h hb).2.2.2
theorem declsOkKids_of_validKids : ∀ (ks : List Node) (sc : List Str), validKids sc ks = true →
    noBrKids ks = true → noReservedKids ks = true → declsOkKids (normAttrsKids ks) = true :=
  fun ks sc h hb _ => (reader_of_validKids ks sc h hb).2.2.2

/-- what an XML reader sees of an accepted tree (`]`-free names, a DOM element), either output mode -/
theorem accepted_view (t : Node) (helem : isElem t = true) (hv : validDoc [] t = true) (hb : noBrTree t = true)
    (hd : isDom t = true) (pretty : Bool) :
    ∃ u, parseDoc (renderDoc pretty t) = some u ∧ prefixesBound [] u = true ∧ declsOk u = true ∧
      eproj u = normAttrs (eproj t) := by
  have R := reader_of_validDoc t [] hv hb
  obtain ⟨u, hu, hpb, hep, hdk⟩ := reader_view t (R.2.1 hd) helem pretty
  exact ⟨u, hu, hpb.trans R.1, hdk.trans R.2.2.2, hep⟩

/-- C01 for every accepted document, on the text, both pretty_print modes: whatever `]`-free DOM tree
    `validate_xml_document` accepts is written as a text that parses as one XML document with every prefix bound -/
theorem accepted_text_wellformed_bound (t : Node) (helem : isElem t = true) (hv : validDoc [] t = true)
    (hb : noBrTree t = true) (hd : isDom t = true) (pretty : Bool) :
    ∃ u, parseDoc (renderDoc pretty t) = some u ∧ prefixesBound [] u = true :=
  let ⟨u, hu, hpb, _⟩ := accepted_view t helem hv hb hd pretty
  ⟨u, hu, hpb⟩

#print axioms accepted_text_wellformed_bound

/-- if `validate_xml_document` accepts the attributes of `<h:html>`, the default declaration and
    `xmlns:h` are those of `NSMAP`: the default is lost only to a declaration `xmlns:xmlns`, which is rejected -/
theorem nsOK_of_accepted (f : Fields) (h : (htmlAttrs f).all pyDeclOk = true) : NsOK f = true := by
  cases hx : lookup kXX (nsNew f) with
  | none => exact nsOK_of_no_xmlns_prefix f hx
  | some v =>
    have hbad : pyDeclOk (kXX, v) = false := by
      simp [pyDeclOk, kXX, pyDeclared_xmlns]
    have : pyDeclOk (kXX, v) = true := List.all_eq_true.mp h _ (lookup_mem (lookup_htmlAttrs_new f _ v hx))
    rw [hbad] at this; cases this

#print axioms nsOK_of_accepted

theorem validKids_eq (sc : List Str) : ∀ ks, validKids sc ks = ks.all (validDoc sc) := eq_all_of_eqns rfl fun _ _ => rfl

theorem isDomKids_append (L1 L2 : List Node) : isDomKids (L1 ++ L2) = (isDomKids L1 && isDomKids L2) :=
  and_of_eqns rfl (fun _ _ => rfl) L1 L2

theorem isDom_elem {t : Str} {a : List (Str × Str)} {ks : List Node} (ha : attrKeysNodup a = true)
    (hk : isDomKids ks = true) : isDom (.elem t a ks) = true := by
  simp [isDom, ha, hk]

theorem isDomKids_cons {k : Node} {ks : List Node} (h1 : isDom k = true) (h2 : isDomKids ks = true) :
    isDomKids (k :: ks) = true := by
  simp [isDomKids, h1, h2]

theorem isDomKids_nil : isDomKids [] = true := by simp [isDomKids]

structure PartsDom (itext : Option (List Node)) (rk rest bk : List Node) : Prop where
  itext : ∀ ks, itext = some ks → isDomKids ks = true
  rk : isDomKids rk = true
  rest : isDomKids rest = true
  bk : isDomKids bk = true

def domCheck : TreeCheck Unit where
  node _ n := isDom n
  kids _ ks := isDomKids ks
  elem _ _ a := attrKeysNodup a
  ext _ _ := ()
  ext_nil _ := rfl
  node_elem _ _ _ _ := rfl
  kids_nil _ := rfl
  kids_cons _ _ _ := rfl

/-- the frame never has a duplicate attribute, so the assembled tree is a DOM tree when the parts are -/
theorem isDom_assemble (f : Fields) {itext : Option (List Node)} {rk rest bk : List Node}
    (P : PartsDom itext rk rest bk) : isDom (assemble f itext rk rest bk) = true :=
  have nd := attrKeysNodup_setAttrs
  domCheck.assemble_ok (s := ()) rfl rfl rfl rfl rfl (nd _) rfl rfl rfl (nd _) (nd _) rfl P.itext rfl
    (frame_attributes_distinct f).2 P.rk P.rest (nd _) P.bk

theorem skelE_of_accepted {f : Fields} {itext : Option (List Node)} {rk rest bk : List Node}
    (hv : validDoc [] (assemble f itext rk rest bk) = true) :
    skelE f.idString (eproj (assemble f itext rk rest bk)) = true := by
  refine skelE_assemble f itext rk rest bk (nsOK_of_accepted f ?_)
  -- the first test of `validDoc` on `<h:html>`: its attributes are legal declarations
  simp only [assemble, pyNode, validDoc, Bool.and_eq_true] at hv
  obtain ⟨⟨⟨⟨hdecl, -⟩, -⟩, -⟩, -⟩ := hv
  exact hdecl


/-- **C01 as the oracle states it.**  If `validate_xml_document` accepts the assembled document, no name contains `]`
    (F5) and the parts are DOM trees, then `holds` — *the very function the check evaluates on the implementation's
    text* — is true of the text written in either pretty_print mode, with the form id attribute-value normalised
    (`normAttrVal`: the id itself when it has no TAB / LF / CR). -/
theorem accepted_assembled_holds (f : Fields) (itext : Option (List Node)) (rk rest bk : List Node)
    (hv : validDoc [] (assemble f itext rk rest bk) = true)
    (hb : noBrTree (assemble f itext rk rest bk) = true)
    (hd : PartsDom itext rk rest bk) (pretty : Bool) :
    holds (renderDoc pretty (assemble f itext rk rest bk)) (normAttrVal f.idString) = true := by
  obtain ⟨u, hu, hpb, hdk, hep⟩ := accepted_view _ rfl hv hb (isDom_assemble f hd) pretty
  rw [holds, hu]
  show (declsOk u && prefixesBound [] u && Skeleton u (normAttrVal f.idString)) = true
  rw [hdk, hpb, Skeleton, hep, skelE_normAttrs (skelE_of_accepted hv)]
  rfl

#print axioms accepted_assembled_holds

/-- the same with `holds` unfolded: the text parses as one XML document with every prefix bound and the ODK skeleton
    carrying the (normalised) form id on the primary instance root.  No guard on names, characters, prefixes or the
    `namespaces` setting is left: the validation pass establishes them. -/
theorem accepted_assembled_text_ok (f : Fields) (itext : Option (List Node)) (rk rest bk : List Node)
    (hv : validDoc [] (assemble f itext rk rest bk) = true)
    (hb : noBrTree (assemble f itext rk rest bk) = true)
    (hd : PartsDom itext rk rest bk) (pretty : Bool) :
    ∃ u, parseDoc (renderDoc pretty (assemble f itext rk rest bk)) = some u ∧
      prefixesBound [] u = true ∧ Skeleton u (normAttrVal f.idString) = true := by
  have h := accepted_assembled_holds f itext rk rest bk hv hb hd pretty
  unfold holds at h
  split at h
  · rename_i u hu
    simp only [Bool.and_eq_true] at h
    exact ⟨u, hu, h.1.2, h.2⟩
  · cases h

#print axioms accepted_assembled_text_ok

-- the example document of `C01.lean` is accepted, `]`-free and a DOM tree: the theorem applies
theorem ex_accepted : validDoc [] (assemble exFields exItext exRootKids exRest exBody) = true := by
  rw [exDoc_chars]; decide +kernel
theorem ex_noBr : noBrTree (assemble exFields exItext exRootKids exRest exBody) = true := by
  rw [exDoc_chars]; decide +kernel
theorem exPartsDom : PartsDom exItext exRootKids exRest exBody :=
  ⟨fun ks h => by cases h; decide +kernel, by decide +kernel, by decide +kernel, by decide +kernel⟩
example : ∃ u, parseDoc (renderDoc true (assemble exFields exItext exRootKids exRest exBody)) = some u ∧
    prefixesBound [] u = true ∧ Skeleton u (normAttrVal exFields.idString) = true :=
  accepted_assembled_text_ok exFields _ _ _ _ ex_accepted ex_noBr exPartsDom true
example : holds (renderDoc true (assemble exFields exItext exRootKids exRest exBody)) (normAttrVal exFields.idString) = true :=
  accepted_assembled_holds exFields _ _ _ _ ex_accepted ex_noBr exPartsDom true
-- the shapes of findings F3x / F2b-reserved are rejected
def exF3x : Node := .elem "xmlns:q".toList [] []
example : validDoc [] exF3x = false ∧ declsOk exF3x = false := by decide +kernel
def exF2bR : Node := .elem "a".toList [("xmlns:w".toList, xmlnsNsUri)] []
example : validDoc [] exF2bR = false ∧ declsOk exF2bR = false := by decide +kernel
-- the shapes of findings F2, F2b, F3, F4 are rejected
example : validDoc [] (assemble exF2 none [] [] []) = false := by simp only [assemble, getNsmap, nsmap_chars]; decide +kernel    -- namespaces `1x=…`
example : validDoc [] (assemble exF2b none [] [] []) = false := by simp only [assemble, getNsmap, nsmap_chars]; decide +kernel   -- namespaces `xmlns=…`
example : validDoc [] (assemble exF3 none [] [] []) = false := by simp only [assemble, getNsmap, nsmap_chars]; decide +kernel    -- form name `a:b`
example : validDoc [] (assemble exF4 none [] [] []) = false := by simp only [assemble, getNsmap, nsmap_chars]; decide +kernel    -- U+0001 in the title
-- F5: the hypothesis `noBrTree` is needed — `À-Ö]` is accepted and the text does not parse
def exF5 : Node := .elem typoLit [] []
example : validDoc [] exF5 = true := by decide +kernel
example : noBrTree exF5 = false := by decide +kernel
example : parseDoc (renderDoc false exF5) = none := by decide +kernel
-- the XML name classes have holes that pyxform's regex respects: U+00D7, U+00F7 are not name characters
example : isXmlTag ['a', Char.ofNat 0xD7, 'b'] = false ∧ isXmlTag ['a', Char.ofNat 0xF7] = false ∧
    isName ['a', Char.ofNat 0xD7, 'b'] = false ∧ isName ['a', Char.ofNat 0xF7] = false := by decide +kernel

end Pyxv.C01
