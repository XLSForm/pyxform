import Pyxv.Model.RefsText
import Pyxv.Proofs.BaseLemmas
/-!
# The `${…}` scanner

`Refs.substRefs repl` is `re.sub(BRACKETED_TAG_REGEX, repl, ·)` for any `repl`; the loops of `Pyxv.Chan` and
`Pyxv.Entities` are instances of it (`subRefs_eq`, `subOutputs_eq`; `insertXpaths_eq` in `C19Compose`).
`Scans repl e out` reads a successful scan without its fuel and is built from three steps: the end of the text, a copied
character, a replaced reference.
-/
namespace Pyxv.Scan
open Pyxv Pyxv.Refs

theorem takeToBrace_name (n rest : Str) (hn : ∀ c ∈ n, c ≠ '}' ∧ c ≠ '\n') :
    Chan.takeToBrace (n ++ '}' :: rest) = some (n, rest) := by
  induction n with
  | nil => simp [Chan.takeToBrace]
  | cons c n ih =>
    have hc := hn c (List.mem_cons_self ..)
    rw [List.cons_append, Chan.takeToBrace.eq_4 c _ hc.1 hc.2, ih fun d hd => hn d (List.mem_cons_of_mem _ hd)]

/-- the optional group `(last-saved#)?` splits what stands between the braces: (group present, name) -/
def splitLs (b : Str) : Bool × Str :=
  (startsWith b Chan.lastSavedTag, if startsWith b Chan.lastSavedTag then b.drop Chan.lastSavedTag.length else b)

theorem matchRef_body (b rest : Str) (hn : ∀ c ∈ b, c ≠ '}' ∧ c ≠ '\n') :
    Chan.matchRef (b ++ '}' :: rest) = some ((splitLs b).1, (splitLs b).2, rest) := by
  have h1 : startsWith (b ++ '}' :: rest) Chan.lastSavedTag = startsWith b Chan.lastSavedTag :=
    startsWith_sep '}' rest b _ (by decide)
  unfold splitLs
  cases hs : startsWith b Chan.lastSavedTag with
  | false => simp [Chan.matchRef, h1, hs, takeToBrace_name b rest hn]
  | true =>
    have hd : (b ++ '}' :: rest).drop Chan.lastSavedTag.length = b.drop Chan.lastSavedTag.length ++ '}' :: rest :=
      List.drop_append_of_le_length (startsWith_length hs)
    simp [Chan.matchRef, h1, hs, hd, takeToBrace_name _ rest fun c hc => hn c (List.mem_of_mem_drop hc)]

/-! ## one round of the scanner, as the pattern-matching copies write it -/

variable {repl : Str → Str → Bool → Str → Option Str}

theorem substRefs_zero (s : Str) : substRefs repl 0 s = none := rfl

theorem substRefs_nil (f : Nat) : substRefs repl (f + 1) [] = some [] := rfl

theorem substRefs_open (f : Nat) (r : Str) :
    substRefs repl (f + 1) ('$' :: '{' :: r) =
      match Chan.matchRef r with
      | some (ls, name, rest) =>
        (match repl ('$' :: '{' :: r) rest ls name, substRefs repl f rest with
         | some v, some out => some (v ++ out)
         | _, _ => none)
      | none => (substRefs repl f ('{' :: r)).map ('$' :: ·) := by
  rw [substRefs, if_pos ⟨rfl, rfl⟩]; rfl

theorem substRefs_lit (f : Nat) {c : Char} {r : Str} (h : ∀ r', c = '$' → r ≠ '{' :: r') :
    substRefs repl (f + 1) (c :: r) = (substRefs repl f r).map (c :: ·) := by
  rw [substRefs, if_neg]
  rintro ⟨hc, hr⟩
  cases r with
  | nil => cases hr
  | cons d r => exact h r hc (by simp at hr; rw [hr])

/-- one round of a successful scan: the reference at the head is replaced, or (none opens there) the first character is copied -/
theorem substRefs_cons_some {f : Nat} {c : Char} {r out : Str} (h : substRefs repl (f + 1) (c :: r) = some out) :
    (∃ ls name rest v out', (c = '$' ∧ r.head? = some '{') ∧ Chan.matchRef r.tail = some (ls, name, rest) ∧
      repl (c :: r) rest ls name = some v ∧ substRefs repl f rest = some out' ∧ out = v ++ out') ∨
    ((c = '$' ∧ r.head? = some '{' → Chan.matchRef r.tail = none) ∧
      ∃ out', substRefs repl f r = some out' ∧ out = c :: out') := by
  rw [substRefs] at h
  split at h
  · next hc =>
    split at h
    · next ls name rest hm =>
      split at h
      · next v out' hv ho => exact .inl ⟨ls, name, rest, v, out', hc, hm, hv, ho, (Option.some.inj h).symm⟩
      · cases h
    · next hm =>
      obtain ⟨out', ho, rfl⟩ := Option.map_eq_some_iff.1 h
      exact .inr ⟨fun _ => hm, out', ho, rfl⟩
  · next hc =>
    obtain ⟨out', ho, rfl⟩ := Option.map_eq_some_iff.1 h
    exact .inr ⟨fun h' => absurd h' hc, out', ho, rfl⟩

theorem substRefs_refs_ok (repl : Str → Str → Bool → Str → Option Str) (g : Bool → Str → Option Str)
    (hg : ∀ a b ls n, repl a b ls n = g ls n) : ∀ (fuel : Nat) (s out : Str),
    Refs.substRefs repl fuel s = some out → ∀ r ∈ Refs.findRefs fuel s, (g r.1 r.2).isSome = true := by
  intro fuel
  induction fuel with
  | zero => intro s out h; cases h
  | succ fuel ih =>
    intro s out h
    cases s with
    | nil => simp [Refs.findRefs]
    | cons c r =>
      rw [findRefs]
      rcases substRefs_cons_some h with ⟨ls, name, rest, v, out', hc, hm, hv, ho, -⟩ | ⟨hm, out', ho, -⟩
      · rw [if_pos hc, hm]
        intro x hx
        rcases List.mem_cons.1 hx with rfl | hx
        · rw [← hg, hv]; rfl
        · exact ih rest out' ho x hx
      · split
        · next hc => rw [hm hc]; exact ih r out' ho
        · exact ih r out' ho

/-- `re.sub(BRACKETED_TAG_REGEX, repl, e)` succeeds with `out` -/
def Scans (repl : Str → Str → Bool → Str → Option Str) (e out : Str) : Prop :=
  ∀ fuel, e.length < fuel → substRefs repl fuel e = some out

theorem Scans.nil : Scans repl [] [] := fun fuel h => by
  obtain ⟨f, rfl⟩ : ∃ f, fuel = f + 1 := ⟨fuel - 1, by omega⟩
  rfl

theorem Scans.lit {c : Char} {r out : Str} (h : Scans repl r out) (hc : c ≠ '$' ∨ r.head? ≠ some '{') :
    Scans repl (c :: r) (c :: out) := fun fuel hf => by
  obtain ⟨f, rfl⟩ : ∃ f, fuel = f + 1 := ⟨fuel - 1, by omega⟩
  rw [substRefs, if_neg (fun h' => hc.elim (· h'.1) (· h'.2)), h f (by simpa using hf)]
  rfl

theorem Scans.ref {b rest v out : Str} (hb : ∀ c ∈ b, c ≠ '}' ∧ c ≠ '\n')
    (hv : repl ('$' :: '{' :: (b ++ '}' :: rest)) rest (splitLs b).1 (splitLs b).2 = some v) (h : Scans repl rest out) :
    Scans repl ('$' :: '{' :: (b ++ '}' :: rest)) (v ++ out) := fun fuel hf => by
  obtain ⟨f, rfl⟩ : ∃ f, fuel = f + 1 := ⟨fuel - 1, by omega⟩
  rw [substRefs_open, matchRef_body b rest hb]
  simp only [hv, h f (by simp at hf ⊢; omega)]

theorem Scans.plain {X out : Str} (h : Scans repl X out) (p : Str) (hp : '$' ∉ p) :
    Scans repl (p ++ X) (p ++ out) := by
  induction p with
  | nil => exact h
  | cons c p ih =>
    exact (ih fun m => hp (List.mem_cons_of_mem _ m)).lit (.inl fun e => hp (e ▸ List.mem_cons_self ..))

theorem Scans.verbatim {s : Str} (h : '$' ∉ s) : Scans repl s s := by
  simpa using (Scans.nil (repl := repl)).plain s h

/-! ## the loops of `Pyxv.Chan` are this one -/

theorem subRefs_eq (refs : List (Str × Str)) (fuel : Nat) (s : Str) :
    Chan.subRefs refs fuel s = substRefs (fun _ _ ls n => Chan.varRepl refs ls n) fuel s := by
  fun_induction Chan.subRefs refs fuel s <;> simp_all [substRefs_zero, substRefs_nil, substRefs_open, substRefs_lit]

theorem subOutputs_eq (refs : List (Str × Str)) (fuel : Nat) (s : Str) :
    Chan.subOutputs refs fuel s =
      substRefs (fun _ _ ls n => (Chan.varRepl refs ls n).map Chan.outputMarkup) fuel s := by
  fun_induction Chan.subOutputs refs fuel s <;> simp_all [substRefs_zero, substRefs_nil, substRefs_open, substRefs_lit]

end Pyxv.Scan
