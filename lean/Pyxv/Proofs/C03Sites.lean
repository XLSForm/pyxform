import Pyxv.Model.RefsSites
import Pyxv.Proofs.C03Flags
/-!
# C03: the call sites of `insert_xpaths`, tied to the source

`Pyxv.Gen.insertXpathsSites` / `varReplSites` / `insertOutputValuesSites` are regenerated from the Python AST of the
package on every run.  The facts below are checked by evaluation on them: a call site that is added, removed, moved to
another function, or passes another context / `use_current` / `reference_parent` breaks one of them, so the flags the
check hands to the model (`cellFlags`, through the driver op `refs.cellflags`) cannot silently drift from the code.
The last two theorems compose `cellFlags` with the for-all-inputs theorems of `C03Flags` / `C03`.
-/
namespace Pyxv.Refs
open Pyxv

/-- every call site of `insert_xpaths` in the package, without the name of the text argument -/
theorem insert_xpaths_sites_pinned :
    Pyxv.Gen.insertXpathsSites.map siteKey =
      [("entities/entity_declaration.py", "EntityDeclaration._get_id_bind_node", "self", "False", "False"),
       ("entities/entity_declaration.py", "EntityDeclaration._get_bind_node", "self", "False", "False"),
       ("question.py", "Question.xml_instance", "self", "False", "False"),
       ("question.py", "Question.nest_set_nodes", "survey", "False", "False"),
       ("question.py", "Question.nest_set_nodes", "target if target is not None else self", "False", "False"),
       ("question.py", "Question._build_xml", "self", "False", "False"),
       ("question.py", "InputQuestion.build_xml", "self", "True", "False"),
       ("question.py", "MultipleChoiceQuestion.build_xml", "self", "True", "is_previous_question"),
       ("question.py", "MultipleChoiceQuestion.build_xml", "self", "False", "True"),
       ("question.py", "MultipleChoiceQuestion.build_xml", "self", "False", "False"),
       ("section.py", "Section.xml_instance", "self", "False", "False"),
       ("section.py", "RepeatingSection.xml_control", "self", "False", "False"),
       ("section.py", "GroupedSection.xml_control", "self", "False", "False"),
       ("survey.py", "Survey.xml", "self", "False", "False"),
       ("survey_element.py", "SurveyElement.get_setvalue_node_for_dynamic_default", "self", "False", "False"),
       ("survey_element.py", "SurveyElement.xml_bindings", "self", "False", "False")] := rfl

/-- is the cell kind tied: it has a call site, each of its call sites is in the regenerated table and passes what
`cellFlags` says -/
def cellTied (cell : String) : Bool :=
  !(cellSites cell).isEmpty &&
  (cellSites cell).all fun k => (Pyxv.Gen.insertXpathsSites.map siteKey).contains k && siteAgrees k (cellFlags cell)

/-- every cell kind that reaches `insert_xpaths` goes through call sites of the current source that pass the context
and the flags the model uses for it -/
theorem cell_flags_tied : ∀ cell ∈ siteCells, cellTied cell = true := by decide +kernel

/-- every call site of the current source is the site of a cell kind of the check or one of the listed outside ones -/
theorem sites_accounted :
    ∀ k ∈ Pyxv.Gen.insertXpathsSites.map siteKey, (siteCells.any fun c => (cellSites c).contains k) || outsideSites.contains k := by
  decide +kernel

/-- `use_current` is passed as `True` by the choice-filter sites and by no other; `reference_parent` is something else
than `False` only at the select's choice filter (the variable `is_previous_question`) and at the select-from-repeat
itemset -/
theorem use_current_only_choice_filter :
    ∀ k ∈ Pyxv.Gen.insertXpathsSites.map siteKey,
      (k.2.2.2.1 = "True" ↔ k ∈ cellSites "choice_filter") ∧
      (k.2.2.2.1 = "True" ∨ k.2.2.2.1 = "False") ∧
      (k.2.2.2.2 = "False" ∨ k = ("question.py", "MultipleChoiceQuestion.build_xml", "self", "True", "is_previous_question") ∨
                              k = ("question.py", "MultipleChoiceQuestion.build_xml", "self", "False", "True")) := by
  rw [insert_xpaths_sites_pinned]
  decide +kernel

/-- a call that leaves a flag out passes the signature's default `False`; the inner closure of `insert_xpaths` hands its
own parameters on unchanged; the label side (`replace_with_output`, `_var_repl_output_function`) passes the context and
leaves both flags at their defaults -/
theorem var_repl_sites_pinned :
    Pyxv.Gen.varReplSites =
      [("parsing/instance_expression.py", "replace_with_output", ["m", "context", "False", "False"]),
       ("survey.py", "Survey.insert_xpaths._var_repl_function", ["matchobj", "context", "use_current", "reference_parent"]),
       ("survey.py", "Survey._var_repl_output_function", ["matchobj", "context", "False", "False"])] := rfl

/-- the contexts of the label-type cells: the element itself for label and hint, the translation's recorded
`output_context` for itext, the choice for an inline choice label, none for the context-free fallback -/
theorem insert_output_values_sites_pinned :
    Pyxv.Gen.insertOutputValuesSites.map (fun s => (s.1, s.2.1, s.2.2.getD 1 "?")) =
      [("question.py", "MultipleChoiceQuestion.build_xml", "option"),
       ("survey.py", "Survey.itext", "media_value['output_context']"),
       ("survey.py", "Survey.itext", "None"),
       ("survey_element.py", "SurveyElement.xml_label", "self"),
       ("survey_element.py", "SurveyElement.xml_hint", "self")] := rfl

/-- the label-type cells use the flags of the label side -/
theorem text_cells_flags : ∀ cell ∈ textCells, cellFlags cell = ⟨.owner, false, false⟩ := by decide +kernel

/-- `relative_when_enclosed_text` with the flags of a cell kind resolved from its own element (all but `trigger`): the
replacement is relative, anchored with `current()` exactly when the cell is a choice filter or the occurrence sits in an
instance predicate. -/
theorem cell_relative_when_enclosed (cell : String) (hcell : cell ≠ "trigger")
    (tree : El) (hwf : tree.WF) (hroot : tree.kind ≠ .rep)
    (c t : Chain) (hc : c ∈ tree.chains []) (name : Str)
    (hlook : (tree.chains []).filter (named name) = [t])
    (r : Nat) (hrt : r < t.length) (hrc : r < c.length)
    (hrep : Chain.isRep (t.take r) = true)
    (hinner : ∀ j, r < j → j < t.length → Chain.isRep (t.take j) = false)
    (henc : c.take r = t.take r)
    (whole atStart rest : Str) (hir : isInfix indexedTag whole = false) :
    ∃ k d, replAt (tree.chains []) (match (cellFlags cell).ctx with | .owner => some c | .survey => none)
        (cellFlags cell).useCurrent (cellFlags cell).referenceParent whole atStart rest false name =
      some (.ok (decide (cell = "choice_filter") ||
                 inPredicateAt whole (whole.length - atStart.length) (whole.length - rest.length)) (.rel k d)) := by
  have hcf : cellFlags cell = ⟨.owner, decide (cell = "choice_filter"), false⟩ := by
    by_cases h1 : cell = "choice_filter" <;> simp [cellFlags, h1, hcell]
  rw [hcf]
  exact relative_when_enclosed_text tree hwf hroot c t hc name hlook r hrt hrc hrep hinner henc _ _ whole atStart rest hir

/-- The target of a trigger is resolved from the survey: whatever the tree, if the model answers at all the answer
is the absolute path of the unique element of that name, never anchored ("trigger targets are absolute by design"). -/
theorem trigger_ref_absolute (els : List Chain) (owner : Chain) (name : Str) (fl : Flags) (hls : fl.lastSaved = false)
    (cur : Bool) (e : Emitted)
    (h : refFor els (match (cellFlags "trigger").ctx with | .owner => some owner | .survey => none) name fl = .ok cur e) :
    ∃ t, els.filter (named name) = [t] ∧ cur = false ∧ e = .abs t.path := by
  have hctx : (cellFlags "trigger").ctx = .survey := by decide +kernel
  rw [hctx] at h
  obtain ⟨t, h1, h2, h3⟩ := ref_no_context_absolute els name fl cur e h
  exact ⟨t, h1, h2, by simpa [hls] using h3⟩

example : cellTied "choice_filter" = true ∧ cellTied "trigger" = true ∧ cellTied "label" = false := by decide +kernel
-- a site that passed `use_current=True` for a bind would not agree
example : siteAgrees ("survey_element.py", "SurveyElement.xml_bindings", "self", "True", "False") (cellFlags "relevant") = false := by
  decide +kernel
example : siteAgrees ("question.py", "MultipleChoiceQuestion.build_xml", "self", "False", "is_previous_question")
    (cellFlags "choice_filter") = false := by decide +kernel
example : siteKey ("a.py", "C.f", ["text", "self", "True", "False"]) = ("a.py", "C.f", "self", "True", "False") := by decide +kernel
example : (cellFlags "choice_filter").useCurrent = true ∧ (cellFlags "seed").useCurrent = false := by decide +kernel
set_option maxRecDepth 8000 in
example : insertXpathsCell exEls exC "choice_filter" "name = ${t}".toList = some "name =  current()/../../../abcde_r2/t ".toList ∧
    insertXpathsCell exEls exC "relevant" "${t} = 1".toList = some " ../../../abcde_r2/t  = 1".toList ∧
    insertXpathsCell exEls exC "trigger" "${t}".toList = some " /data/R/abcde_r2/t ".toList := by
  simp only [toList_lit rfl]
  decide +kernel

end Pyxv.Refs
