import Pyxv.Proofs.C20
import Pyxv.Proofs.C10
import Pyxv.Proofs.Literals
import Pyxv.Model.WarningsExt
/-!
# C20 on the extended fragment: single-colon headers, the `jr:` rewrite and `default` on begin rows

`Pyxv.Warn.view2` / `workbookToJson2` (Model/WarningsExt) process every header shape `process_header` accepts and
reduce begin rows with a `default` cell; the row loop and all checks are `convertOn` itself, so the capstones of
`Pyxv.C20` hold for the larger fragment.  The rest relates the complete header model to the restricted one and to the
code's IndexError, and the reduced begin row to the code's label check.
-/
namespace Pyxv.C20
open Pyxv Pyxv.Warn Pyxv.Warn.Spec
open scoped List

/-- For every workbook the extended model converts (single-colon delimiters, `jr:` prefixes, `default` on begin rows
    included) the warnings emitted are a permutation of those due, under the `trShort` guard. -/
theorem workbook2_meets_spec_perm (lower : Str → Str) (wb : WB) (res : Res) (ws : List W)
    (h : workbookToJson2 lower wb [] = .ok (res, ws)) :
    ∃ v, view2 wb = .ok v ∧ workbookDue2 lev lower wb = .ok (dueOn lev lower wb v) ∧
      (trShort surveyTrTable v.svHeaders = true → trShort choicesTrTable v.chHeaders = true →
        ws ~ dueOn lev lower wb v) := by
  obtain ⟨v, hv, hp⟩ := via_view_perm lower wb (view2 wb) res ws h
  exact ⟨v, hv, by simp [workbookDue2, hv], hp⟩

/-- The list passed in is only appended to; the result does not depend on it. -/
theorem warnings2_advisory (lower : Str → Str) (wb : WB) (w0 : List W) :
    workbookToJson2 lower wb w0 = (workbookToJson2 lower wb []).map (fun p => (p.1, w0 ++ p.2)) := by
  unfold workbookToJson2
  cases view2 wb with
  | error e => rfl
  | ok v => exact warnings_advisory lower wb v w0

/-! `dynDefault` answers `none` only when the lexer's rule table is not the modelled one;
`C10.classification_is_pinned` excludes that, so the reduction of begin rows never fails. -/

theorem dynDefault_eq (r : PRow) : dynDefault r = some (match val1 r "default" with
    | none => false
    | some v => !v.isEmpty && Lexer.dynamicPinned v ((rowType r).getD [])) := by
  unfold dynDefault
  cases val1 r "default" with
  | none => rfl
  | some v =>
    dsimp only
    rw [C10.classification_is_pinned]
    cases v <;> rfl

theorem deDefault_total (r : PRow) : ∃ r', deDefault r = some r' := by
  unfold deDefault
  rw [dynDefault_eq]
  split
  · cases (match val1 r "default" with
      | none => false
      | some v => !v.isEmpty && Lexer.dynamicPinned v ((rowType r).getD [])) <;> exact ⟨_, rfl⟩
  · exact ⟨_, rfl⟩

theorem deDefaultRows_eq (rs : List PRow) : deDefaultRows rs = .ok (rs.map fun r => (deDefault r).getD r) := by
  induction rs with
  | nil => rfl
  | cons r rs ih =>
    obtain ⟨r', hr⟩ := deDefault_total r
    simp only [deDefaultRows, ih, hr, List.map_cons, Option.getD_some]

/-- a workbook with single-colon headers, a `jr:` column and a begin row with a dynamic default -/
def exColon : WB :=
  { sheetNames := ["survey".toList]
    surveyHeader := ["type".toList, "name".toList, "label:English (en)".toList, "hint : French (fr)".toList,
                     "bind:jr:constraintMsg".toList, "default".toList]
    survey := [[("type".toList, "begin group".toList), ("name".toList, "g".toList), ("default".toList, "1".toList)],
               [("type".toList, "text".toList), ("name".toList, "q".toList), ("label:English (en)".toList, "Q".toList)],
               [("type".toList, "end group".toList)]]
    choicesHeader := [], choices := [], settingsHeader := [], settingsRows := 0, hasEntities := false }

/-- non-vacuity: `workbookToJson` declines this workbook, `workbookToJson2` converts it and reports the missing
    translations of both columns and the unlabeled group -/
example : (match workbookToJson lowerAscii exColon [] with | .error (.unsupported _) => true | _ => false) = true := by
  rw [workbookToJson, view]
  simp only [exColon, surveyAliases, surveyCols, listAliases, choicesCols, gAliases, gList,
    Pyxv.Gen.aliasSurveyHeader, Pyxv.Gen.surveyHeaderColumns, Pyxv.Gen.aliasListHeader, Pyxv.Gen.choicesHeaderColumns,
    List.map_cons, List.map_nil, toList_lit rfl]
  decide +kernel
example : (workbookToJson2 lowerAscii exColon []).toOption.map (fun p => (p.2.length, p.2.contains (W.noLabel 2 "group".toList),
      p.2.contains (W.missingTr "survey".toList "French (fr)".toList "constraint_message".toList))) = some (7, true, true) := by
  -- `rw`, not `unfold`: the kernel would check `unfold`'s step by evaluating both sides
  rw [workbookToJson2, view2]
  simp only [deDefaultRows_eq, deDefault, dynDefault_eq, exColon, surveyAliases, surveyCols, listAliases, choicesCols, gAliases, gList,
    Pyxv.Gen.aliasSurveyHeader, Pyxv.Gen.surveyHeaderColumns, Pyxv.Gen.aliasListHeader, Pyxv.Gen.choicesHeaderColumns,
    List.map_cons, List.map_nil, toList_lit rfl]
  decide +kernel

/-- The `jr` rewrite raises (IndexError) exactly when the first `jr` token is the last
    token. -/
theorem jrMerge_none_iff (ts : List Str) :
    jrMerge ts = none ↔ ∃ pre, ts = pre ++ [jrTok] ∧ jrTok ∉ pre := by
  induction ts with
  | nil => simp [jrMerge]
  | cons t rest ih =>
    unfold jrMerge
    by_cases ht : t = jrTok
    · subst ht
      cases rest with
      | nil => simp
      | cons n rest' =>
        simp only [if_true, reduceCtorEq, false_iff]
        rintro ⟨pre, he, hn⟩
        cases pre with
        | nil => simp at he
        | cons p pre' =>
          simp only [List.cons_append, List.cons.injEq] at he
          exact hn (by simp [he.1])
    · simp only [ht, if_false, Option.map_eq_none_iff, ih]
      constructor
      · rintro ⟨pre, he, hn⟩
        exact ⟨t :: pre, by simp [he], by simp [hn, Ne.symm ht]⟩
      · rintro ⟨pre, he, hn⟩
        cases pre with
        | nil => simp at he; exact absurd he.1 ht
        | cons p pre' =>
          simp only [List.cons_append, List.cons.injEq] at he
          exact ⟨pre', he.2, fun m => hn (List.mem_cons_of_mem _ m)⟩

example : jrMerge ["bind".toList, jrTok, "constraintMsg".toList, "fr".toList] =
    some ["bind".toList, "jr:constraintMsg".toList, "fr".toList] := by decide
example : jrMerge ["label".toList, jrTok] = none := by decide
example : jrMerge [jrTok, jrTok, "x".toList] = some ["jr:jr".toList, "x".toList] := by decide

/-- `process_header` raises exactly for a header that is not a column name as it
    stands or in snake case, is processed with the single-colon delimiter, and whose first `jr` token is its last. -/
theorem processHeader2_raises_iff (useDC : Bool) (al : Aliases) (cols : List Str) (h : Str) :
    processHeader2 useDC al cols h = .raises ↔
      lowerSafe h = true ∧ (cols.contains h && (lookup h al).isNone) = false ∧
      (cols.contains (toSnake h) && (lookup (toSnake h) al).isNone) = false ∧
      (useDC || isInfix "::".toList h) = false ∧ jrMerge ((splitC [] h).map strip) = none := by
  unfold processHeader2 headerTokens
  dsimp only
  cases hl : lowerSafe h
  · simp
  cases h1 : (cols.contains h && (lookup h al).isNone)
  case true => simp
  cases h2 : (cols.contains (toSnake h) && (lookup (toSnake h) al).isNone)
  case true => simp
  cases h3 : (useDC || isInfix "::".toList h)
  · simp only [Bool.not_true, Bool.false_eq_true, if_false, true_and]
    cases hj : jrMerge ((splitC [] h).map strip) with
    | none => simp
    | some ts =>
      cases ts with
      | nil => simp
      | cons t0 rest =>
        simp only [reduceCtorEq, iff_false]
        exact processHeader2_tail_ne_raises al cols t0 rest
  · simp only [Bool.not_true, Bool.false_eq_true, if_false, if_true, true_and]
    cases hs : (splitDC [] h).map strip with
    | nil => simp
    | cons t0 rest => exact ⟨fun hh => absurd hh (processHeader2_tail_ne_raises al cols t0 rest), fun hh => by simp at hh⟩

example : processHeader2 false surveyAliases surveyCols "label:jr".toList = .raises := by
  simp only [surveyAliases, surveyCols, gAliases, gList, Pyxv.Gen.aliasSurveyHeader, Pyxv.Gen.surveyHeaderColumns,
    List.map_cons, List.map_nil, toList_lit rfl]
  decide +kernel
example : processHeader2 false surveyAliases surveyCols "label:fr".toList = .ok ["label".toList, "fr".toList] := by
  simp only [surveyAliases, surveyCols, gAliases, gList, Pyxv.Gen.aliasSurveyHeader, Pyxv.Gen.surveyHeaderColumns,
    List.map_cons, List.map_nil, toList_lit rfl]
  decide +kernel

/-- Wherever the restricted header model `processHeader` answered, the complete one gives the
    same tokens (the one exception is the bare header `jr`, which `processHeader` wrongly accepts: the code raises). -/
theorem processHeader2_extends (useDC : Bool) (al : Aliases) (cols : List Str) (h : Str) (t : List Str)
    (hjr : strip h ≠ jrTok) (ho : processHeader useDC al cols h = some t) :
    processHeader2 useDC al cols h = .ok t := by
  unfold processHeader at ho
  unfold processHeader2
  dsimp only at ho ⊢
  -- the two guard chains in step: lower-casing safe, a column as it stands, a column in snake case, then the tokens
  split at ho
  · cases ho
  rw [if_neg ‹_›]
  split at ho
  · cases ho; rw [if_pos ‹_›]
  rw [if_neg ‹_›]
  split at ho
  · cases ho; rw [if_pos ‹_›]
  rw [if_neg ‹_›]
  split at ho
  · cases ho
  · cases ho
  · rename_i t0 rest hto
    rw [headerTokens_extends useDC h _ hjr hto]
    dsimp only
    split at ho <;> rename_i hlk
    · cases ho; rw [hlk]
    · split
      · exact absurd ‹_› (hlk _ _)
      · split at ho <;> cases ho
        · rw [if_pos ‹_›]
        · rw [if_neg ‹_›]
example : processHeader true surveyAliases surveyCols "label::fr".toList = some ["label".toList, "fr".toList] := by
  simp only [surveyAliases, surveyCols, gAliases, gList, Pyxv.Gen.aliasSurveyHeader, Pyxv.Gen.surveyHeaderColumns,
    List.map_cons, List.map_nil, toList_lit rfl]
  decide +kernel

/-- the reduced row's label check is the code's label check with its `default` clause: no label, no media, no
    calculation, default not dynamic, not a field-list group (xls2json.py 852-868). -/
theorem noLabelCond_deDefault (r : PRow) (ct : Str) (d : Bool)
    (hb : isBeginRow r = true) (hk : keyIn r "default" = true) (hd : dynDefault r = some d) :
    ∃ r', deDefault r = some r' ∧ noLabelCond r' ct = noLabelCond2 (dropDefault r) ct d := by
  unfold deDefault
  simp only [hb, hk, Bool.and_self, if_true, hd]
  cases d with
  | false => exact ⟨_, rfl, by cases hv : val2 (dropDefault r) "bind" "calculate" <;> simp [noLabelCond, noLabelCond2, hv]⟩
  | true =>
    refine ⟨_, rfl, ?_⟩
    have h1 : keyIn (calcMark :: dropDefault r) "label" = keyIn (dropDefault r) "label" := by
      simp [keyIn, calcMark]
    have h2 : keyIn (calcMark :: dropDefault r) "media" = keyIn (dropDefault r) "media" := by
      simp [keyIn, calcMark]
    have h3 : val2 (calcMark :: dropDefault r) "bind" "calculate" = some ['1'] := by
      simp [val2, calcMark, List.find?]
    simp [noLabelCond, noLabelCond2, h1, h2, h3]
theorem deDefault_other (r : PRow) (h : (isBeginRow r && keyIn r "default") = false) : deDefault r = some r := by
  simp [deDefault, h]

example : deDefault [(["type".toList], "begin group".toList), (["default".toList], "1 + 1".toList)] =
    some [calcMark, (["type".toList], "begin group".toList)] := by
  simp only [deDefault, dynDefault_eq]
  decide +kernel
example : deDefault [(["type".toList], "text".toList), (["default".toList], "1 + 1".toList)] =
    some [(["type".toList], "text".toList), (["default".toList], "1 + 1".toList)] := by decide +kernel

end Pyxv.C20
