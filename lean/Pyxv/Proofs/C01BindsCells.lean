import Pyxv.Proofs.C01Binds
import Pyxv.Proofs.ConvertHeads
/-!
# C01: the `]`-hypothesis of the `<bind>` / `<setvalue>` nodes reduced to the header cells

Keys of an element's bind dict = `bind` keys of its type-table section (regenerated table, `decide`) + the row's
`bind::X` header tokens (`rowBind`: `X` = header with the six characters `bind::` dropped) + literals of the generated
helpers (`_count`: `readonly`, `calculate`; `_other`: `relevant`; `instanceID`: `readonly`, `jr:preload`).  Hence the
only cells that can put a `]` into a `<bind>` node are **header cells `bind::X` with a `]` in `X`** (`bindHeadersNoBr`).
The invariant travels through `decorate` / `decorateAll` / `dparse` (begin/end stack) / `dWithMeta`.
-/
namespace Pyxv.ConvertP
open Pyxv Pyxv.Form Pyxv.Rows Pyxv.Xml Pyxv.Asm Pyxv.Convert Pyxv.C01

/-- no `bind` key (indeed no key at all) of the question-type table, regenerated on every run, contains `]` -/
theorem type_table_keys_noBr :
    Pyxv.Gen.questionTypes.all (fun p => p.2.all fun x => noBr x.2.1.toList) = true := by decide +kernel

theorem typeBind_keys {t : Str} {tt : List (Str × Str)} (h : Binds.typeBind t = some tt) : keysNoBr tt = true := by
  unfold Binds.typeBind at h
  split at h
  · cases h
  · rename_i e he
    split at h
    · cases h
      unfold Rows.typeEntry at he
      cases hf : Pyxv.Gen.questionTypes.find? (fun p => p.1.toList = t) with
      | none => rw [hf] at he; cases he
      | some p =>
        rw [hf] at he
        simp only [Option.map_some, Option.some.injEq] at he
        subst he
        have hm := List.mem_of_find?_eq_some hf
        have hall := (List.all_eq_true.mp type_table_keys_noBr) p hm
        unfold keysNoBr
        rw [List.all_eq_true]
        intro kv hkv
        obtain ⟨x, hx, rfl⟩ := List.mem_map.mp hkv
        exact (List.all_eq_true.mp hall) x (List.mem_filter.mp hx).1
    · cases h

/-- no `bind::X` header of the row has a `]` in `X` — the only header cells that reach a `<bind>` attribute name -/
def bindHeadersNoBr (r : Cells) : Bool := r.all fun kv => !startsWith kv.1 (l!"bind::") || noBr (kv.1.drop 6)

theorem rowBind_keys (r : Cells) (h : bindHeadersNoBr r = true) : keysNoBr ((rowBind r).getD []) = true := by
  unfold rowBind
  simp only []
  split
  · rfl
  · rw [Option.getD_some, keysNoBr, List.all_filterMap]
    refine all_imp (fun kv hkv => ?_) h
    cases hs : startsWith kv.1 (l!"bind::")
    · rfl
    · rw [hs] at hkv; exact hkv

theorem qOK_of (q : Binds.Q) (htt : ∀ tt, q.tt = some tt → keysNoBr tt = true)
    (hb : keysNoBr (q.bind.getD []) = true) : qOK q = true := by
  unfold qOK Binds.rawBind
  split
  · rename_i tt h
    refine keysNoBr_dictUpdate _ _ ?_ hb
    have := htt tt h
    unfold keysNoBr at this ⊢
    rw [List.all_map]
    exact this
  · exact hb

theorem qOK_rowQ (name : Str) (r : Cells) (h : bindHeadersNoBr r = true) : qOK (rowQ name r) = true := by
  refine qOK_of _ ?_ (rowBind_keys r h)
  intro tt htt
  simp only [rowQ] at htt
  split at htt
  · cases htt
  · split at htt
    · exact typeBind_keys htt
    · split at htt
      · cases htt
      · exact typeBind_keys htt

theorem qOK_default : qOK { name := [], tt := none, bind := none } = true := by decide

theorem qOK_mk (name t : Str) (bind : Option Binds.BindDict) (hb : keysNoBr (bind.getD []) = true) :
    qOK { name := name, tt := Binds.typeBind t, bind := bind } = true :=
  qOK_of _ (fun _ h => typeBind_keys h) hb

theorem qOK_helperOf (k : RowK) (r : Cells) : qOK (helperOf k r).2 = true := by
  unfold helperOf
  split
  · exact qOK_mk _ _ _ (by simp only [Option.getD_some, keysNoBr, List.all_cons, List.all_nil]; decide)
  · exact qOK_mk _ _ _ (by simp only [Option.getD_some, keysNoBr, List.all_cons, List.all_nil]; decide)
  · exact qOK_default

theorem qOK_metaBq (root : Str) (d : QData) : qOK (metaBq root d) = true := by
  unfold metaBq
  split
  · unfold Binds.instanceID
    exact qOK_mk _ _ _ (by simp only [Option.getD_some, keysNoBr, List.all_cons, List.all_nil]; decide)
  · exact qOK_mk _ _ _ rfl

/-- own and helper bind source of a row's decoration -/
def payOK (p : Pay) : Bool := qOK p.bq && qOK p.hbq

theorem payOK_decorate (lists : List Str) (n : Nat) (r : Cells) (k : RowK) (p : Pay)
    (hr : bindHeadersNoBr r = true) (h : decorate lists n r = .ok (k, p)) : payOK p = true := by
  obtain ⟨-, -, ⟨e, -, rfl⟩ | ⟨cs, -, rfl⟩⟩ := decorate_inv h
  · decide   -- a `bad` row carries the empty `Pay`
  · simp only [payOK, Bool.and_eq_true]
    exact ⟨qOK_rowQ _ r hr, qOK_helperOf _ r⟩

theorem payOK_decorateAll (lists : List Str) (n : Nat) (rows : List Cells) (ds : List ((Nat × RowK) × Pay))
    (hr : ∀ r ∈ rows, bindHeadersNoBr r = true) (h : decorateAll lists n rows = .ok ds) : ∀ d ∈ ds, payOK d.2 = true := by
  intro d hd
  obtain ⟨r, hrm, hdec⟩ := decorateAll_mem h hd
  exact payOK_decorate lists _ r _ _ (hr r hrm) hdec

/-! ## the begin/end stack keeps the decorations -/

theorem diAllL_dparse (ks : List ((Nat × RowK) × Pay)) (items : List DItem)
    (hk : ∀ k ∈ ks, payOK k.2 = true) (h : dparse ks = .ok items) : diAllL bqOK items = true := by
  rw [diAllL_eq_heads, dheads_dparse h, List.all_flatMap, List.all_eq_true]
  intro r hr
  -- the row's own node carries its decoration, the generated one `helperPay` of it
  have hp : bqOK r.2 = true ∧ bqOK (helperPay r.2) = true := by
    simpa [payOK, bqOK, helperPay, Bool.and_eq_true] using hk r hr
  cases r.1.2 with
  | skip | end_ | bad => rfl
  | q d other => cases other <;> simp [drowHeads, optHeads, hp.1, hp.2]
  | begin_ ct n b helper => cases helper <;> simp [drowHeads, optHeads, hp.1, hp.2]

theorem diAllL_metaKids (root : Str) (mk : List QData) :
    diAllL bqOK (mk.map fun d => DItem.q d { bq := metaBq root d }) = true := by
  rw [eq_all_of_eqns (gL := diAllL bqOK) rfl (fun _ _ => rfl), List.all_map, List.all_eq_true]
  exact fun d _ => qOK_metaBq root d

theorem diAllL_dWithMeta (root : Str) (rows : List Cells) (items : List DItem) (h : diAllL bqOK items = true) :
    diAllL bqOK (dWithMeta root rows items) = true := by
  unfold dWithMeta
  simp only []
  split
  · exact h
  · rw [diAllL_append, h]
    simp only [diAllL, diAll, Bool.and_true, Bool.true_and, Bool.and_eq_true]
    exact ⟨qOK_default, diAllL_metaKids root _⟩

/-- **every `<bind>` / `<setvalue>` node of the model is `]`-free when no `bind::X` header of a row has `]` in `X`** -/
theorem bind_nodes_noBr_of_cells (lists : List Str) (root : Str) (rows : List Cells)
    (drows : List ((Nat × RowK) × Pay)) (ditems : List DItem) (els : List Refs.Chain) (pc : Refs.Chain)
    (hc : ∀ r ∈ rows, bindHeadersNoBr r = true) (hdec : decorateAll lists 2 rows = .ok drows)
    (hpar : dparse drows = .ok ditems) : noBrKids (bindNodesL els pc (dWithMeta root rows ditems)) = true :=
  noBrKids_bindNodesL els pc _
    (diAllL_dWithMeta root rows ditems (diAllL_dparse drows ditems (payOK_decorateAll lists 2 rows drows hc hdec) hpar))

/-- **C01 for the whole conversion; element tree and bind nodes stated on cells.**  As `convert_c01_cells`, with the
    bind part of the model-children hypothesis replaced by "no `bind::X` header has `]` in `X`"; what remains at node
    level: header names, the secondary (choice) instances, the body. -/
theorem convert_c01_bind_cells (wb : Workbook) (p : Bool) (text : Str) (h : convert wb p = .ok text)
    (hs : ∀ doc f lists rows drows o ditems, Trace wb doc f lists rows drows o ditems →
      HeaderNoBr f ∧ (∀ r ∈ rows, ∀ x, Rows.get r "name" = some x → TypoFree x) ∧
      (∀ r ∈ rows, bindHeadersNoBr r = true) ∧
      noBrKids ((Choices.staticInsts [] (othersApplied (activeRows rows) lists)).map Choices.instNode) = true ∧
      noBrKids (bodyNodesL (elsOf f.name (dWithMeta f.name rows ditems)) [f.name] ditems) = true) :
    holds text (normAttrVal (formId wb)) = true := by
  refine convert_c01_cells wb p text h ?_
  intro doc f lists rows drows o ditems T
  obtain ⟨h1, h2, h3, h4, h5⟩ := hs doc f lists rows drows o ditems T
  refine ⟨h1, h2, ?_, h5⟩
  rw [noBrKids_append, h4, Bool.true_and]
  exact bind_nodes_noBr_of_cells _ f.name rows drows ditems _ _ h3 T.hdec T.hpar

/-! ## inside the end-to-end fragment the condition holds by construction

`Convert.rowOutside` admits only the columns of `fragmentKeys` (seven `bind::` columns, all literal); every other
`bind::X` header makes `convert` answer `unsupported`.  So for a conversion the model answers, the bind part of the
hypothesis disappears. -/

theorem fragmentKeys_bind_noBr :
    fragmentKeys.all (fun k => !startsWith k (l!"bind::") || noBr (k.drop 6)) = true := by decide +kernel

theorem bindHeadersNoBr_of_inside (r : Cells) (h : rowOutside r = none) : bindHeadersNoBr r = true := by
  have hc : (r.all fun kv => fragmentKeys.contains kv.1) = true := by simpa using (ite_eq_right h nofun).1
  refine all_imp (fun kv hkv => ?_) hc
  exact List.all_eq_true.mp fragmentKeys_bind_noBr kv.1 (by simpa using hkv)

theorem bindHeadersNoBr_of_decorateAll (lists : List Str) (n : Nat) (rows : List Cells) (ds : List ((Nat × RowK) × Pay))
    (h : decorateAll lists n rows = .ok ds) : ∀ r ∈ rows, bindHeadersNoBr r = true := by
  intro r hr
  obtain ⟨m, ⟨k, p⟩, hd⟩ := decorateAll_dom h hr
  exact bindHeadersNoBr_of_inside _ (decorate_inv hd).1

/-- the `<bind>` / `<setvalue>` nodes of every conversion the model answers contain no `]` — no hypothesis -/
theorem convert_bind_nodes_noBr {wb : Workbook} {doc : Node} {f : Fields} {lists rows drows o ditems}
    (T : Trace wb doc f lists rows drows o ditems) :
    noBrKids (bindNodesL (elsOf f.name (dWithMeta f.name rows ditems)) [(f.name, .group)]
      (dWithMeta f.name rows ditems)) = true :=
  bind_nodes_noBr_of_cells _ f.name rows drows ditems _ _ (bindHeadersNoBr_of_decorateAll _ 2 rows drows T.hdec) T.hdec T.hpar

/-- **C01 for the whole conversion, bind hypothesis discharged.**  As `convert_c01_cells` without any hypothesis on the
    `<bind>` / `<setvalue>` nodes; what remains at node level: header names, the secondary (choice) instances, the body. -/
theorem convert_c01_binds (wb : Workbook) (p : Bool) (text : Str) (h : convert wb p = .ok text)
    (hs : ∀ doc f lists rows drows o ditems, Trace wb doc f lists rows drows o ditems →
      HeaderNoBr f ∧ (∀ r ∈ rows, ∀ x, Rows.get r "name" = some x → TypoFree x) ∧
      noBrKids ((Choices.staticInsts [] (othersApplied (activeRows rows) lists)).map Choices.instNode) = true ∧
      noBrKids (bodyNodesL (elsOf f.name (dWithMeta f.name rows ditems)) [f.name] ditems) = true) :
    holds text (normAttrVal (formId wb)) = true := by
  refine convert_c01_bind_cells wb p text h ?_
  intro doc f lists rows drows o ditems T
  obtain ⟨h1, h2, h4, h5⟩ := hs doc f lists rows drows o ditems T
  exact ⟨h1, h2, bindHeadersNoBr_of_decorateAll _ 2 rows drows T.hdec, h4, h5⟩

#print axioms fragmentKeys_bind_noBr
#print axioms convert_bind_nodes_noBr
#print axioms convert_c01_binds
#print axioms type_table_keys_noBr
#print axioms bind_nodes_noBr_of_cells
#print axioms convert_c01_bind_cells

/-- a repeat with a `_count` helper, a question with two `bind::` columns (one prefixed), the meta block -/
def exBindRows : List Cells :=
  [ [("type".toList, "begin repeat".toList), ("name".toList, "kids".toList), ("control::jr:count".toList, "3".toList)],
    [("type".toList, "integer".toList), ("name".toList, "age".toList), ("label".toList, "Age".toList),
     ("bind::required".toList, "yes".toList), ("bind::jr:requiredMsg".toList, "needed".toList)],
    [("type".toList, "end repeat".toList)] ]

/-- the same sheet with a `]` in a `bind::` header token -/
def exBadRows : List Cells :=
  [ [("type".toList, "integer".toList), ("name".toList, "age".toList), ("label".toList, "Age".toList),
     ("bind::a]b".toList, "1".toList)] ]

def bindsOf (rows : List Cells) : List Node :=
  match decorateAll [] 2 rows with
  | .ok drows =>
    (match dparse drows with
     | .ok ditems =>
       bindNodesL (elsOf "data".toList (dWithMeta "data".toList rows ditems)) [("data".toList, .group)]
         (dWithMeta "data".toList rows ditems)
     | .error _ => [])
  | .error _ => []

def attrNames : Node → List Str
  | .elem _ a _ => a.map (·.1)
  | _ => []

theorem ex_bind_names : (bindsOf exBindRows).map attrNames =
    [["nodeset", "type", "readonly", "calculate"], ["nodeset", "type", "required", "jr:requiredMsg"],
     ["nodeset", "type", "readonly", "jr:preload"]].map (·.map String.toList) := by
  simp only [exBindRows, List.map]
  repeat rw [String.toList_ofList]
  decide +kernel

example : (∀ r ∈ exBindRows, bindHeadersNoBr r = true) ∧ (bindsOf exBindRows).length = 3 ∧
    noBrKids (bindsOf exBindRows) = true := by
  have hc : ∀ r ∈ exBindRows, bindHeadersNoBr r = true := by
    simp only [exBindRows]
    repeat rw [String.toList_ofList]
    decide +kernel
  have h3 := congrArg List.length ex_bind_names
  rw [List.length_map, List.length_map] at h3
  refine ⟨hc, h3, ?_⟩
  unfold bindsOf
  cases hd : decorateAll [] 2 exBindRows with
  | error e => exact noBrKids_nil
  | ok drows =>
    simp only []
    cases hp : dparse drows with
    | error e => exact noBrKids_nil
    | ok ditems => exact bind_nodes_noBr_of_cells [] _ _ drows ditems _ _ hc hd hp

/-- the hypothesis of the general lemma is needed: a `bind::a]b` header reaches the `<bind>` node as attribute name
    `a]b` (such a column is outside `Convert`'s fragment, so this is shown on `bindNode` itself) -/
example : bindHeadersNoBr (exBadRows.headD []) = false ∧ qOK (rowQ "age".toList (exBadRows.headD [])) = false ∧
    attrNames (bindNode [] [("data".toList, .group), ("age".toList, .q)] (rowQ "age".toList (exBadRows.headD []))) =
      ["nodeset", "type", "a]b"].map String.toList ∧
    noBrTree (bindNode [] [("data".toList, .group), ("age".toList, .q)] (rowQ "age".toList (exBadRows.headD []))) = false := by
  simp only [exBadRows, List.map]
  repeat rw [String.toList_ofList]
  decide +kernel

example : qOK (rowQ "age".toList (exBindRows.getD 1 [])) = true := qOK_rowQ _ _ (by decide +kernel)

/-- `convert_bind_nodes_noBr` on the worked example of `Proofs/Convert` (five binds, one with a `bind::relevant` column) -/
example : ∃ doc f lists rows drows o ditems, Trace exWb doc f lists rows drows o ditems ∧
    noBrKids (bindNodesL (elsOf f.name (dWithMeta f.name rows ditems)) [(f.name, .group)]
      (dWithMeta f.name rows ditems)) = true := by
  obtain ⟨doc, hd, -⟩ := convert_ok exWb false exText ex_convert
  obtain ⟨f, lists, rows, drows, o, ditems, T⟩ := convertDoc_trace exWb doc hd
  exact ⟨doc, f, lists, rows, drows, o, ditems, T, convert_bind_nodes_noBr T⟩

end Pyxv.ConvertP
