import Pyxv.Proofs.C05
import Pyxv.Model.BindsRefs
/-!
# C05 ∘ C03 — bind attribute values with references to questions anywhere in the form

`Pyxv.Binds.formBindsR` is `formBinds` with the reference substitution replaced by C03's model of
`Survey.insert_xpaths` (`Pyxv.Refs.insertXpathsText`), called from the row's own node.
-/
namespace Pyxv.C05
open Pyxv Pyxv.Binds

theorem lookup_attrsOfG (sub : Str → Option Str) (path : Str) (trig : Bool) :
    ∀ (b : BindDict) (attrs : List (Str × Str)), attrsOfG sub path trig b = some attrs → ∀ k,
      lookup k attrs =
        if dropped trig k then none else (lookup k b).bind (fun v => (convVal path k v).bind sub) :=
  fun b _ h => attrStep_lookup (attrsOfG_eq sub path trig b ▸ h)

/-- `bind_of_row` for the composed model: the value for `k` is `Refs.insertXpathsText` (from the row's own node `c`,
over the chains `els` of the form) of the row's converted logic cell for `k`, else of the converted type-table value. -/
theorem bind_of_row_refs (els : List Refs.Chain) (c : Refs.Chain) (trig : Bool)
    (tt : List (Str × Str)) (logic : BindDict) (attrs : List (Str × Str))
    (hl : (logic.map (·.1)).Nodup)
    (h : attrsOfR els c trig (dictUpdate (tt.map fun (k, v) => (k, BVal.s v)) logic) = some attrs)
    (k : Str) :
    lookup k attrs = (Spec.source tt logic trig k).bind (Spec.valueR els c k) := by
  unfold attrsOfR at h
  rw [lookup_attrsOfG _ _ trig _ attrs h k]
  exact lookup_source tt logic trig k hl _

/-- the substituted value is C03's `insert_xpaths` of the converted cell, from the row's own node -/
theorem valueR_is_insertXpathsText (els : List Refs.Chain) (c : Refs.Chain) (k : Str) (v : BVal) (s r : Str)
    (hv : convVal (Form.xpathStr c.path) k v = some s) (h : Spec.valueR els c k v = some r) :
    Refs.insertXpathsText els (some c) false false s = some r := by
  unfold Spec.valueR at h
  rw [hv] at h
  simp only [Option.bind_some, substR] at h
  split at h
  · exact h
  · cases h

/-- `attrsOf` is `attrsOfG` at the first model's substitution: both are the loop `renderBy` over `attrStep` -/
theorem attrsOf_eq_attrsOfG (root : Str) (tops : List Str) (path : Str) (trig : Bool) (b : BindDict) :
    attrsOf root tops path trig b = attrsOfG (subst root tops none) path trig b := by
  rw [attrsOf_eq, attrsOfG_eq]

theorem mkElemC_erase (root : Str) (st : List (Str × Bool)) (kind : Refs.Kind) (q : Q) :
    (mkElemC root st kind q).erase = mkElem root st q := by
  simp [mkElemC, ElemC.erase, mkElem, stChain, Refs.Chain.path, List.map_reverse, Function.comp_def]

/-- forgetting the kinds, the composed model walks the rows exactly as `Pyxv.Binds.walk`: same elements, paths, order -/
theorem walkC_erase (root : Str) : ∀ (ks : List RK) (st : List (Str × Bool)),
    (walkC root st ks).map (·.map ElemC.erase) = walk root st ks := by
  intro ks
  induction ks with
  | nil => intro st; unfold walkC walk; split <;> rfl
  | cons r rs ih =>
    intro st
    cases r with
    | skip => unfold walkC walk; exact ih st
    | qs l =>
      unfold walkC walk
      rw [← ih st]
      cases walkC root st rs with
      | none => rfl
      | some es => simp [mkElemC_erase, Function.comp_def]
    | begin_ rep pre q =>
      unfold walkC walk
      rw [← ih ((q.name, rep) :: st)]
      cases walkC root ((q.name, rep) :: st) rs with
      | none => rfl
      | some es => simp [mkElemC_erase, Function.comp_def]
    | end_ rep =>
      cases st with
      | nil => unfold walkC walk; rfl
      | cons p st' =>
        obtain ⟨n, rep'⟩ := p
        unfold walkC walk
        split
        · exact ih st'
        · rfl
    | unsupported w => unfold walkC walk; rfl

theorem renderAllR_eq (els : List Refs.Chain) (es : List ElemC) : renderAllR els es = renderBy (xmlBindR els) es := by
  induction es with
  | nil => rfl
  | cons e es ih =>
    rw [renderAllR, renderBy, ih]
    cases xmlBindR els e with
    | none => rfl
    | some ob => cases renderBy (xmlBindR els) es <;> cases ob <;> rfl

/-- every bind of the composed model sits on the path of its element: nodeset = the chain's xpath -/
theorem xmlBindR_path (els : List Refs.Chain) (e : ElemC) (b : Bind) (h : xmlBindR els e = some (some b)) :
    b.path = e.erase.path := by
  obtain ⟨_, _, _, _, rfl⟩ := bindBy_some (q := e.q) (path := e.chain.path) (attrs := attrsOfR els e.chain e.q.trigger) h
  rfl

section Examples

def exQ (n : String) (b : Option BindDict) : Q := { name := n.toList, tt := typeBind "integer".toList, bind := b }

/-- the type-table lookup of `exQ`, made once (on the table's strings: `typeBind_toList`) -/
theorem integer_tt : typeBind "integer".toList = some [("type".toList, "int".toList)] := by
  rw [typeBind_toList]; decide +kernel

/-- a repeat `r` with `a` and `b` (`b` relevant on `${a}`, constraint on top-level `${t}`) after a top-level `t` -/
def exKs : List RK :=
  [.qs [exQ "t" none],
   .begin_ true [] { name := "r".toList, tt := none, bind := none },
   .qs [exQ "a" none],
   .qs [exQ "b" (some [("relevant".toList, .s "${a} > 1".toList), ("constraint".toList, .s ". < ${t}".toList)])],
   .end_ true]

example : (match bindsOfRowsR "data".toList exKs [] with
    | .ok bs => bs.map fun b => (String.ofList (Form.xpathStr b.path), b.attrs.map fun kv => (String.ofList kv.1, String.ofList kv.2))
    | _ => []) =
    [("/data/t", [("type", "int")]),
     ("/data/r/a", [("type", "int")]),
     ("/data/r/b", [("type", "int"), ("relevant", " ../a  > 1"), ("constraint", ". <  /data/t ")]),
     ("/data/meta/instanceID", [("type", "string"), ("readonly", "true()"), ("jr:preload", "uid")])] := by
  simp only [exKs, exQ, integer_tt]; decide +kernel

/-- the first model does not answer for this form -/
example : (match bindsOfRows "data".toList exKs [] with | .unsupported _ => true | _ => false) = true := by
  simp only [exKs, exQ, integer_tt]; decide +kernel

-- bind_of_row_refs / valueR_is_insertXpathsText: hypotheses satisfiable, with a relative reference
example : ∃ els c attrs, attrsOfR els c false (dictUpdate ([("type".toList, "int".toList)].map fun (k, v) => (k, BVal.s v))
      [("relevant".toList, .s "${a} > 1".toList)]) = some attrs ∧
    lookup "relevant".toList attrs = some " ../a  > 1".toList :=
  ⟨[[("data".toList, .group)], [("data".toList, .group), ("r".toList, .rep)],
    [("data".toList, .group), ("r".toList, .rep), ("a".toList, .q)],
    [("data".toList, .group), ("r".toList, .rep), ("b".toList, .q)]],
   [("data".toList, .group), ("r".toList, .rep), ("b".toList, .q)],
   [("type".toList, "int".toList), ("relevant".toList, " ../a  > 1".toList)], by decide +kernel, by decide +kernel⟩

example : (walkC "data".toList [] exKs).map (·.map ElemC.erase) = walk "data".toList [] exKs ∧
    (walk "data".toList [] exKs).isSome = true := ⟨walkC_erase _ _ _, by decide +kernel⟩

example : attrsOf "data".toList ["t".toList] "/data/b".toList false [("relevant".toList, .s "${t} > 1".toList)]
    = some [("relevant".toList, " /data/t  > 1".toList)] := by decide +kernel

end Examples

theorem mem_dedup (k : Str) : ∀ l : List Str, k ∈ Spec.dedup l ↔ k ∈ l
  | [] => by simp [Spec.dedup]
  | a :: l => by
    have ih := mem_dedup k l
    by_cases h : k = a
    · subst h; simp [Spec.dedup]
    · simp [Spec.dedup, List.mem_filter, ih, h]

theorem expectedG_fold_lookup (val : Str → BVal → Option Str) (tt : List (Str × Str)) (logic : BindDict) (trig : Bool) :
    ∀ (keys : List Str) (l : List (Str × Str)),
      keys.foldr (fun k acc =>
        match acc with
        | none => none
        | some l =>
          match Spec.source tt logic trig k with
          | none => some l
          | some v =>
            match val k v with
            | none => none
            | some s => some ((k, s) :: l)) (some []) = some l →
      ∀ k, lookup k l = if k ∈ keys then (Spec.source tt logic trig k).bind (val k) else none := by
  intro keys
  induction keys with
  | nil => intro l h k; simp only [List.foldr_nil, Option.some.injEq] at h; subst h; simp [lookup]
  | cons k0 ks ih =>
    intro l h k
    simp only [List.foldr_cons] at h
    split at h
    · cases h
    · next l' hl' =>
      have ih' := ih l' hl' k
      split at h
      · next hs =>
        simp only [Option.some.injEq] at h
        subst h
        rw [ih']
        by_cases hk : k = k0
        · subst hk
          simp [hs]
        · simp [hk]
      · next v hs =>
        split at h
        · cases h
        · next s hv =>
          simp only [Option.some.injEq] at h
          subst h
          simp only [lookup]
          by_cases hk : k = k0
          · subst hk
            simp [hs, hv]
          · rw [if_neg hk, ih']
            simp [hk]

/-- the attribute map the oracle computes (`Spec.expected` / `Spec.expectedR` are instances of `Spec.expectedG`) is,
read by lookup, the right-hand side of `bind_of_row` / `bind_of_row_refs` -/
theorem expectedG_lookup (val : Str → BVal → Option Str) (tt : List (Str × Str)) (logic : BindDict) (trig : Bool)
    (l : List (Str × Str)) (h : Spec.expectedG val tt logic trig = some l) (k : Str) :
    lookup k l = (Spec.source tt logic trig k).bind (val k) := by
  unfold Spec.expectedG at h
  rw [expectedG_fold_lookup val tt logic trig _ l h k]
  split
  · rfl
  · next hk =>
    rw [mem_dedup, List.mem_append, not_or] at hk
    have h1 : lookup k tt = none := (lookup_eq_none_iff k tt).2 hk.1
    have h2 : lookup k logic = none := (lookup_eq_none_iff k logic).2 hk.2
    unfold Spec.source
    split
    · rfl
    · rw [h2, h1]; rfl

theorem expected_eq_expectedG (root : Str) (tops : List Str) (path : Str) (tt : List (Str × Str)) (logic : BindDict)
    (trig : Bool) : Spec.expected root tops path tt logic trig = Spec.expectedG (fun k => Spec.value root tops path k) tt logic trig := rfl

/-- whenever the composed model emits a bind and the oracle's `Spec.expectedR` answers for the same node, the two
are the same finite map -/
theorem oracle_is_bind_refs (els : List Refs.Chain) (c : Refs.Chain) (trig : Bool)
    (tt : List (Str × Str)) (logic : BindDict) (attrs l : List (Str × Str))
    (hl : (logic.map (·.1)).Nodup)
    (h : attrsOfR els c trig (dictUpdate (tt.map fun (k, v) => (k, BVal.s v)) logic) = some attrs)
    (he : Spec.expectedR els c tt logic trig = some l) (k : Str) :
    lookup k attrs = lookup k l := by
  rw [bind_of_row_refs els c trig tt logic attrs hl h k]
  exact (expectedG_lookup (Spec.valueR els c) tt logic trig l he k).symm

/-- the same for the first model: `Spec.expected` against `attrsOf` -/
theorem oracle_is_bind (root : Str) (tops : List Str) (path : Str) (trig : Bool)
    (tt : List (Str × Str)) (logic : BindDict) (attrs l : List (Str × Str))
    (hl : (logic.map (·.1)).Nodup)
    (h : attrsOf root tops path trig (dictUpdate (tt.map fun (k, v) => (k, BVal.s v)) logic) = some attrs)
    (he : Spec.expected root tops path tt logic trig = some l) (k : Str) :
    lookup k attrs = lookup k l := by
  rw [bind_of_row root tops path trig tt logic attrs hl h k]
  rw [expected_eq_expectedG] at he
  exact (expectedG_lookup _ tt logic trig l he k).symm

-- non-vacuity: both hypotheses of `oracle_is_bind_refs` hold for a row with a relative reference
example : ∃ els c attrs l, attrsOfR els c false (dictUpdate ([("type".toList, "int".toList)].map fun (k, v) => (k, BVal.s v))
      [("relevant".toList, .s "${a} > 1".toList)]) = some attrs ∧
    Spec.expectedR els c [("type".toList, "int".toList)] [("relevant".toList, .s "${a} > 1".toList)] false = some l ∧
    lookup "relevant".toList l = some " ../a  > 1".toList :=
  ⟨[[("data".toList, .group)], [("data".toList, .group), ("r".toList, .rep)],
    [("data".toList, .group), ("r".toList, .rep), ("a".toList, .q)],
    [("data".toList, .group), ("r".toList, .rep), ("b".toList, .q)]],
   [("data".toList, .group), ("r".toList, .rep), ("b".toList, .q)],
   [("type".toList, "int".toList), ("relevant".toList, " ../a  > 1".toList)],
   [("type".toList, "int".toList), ("relevant".toList, " ../a  > 1".toList)], by decide +kernel, by decide +kernel, by decide +kernel⟩

example : Spec.expected "data".toList ["t".toList] "/data/b".toList [("type".toList, "int".toList)]
    [("relevant".toList, .s "${t} > 1".toList)] false
    = some [("type".toList, "int".toList), ("relevant".toList, " /data/t  > 1".toList)] := by decide +kernel

/-- as `binds_exactly_where_prescribed`, each bind on its own element's path -/
theorem binds_exactly_where_prescribed_refs (els : List Refs.Chain) :
    ∀ (es : List ElemC) (bs : List Bind), renderAllR els es = some bs →
      bs.map (·.path) = ((es.map ElemC.erase).filter fun e => (elemBind e.q).isSome).map (·.path) := by
  intro es bs h
  rw [renderBy_paths_eq (·.q) (·.chain.path) (fun _ => ⟨_, rfl⟩) es bs (renderAllR_eq els es ▸ h), List.filter_map,
    List.map_map]
  rfl

theorem metaElemC_erase (root : Str) (q : Q) : (metaElemC root q).erase = metaElem root q := by
  simp [metaElemC, metaElem, ElemC.erase, metaChain, Refs.Chain.path]

theorem instanceIDC_erase (root : Str) : (instanceIDC root).erase = instanceID root := by
  simp [instanceIDC, instanceID, ElemC.erase, metaChain, Refs.Chain.path]

theorem bindsOfRowsR_inv (root : Str) (ks : List RK) (metas : List Q) (bs : List Bind) {extra : List Str}
    (h : bindsOfRowsR root ks metas extra = .ok bs) :
    ((allNames ks metas).map lowerAscii).Nodup ∧
    ((allNames ks metas).map lowerAscii).any (reservedNames root).contains = false ∧
    ∃ es, walkC root [] ks = some es ∧
      renderAllR (allChains root es metas) (es ++ (metas.map (metaElemC root) ++ [instanceIDC root])) = some bs := by
  unfold bindsOfRowsR at h
  simp only at h
  -- one `split` per exit of `bindsOfRowsR`, in its order; every exit but the last answers `unsupported`
  split at h
  · cases h
  next hnames =>
  split at h
  · cases h
  split at h
  · cases h
  split at h
  · cases h
  next es hw =>
  split at h
  · cases h
  next bs' hr =>
  split at h
  case isFalse => cases h
  simp only [Out.ok.injEq] at h
  subst h
  simp only [Bool.or_eq_true, Bool.not_eq_true', decide_eq_false_iff_not, not_or, Bool.not_eq_true,
    Decidable.not_not] at hnames
  exact ⟨hnames.1, hnames.2, es, hw, hr⟩

theorem one_bind_per_node_refs (root : Str) (ks : List RK) (metas : List Q) (bs : List Bind) {extra : List Str}
    (h : bindsOfRowsR root ks metas extra = .ok bs) : (bs.map (·.path)).Nodup := by
  obtain ⟨hnd, hres, es, hw, hr⟩ := bindsOfRowsR_inv root ks metas bs h
  have hw' : walk root [] ks = some (es.map ElemC.erase) := by
    rw [← walkC_erase root ks [], hw]; rfl
  have he : (es ++ (metas.map (metaElemC root) ++ [instanceIDC root])).map ElemC.erase
      = es.map ElemC.erase ++ (metas.map (metaElem root) ++ [instanceID root]) := by
    simp [List.map_append, List.map_map, Function.comp_def, metaElemC_erase, instanceIDC_erase]
  -- the erased elements are those of the first model, whose paths are distinct
  rw [binds_exactly_where_prescribed_refs _ _ _ hr, he]
  exact paths_nodup root ks metas _ hnd hres hw' _

-- non-vacuity: the hypothesis holds for the repeat example above (4 binds)
example : ∃ bs, bindsOfRowsR "data".toList exKs [] = .ok bs ∧ bs.length = 4 :=
  ok_of_decide (by simp only [exKs, exQ, integer_tt]; decide +kernel)

theorem renderAllR_append (els : List Refs.Chain) (x y : List ElemC) (bs : List Bind)
    (h : renderAllR els (x ++ y) = some bs) :
    ∃ bx by_, renderAllR els x = some bx ∧ renderAllR els y = some by_ ∧ bs = bx ++ by_ := by
  simp only [renderAllR_eq] at h ⊢
  exact renderBy_append x y bs h

/-- the bind list of a single element: empty or one bind on the element's path -/
theorem renderAllR_single (els : List Refs.Chain) (e : ElemC) (m : List Bind) (h : renderAllR els [e] = some m) :
    m.length ≤ 1 ∧ ∀ b ∈ m, b.path = e.chain.path := by
  rw [renderAllR_eq] at h
  refine ⟨renderBy_length _ _ h, fun b hb => ?_⟩
  obtain ⟨e0, he0, hb0⟩ := List.mem_filterMap.mp ((renderBy_iff.mp h).2 ▸ hb)
  rw [List.mem_singleton.mp he0] at hb0
  exact xmlBindR_path els e b (Option.join_eq_some_iff.mp hb0)

/-- replacing one element by another on the same chain (any change of its logic cells, type-table entry or trigger)
changes no other element's bind.  The reference table `allChains` depends on names and kinds only, so every other
row's substituted values stay the same. -/
theorem noninterference_refs (root : Str) (metas : List Q) (A B tail : List ElemC) (e e' : ElemC) (hc : e'.chain = e.chain)
    (bs bs' : List Bind)
    (h : renderAllR (allChains root (A ++ e :: B) metas) (A ++ e :: B ++ tail) = some bs)
    (h' : renderAllR (allChains root (A ++ e' :: B) metas) (A ++ e' :: B ++ tail) = some bs') :
    ∃ ba m m' bb, bs = ba ++ m ++ bb ∧ bs' = ba ++ m' ++ bb ∧ m.length ≤ 1 ∧ m'.length ≤ 1 ∧
      (∀ b ∈ m, b.path = e.chain.path) ∧ (∀ b ∈ m', b.path = e.chain.path) := by
  have hels : allChains root (A ++ e' :: B) metas = allChains root (A ++ e :: B) metas := by
    simp [allChains, hc]
  rw [hels] at h'
  generalize allChains root (A ++ e :: B) metas = els at h h'
  rw [renderAllR_eq, show A ++ e :: B ++ tail = A ++ [e] ++ (B ++ tail) by simp] at h
  rw [renderAllR_eq, show A ++ e' :: B ++ tail = A ++ [e'] ++ (B ++ tail) by simp] at h'
  obtain ⟨ba, m, m', bb, r1, r2, hm, hm'⟩ := renderBy_frame A [e] [e'] (B ++ tail) bs bs' h h'
  rw [← renderAllR_eq] at hm hm'
  exact ⟨ba, m, m', bb, r1, r2, (renderAllR_single els e m hm).1, (renderAllR_single els e' m' hm').1,
    (renderAllR_single els e m hm).2, hc ▸ (renderAllR_single els e' m' hm').2⟩

section NIExample
def niA : List ElemC :=
  [mkElemC "data".toList [] .q (exQ "t" none),
   mkElemC "data".toList [] .rep { name := "r".toList, tt := none, bind := none },
   mkElemC "data".toList [("r".toList, true)] .q (exQ "a" none)]
def niE : ElemC := mkElemC "data".toList [("r".toList, true)] .q (exQ "b" (some [("relevant".toList, .s "${a} > 1".toList)]))
def niE' : ElemC := mkElemC "data".toList [("r".toList, true)] .q (exQ "b" (some [("constraint".toList, .s ". < ${t}".toList)]))
def niB : List ElemC := [mkElemC "data".toList [("r".toList, true)] .q (exQ "c" (some [("calculate".toList, .s "${b} + ${a}".toList)]))]

-- the hypotheses of `noninterference_refs` are satisfiable, with references to the edited row in other rows' binds
example : niE'.chain = niE.chain ∧
    (renderAllR (allChains "data".toList (niA ++ niE :: niB) []) (niA ++ niE :: niB ++ [instanceIDC "data".toList])).isSome = true ∧
    (renderAllR (allChains "data".toList (niA ++ niE' :: niB) []) (niA ++ niE' :: niB ++ [instanceIDC "data".toList])).isSome = true := by
  simp only [niA, niE, niE', niB, exQ, integer_tt]; decide +kernel
end NIExample

theorem bindsOfRowsR_ok (root : Str) (ks : List RK) (metas : List Q) (bs : List Bind) {extra : List Str}
    (h : bindsOfRowsR root ks metas extra = .ok bs) :
    ∃ es, walkC root [] ks = some es ∧
      renderAllR (allChains root es metas) (es ++ (metas.map (metaElemC root) ++ [instanceIDC root])) = some bs :=
  (bindsOfRowsR_inv root ks metas bs h).2.2

/-- two accepted row lists whose walked elements differ in one element only, on the same chain: every other node's
bind is identical, although other rows may refer to the edited one -/
theorem noninterference_form_refs (root : Str) (ks ks' : List RK) (metas : List Q) (A B : List ElemC) (e e' : ElemC)
    (hc : e'.chain = e.chain)
    (hw : walkC root [] ks = some (A ++ e :: B)) (hw' : walkC root [] ks' = some (A ++ e' :: B))
    {extra : List Str} (bs bs' : List Bind)
    (h : bindsOfRowsR root ks metas extra = .ok bs) (h' : bindsOfRowsR root ks' metas extra = .ok bs') :
    ∃ ba m m' bb, bs = ba ++ m ++ bb ∧ bs' = ba ++ m' ++ bb ∧ m.length ≤ 1 ∧ m'.length ≤ 1 ∧
      (∀ b ∈ m, b.path = e.chain.path) ∧ (∀ b ∈ m', b.path = e.chain.path) := by
  obtain ⟨es, hes, hr⟩ := bindsOfRowsR_ok root ks metas bs h
  obtain ⟨es', hes', hr'⟩ := bindsOfRowsR_ok root ks' metas bs' h'
  rw [hw] at hes
  rw [hw'] at hes'
  cases hes
  cases hes'
  exact noninterference_refs root metas A B _ e e' hc bs bs' hr hr'

section NIFormExample
deriving instance DecidableEq for Q
deriving instance DecidableEq for ElemC
/-- `exKs` with the logic cells of row `b` replaced -/
def exKs' : List RK :=
  [.qs [exQ "t" none],
   .begin_ true [] { name := "r".toList, tt := none, bind := none },
   .qs [exQ "a" none],
   .qs [exQ "b" (some [("required".toList, .s "true()".toList)])],
   .end_ true]

def exB : ElemC := mkElemC "data".toList [("r".toList, true)] .q
  (exQ "b" (some [("relevant".toList, .s "${a} > 1".toList), ("constraint".toList, .s ". < ${t}".toList)]))
def exB' : ElemC := mkElemC "data".toList [("r".toList, true)] .q (exQ "b" (some [("required".toList, .s "true()".toList)]))

-- the hypotheses of `noninterference_form_refs` hold for `exKs` / `exKs'` (both accepted, one element differs, same chain)
example : walkC "data".toList [] exKs = some (niA ++ exB :: []) ∧ walkC "data".toList [] exKs' = some (niA ++ exB' :: []) ∧
    exB'.chain = exB.chain ∧
    (match bindsOfRowsR "data".toList exKs [], bindsOfRowsR "data".toList exKs' [] with | .ok _, .ok _ => true | _, _ => false) = true := by
  simp only [exKs, exKs', niA, exB, exB', exQ, integer_tt]; decide +kernel
end NIFormExample

end Pyxv.C05
