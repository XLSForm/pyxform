import Pyxv.Proofs.ProcessLemmas
/-!
# C14 — conversion is a pure function of its input

Property theorems over `Pyxv.Model.Process`.  The counter-witnesses are about the code *before* the
repairs 80d96d7 / 4dc1fa1 / 7bdea8a / 1948d14 and about hypothetical defect classes (stale keys, set
de-duplication, key-inserting reads).
-/
namespace Pyxv.C14
open Pyxv Pyxv.Process

/-- Whatever the capacity (`maxsize` any number, 0, or None) and whatever the history of
calls, the callers of an `lru_cache`d function see exactly the results of the function itself. -/
theorem lru_refines_pure {κ ν : Type} [DecidableEq κ] (f : κ → ν) (cap : Option Nat) (ops : List κ) :
    outputs f cap ops = ops.map f :=
  (run_outputs ops (c := emptyLru cap) (by intro e he; cases he)).1

/-- The same after any earlier history `h` through the same cache ("which forms were converted
earlier in the same process"): the results of a later sequence of calls do not depend on `h`. -/
theorem lru_history_independent {κ ν : Type} [DecidableEq κ] (f : κ → ν) (cap : Option Nat) (h ops : List κ) :
    (runCached f (runCached f (emptyLru cap) h).1 ops).2.map (·.1) = ops.map f :=
  (run_outputs ops (run_outputs h (c := emptyLru cap) (by intro e he; cases he)).2).1

/-- the cache never holds more than `maxsize` entries, and never two for one key -/
theorem lru_bounded {κ ν : Type} [DecidableEq κ] (f : κ → ν) (n : Nat) : ∀ (ops : List κ) (c : Lru κ ν),
    c.cap = some n → c.entries.length ≤ n → KeysNodup c →
    (runCached f c ops).1.entries.length ≤ n ∧ KeysNodup (runCached f c ops).1
  | [], _, _, h, hn => ⟨h, hn⟩
  | k :: ks, c, hc, h, hn => by
    simp only [runCached]
    exact lru_bounded f n ks _ ((call_cap f c k).trans hc) (call_size f hc h k) (call_nodup f hn k)

example : outputs (fun k : Nat => k * 7 + 1) (some 2) [1, 2, 3, 1, 2, 2, 4, 1] = [8, 15, 22, 8, 15, 15, 29, 8] := by decide +kernel
-- the run above really hits and evicts (same trace as functools.lru_cache, see harness `proc.lru`):
example : (runCached (fun k : Nat => k * 7 + 1) (emptyLru (some 2)) [1, 2, 3, 1, 2, 2]).2.map (·.2)
    = [.miss none, .miss none, .miss (some 1), .miss (some 2), .miss (some 3), .hit] := by decide +kernel

/-- every cached function of the current source has a capacity the model understands -/
theorem cache_sizes_parse : ∀ e ∈ Pyxv.Gen.lruCacheSizes, (parseCap e.2).isSome = true := by decide +kernel

/-- Counter-witness for the defect class the property names ("caches keyed on stale objects"): a
cache keyed on the xpath alone, for a function that also depends on the survey, is *not* pure —
the second survey gets the first survey's answer. -/
theorem projected_key_not_pure :
    outputsProjected (κ := Nat × Nat) (fun k => k.2) (fun k => k.1 + k.2) (some 8) [(1, 5), (2, 5)] (emptyLru (some 8))
      ≠ [(1, 5), (2, 5)].map (fun k => k.1 + k.2) := by decide +kernel

/-- `is_parent_a_repeat(survey, xpath)` / `share_same_repeat_parent(survey, …)`: the key contains the
survey *object* (hash = address), and the cache holds a reference to it.  For every possible sequence of
allocations (any free address may be reused), drops and calls, and every capacity, each call returns `g` of
the object the caller passed. -/
theorem survey_cache_coherent {τ ξ ν : Type} [DecidableEq ξ] (g : τ → ξ → ν) (cap : Option Nat)
    (ops : List (Op τ ξ)) (w : World τ ξ ν) (outs : List ν)
    (h : World.run true g (World.empty cap) ops = some (w, outs)) :
    outs.map some = specOutputs g [] ops :=
  run_spec ops (inv_empty g cap) h

-- survey A (tree `true`: parent is a repeat) at address 7, queried, dropped; the cache still references
-- it, so the allocator cannot return address 7 for survey B: that step is impossible …
example : World.run (ξ := Nat) true (fun (t : Bool) _ => t) (World.empty (some 4))
    [.alloc 7 true, .call 7 0, .drop 7, .alloc 7 false, .call 7 0] = none := by decide +kernel
-- … B gets another address and the right answer:
example : (World.run (ξ := Nat) true (fun (t : Bool) _ => t) (World.empty (some 4))
    [.alloc 7 true, .call 7 0, .drop 7, .alloc 8 false, .call 8 0]).map (·.2) = some [true, false] := by decide +kernel
-- once the entry is evicted the address may be reused, and the answer is still B's:
example : (World.run (ξ := Nat) true (fun (t : Bool) _ => t) (World.empty (some 1))
    [.alloc 7 true, .call 7 0, .alloc 9 true, .call 9 1, .drop 7, .alloc 7 false, .call 7 0]).map (·.2)
    = some [true, true, false] := by decide +kernel

/-- Counter-witness: were the cache keyed on the bare address (no reference held), address reuse
would serve survey B the answer computed for survey A. -/
theorem weak_key_stale :
    (World.run (ξ := Nat) false (fun (t : Bool) _ => t) (World.empty (some 4))
      [.alloc 7 true, .call 7 0, .drop 7, .alloc 7 false, .call 7 0]).map (·.2) = some [true, true] := by decide +kernel

/-- `xml()` leaves the survey in a state from which `xml()` yields the same document: the namespace
declaration appended by `get_nsmap` on every call (F36) and the itemset redirect of search() selects
do not change what is generated.  (Fields modelled: `namespaces`, `choices[*].used_by_search`, `select.itemset`.) -/
theorem xml_idempotent (s s' : SurveyState) (h : afterXml s = .ok s') : xml s' = xml s := by
  have hx : xml s = .ok (render s') := by simp [xml, h, Except.map]
  unfold afterXml at h
  cases hv : validateTriggers s with
  | error e => rw [hv] at h; cases h
  | ok u =>
    rw [hv] at h
    change redirectSearch (nsAppend s) = .ok s' at h
    -- `s'` is the redirected survey `r` with the declaration appended
    rw [redirect_nsAppend] at h
    cases hr : redirectSearch s with
    | error e => rw [hr] at h; cases h
    | ok r =>
      rw [hr] at h
      obtain rfl : nsAppend r = s' := by simpa [Except.map] using h
      have hkeep := redirect_keeps hr
      have hv' : validateTriggers (nsAppend r) = .ok u := by
        rw [← hv]
        exact validate_congr ((nsAppend_keeps r).1.trans hkeep.1) ((nsAppend_keeps r).2.trans hkeep.2)
      rw [hx, xml, afterXml, hv']
      change Except.map render (redirectSearch (nsAppend (nsAppend r))) = _
      rw [redirect_nsAppend, redirect_nsAppend, redirect_idem hr]
      exact congrArg Except.ok (render_nsAppend_twice r)
/-- … hence any number of regenerations: the `Nat.rec` is `afterXml` applied `n + 1` times to `s`, an error stopping it -/
theorem xml_stable (s : SurveyState) : ∀ (n : Nat) (sn : SurveyState),
    (Nat.rec (motive := fun _ => Except Str SurveyState) (afterXml s) (fun _ r => r.bind afterXml) n) = .ok sn →
    xml sn = xml s
  | 0, sn, h => xml_idempotent s sn h
  | n + 1, sn, h => by
    simp only at h
    cases hp : (Nat.rec (motive := fun _ => Except Str SurveyState) (afterXml s) (fun _ r => r.bind afterXml) n) with
    | error e => rw [hp] at h; cases h
    | ok sp =>
      rw [hp] at h
      have h' : afterXml sp = .ok sn := h
      rw [xml_idempotent sp sn h', xml_stable s n sp hp]

/-- Component for `_translations`, which `xml()` does not reset: replaying a sequence of dict assignments
(insertion-ordered dict, any initial content, repeated keys) on its own result changes neither values nor key
order.  (Flat dicts; the nested table is `itext_setup_idempotent` in `C14Itext.lean`.) -/
theorem dict_writes_idempotent {κ ν : Type} [DecidableEq κ] (d ws : List (κ × ν)) :
    asetAll (asetAll d ws) ws = asetAll d ws := asetAll_idem d ws

example : asetAll [(1, "a")] [(2, "x"), (1, "b"), (2, "y")] = [(1, "b"), (2, "y")]
    ∧ asetAll (asetAll [(1, "a")] [(2, "x"), (1, "b"), (2, "y")]) [(2, "x"), (1, "b"), (2, "y")] = [(1, "b"), (2, "y")] := by decide +kernel

def demoSurvey : SurveyState :=
  { entityFeatures := true, namespaces := some ["esri=\"http://esri.com/xforms\"".toList],
    lists := [("fruits".toList, false), ("yn".toList, false)],
    selects := [⟨"q1".toList, "fruits".toList, true, "fruits".toList⟩, ⟨"q2".toList, "yn".toList, false, "yn".toList⟩],
    names := ["head".toList, "name".toList, "age".toList, "spouse".toList, "name".toList, "q1".toList, "q2".toList],
    triggerRefs := ["age".toList] }

/-- Counter-witness for the defect class "generation inserts keys into the trigger maps" (a
`defaultdict` read by index): with the same name in two groups the second `xml()` fails although the
first succeeded. -/
theorem inserting_trigger_keys_not_idempotent :
    (afterXmlInserting demoSurvey).toOption.map (fun s => (xml s).toOption.isSome) = some false
      ∧ (xml demoSurvey).toOption.isSome = true := by decide +kernel

-- the state does change (the namespace string grows: F36) …
example : (afterXml demoSurvey).toOption.bind (fun s => (afterXml s).toOption.map (·.namespaces))
    ≠ (afterXml demoSurvey).toOption.map (·.namespaces) := by decide +kernel
-- … and the first call really redirects the search() select:
example : (xml demoSurvey).toOption.map (fun o => (o.staticInstances, o.itemsetSelects))
    = some (["yn".toList], [("q1".toList, false), ("q2".toList, true)]) := by decide +kernel

/-- `sorted(constants.EXTERNAL_INSTANCES)` (repaired F10): the order of the pulldata instances of one
question is the same for every iteration order of the set. -/
theorem pulldata_order_irrelevant (π : SetOrder) (ext : List Str) (present : Str → Bool) :
    pulldataOrder true π ext present = pulldataOrder true SetOrder.id ext present := by
  simp only [pulldataOrder, pulldataVisit, if_true, SetOrder.id]
  rw [sortStr_perm (π.perm ext)]

/-- before 4dc1fa1 the order followed the set (F10) -/
theorem pulldata_prefix_order_dependent :
    pulldataOrder false SetOrder.rev ["calculate".toList, "constraint".toList, "relevant".toList] (fun _ => true)
      ≠ pulldataOrder false SetOrder.id ["calculate".toList, "constraint".toList, "relevant".toList] (fun _ => true) := by
  decide

/-- every `headers_required` set of the current source has at most one element … -/
theorem required_headers_singletons : ∀ e ∈ requiredHeaders, e.2.length ≤ 1 := by decide +kernel

/-- … so the quoted list of missing headers cannot depend on the iteration order -/
theorem missing_order_irrelevant (π : SetOrder) (required present : List Str) (h : required.length ≤ 1) :
    missingHeaders π required present = missingHeaders SetOrder.id required present := by
  unfold missingHeaders
  exact perm_short (π.perm _) (Nat.le_trans (List.length_filter_le _ _) h)

/-- the repaired `_add_empty_translations` (80d96d7) produces one of the orders the old code could
produce (so the repair introduced no new output) … -/
theorem pad_fixed_is_one_set_order (tr : Trans) : padFixed tr = padPre SetOrder.id tr := rfl

def demoTrans : Trans :=
  [("en".toList, [("/d/q:hint".toList, ["long".toList, "guidance".toList])]),
   ("fr".toList, [("/d/q:label".toList, ["long".toList])])]

/-- … while the old code's output followed the set (F9: hint + guidance in one language only) -/
theorem pad_prefix_order_dependent : padPre SetOrder.rev demoTrans ≠ padPre SetOrder.id demoTrans := by decide +kernel

example : padFixed demoTrans =
    [("en".toList, [("/d/q:hint".toList, ["long".toList, "guidance".toList]), ("/d/q:label".toList, ["long".toList])]),
     ("fr".toList, [("/d/q:label".toList, ["long".toList]), ("/d/q:hint".toList, ["long".toList, "guidance".toList])])] := by
  decide

/-- before 1948d14 (N1): without `external_choices_header` the itemsets.csv header followed a set -/
theorem itemsets_header_prefix_order_dependent :
    itemsetsHeaderPre SetOrder.rev none [["list_name".toList, "name".toList], ["name".toList, "state".toList]]
      ≠ itemsetsHeaderPre SetOrder.id none [["list_name".toList, "name".toList], ["name".toList, "state".toList]] := by decide +kernel

/-- the repaired fallback is one of the orders the old code could produce (first-seen order) -/
theorem itemsets_header_fixed_is_one_set_order (h : Option (List Str)) (rows : List (List Str)) :
    itemsetsHeader h rows = itemsetsHeaderPre SetOrder.id h rows := by cases h <;> rfl

example : itemsetsHeader none [["list_name".toList, "name".toList], ["name".toList, "state".toList]]
    = ["list_name".toList, "name".toList, "state".toList] := by decide +kernel

/-- Counter-witness for the defect class "de-duplicate the namespace declarations through a set":
the order of the xmlns attributes would follow the set. -/
theorem nsmap_set_iteration_order_dependent :
    nsmapOfSet SetOrder.rev [] ["esri=http://esri.com/x".toList, "enk=http://enketo.org/x".toList]
      ≠ nsmapOfSet SetOrder.id [] ["esri=http://esri.com/x".toList, "enk=http://enketo.org/x".toList] := by decide +kernel

/-- **All set-iteration sites of the repaired code that file input can reach**: for every iteration
order of every set, the pulldata instance order, the padded itext table, the missing-header list
(for the required-header sets of the current source) and the itemsets header are the same.  (Only the
first and third take `π`: at the other two sites the repaired code iterates a dict.) -/
theorem set_order_irrelevant (π : SetOrder) (x : SetSiteInput)
    (hreq : ∃ e ∈ requiredHeaders, x.required = e.2.map String.toList) : outπ π x = out x := by
  obtain ⟨e, he, hx⟩ := hreq
  have hl : x.required.length ≤ 1 := by rw [hx, List.length_map]; exact required_headers_singletons e he
  simp only [out, outπ, pulldata_order_irrelevant π, missing_order_irrelevant π _ _ hl]

example : ∃ e ∈ requiredHeaders, ["type".toList] = e.2.map String.toList := by decide +kernel

/-- For **every** interleaving of two threads scanning through the shared `re.Scanner`, a thread that
has finished its scan has, after the repaired `parse_expression`, exactly the token positions of a
single-threaded scan of its own text. -/
theorem positions_schedule_independent (la lb : List Nat) (sched : List Bool) :
    let s := (Sys.init la lb).run sched
    (s.a.done = true → s.a.fixed = positions la) ∧ (s.b.done = true → s.b.fixed = positions lb) := by
  intro s
  have h := sys_init_run_lens la lb sched
  constructor
  · intro hd
    show positions (s.a.emitted.map (·.1)) = positions la
    rw [done_lens hd, h.1]
  · intro hd
    show positions (s.b.emitted.map (·.1)) = positions lb
    rw [done_lens hd, h.2]

/-- at any moment of any interleaving the tokens emitted so far are a prefix of the thread's own tokens
(stated for thread A) -/
theorem emitted_prefix (la lb : List Nat) (sched : List Bool) :
    ∃ rest, la = ((Sys.init la lb).run sched).a.emitted.map (·.1) ++ rest := by
  refine ⟨(match ((Sys.init la lb).run sched).a.pending with | some l => [l] | none => [])
    ++ ((Sys.init la lb).run sched).a.todo, ?_⟩
  rw [← List.append_assoc]
  exact (sys_init_run_lens la lb sched).1.symm

/-- Counter-witness (F11, before 7bdea8a): A matches `instance(` (9 chars) and stores the match, B scans
a whole one-character text, A's callback then reads B's span (0,1) instead of (0,9). -/
theorem recorded_schedule_dependent :
    ((Sys.init [9, 4] [1]).run [true, false, false, true, true, true]).a.recorded ≠ positions [9, 4] := by decide +kernel

-- the same schedule, repaired code:
example : ((Sys.init [9, 4] [1]).run [true, false, false, true, true, true]).a.fixed = positions [9, 4] := by decide +kernel
example : ((Sys.init [9, 4] [1]).run [true, false, false, true, true, true]).a.done = true := by decide +kernel
-- single-threaded, the recorded positions were the right ones (the repair does not change them):
example : ((Sys.init [9, 4, 1] []).run (List.replicate 6 true)).a.recorded = positions [9, 4, 1] := by decide +kernel

end Pyxv.C14
