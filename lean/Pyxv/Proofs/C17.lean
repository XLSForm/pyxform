import Pyxv.Proofs.RowsLemmas
/-!
# C17 (structural part) — broken begin/end structure is rejected with a located diagnosis

The mutations of the catalogue that concern the row structure, for every balanced context and every site.  (`parseRows`
is total; that the *implementation* raises no internal exception is established by correspondence, harness/props/c17.py.)
-/
namespace Pyxv.C17
open Pyxv Pyxv.Form Pyxv.Rows

/-- an error of the row loop that cites a row cites a row of the sheet, of the offending kind; the one error without a
    row number is the unmatched `begin` -/
theorem error_located (rows : List (Nat × RowK)) (e : Err) (h : parseRows rows = .error e) :
    (∃ n re, e = .row n re ∧ (n, RowK.bad re) ∈ rows) ∨
    (∃ n ct, e = .unmatchedEnd n ∧ (n, RowK.end_ ct) ∈ rows) ∨
    (∃ ct name, e = .unmatchedBegin ct name) := by
  unfold parseRows at h
  cases hr : run ([], []) rows with
  | error e' =>
    rw [hr] at h; simp at h; subst h
    rcases run_error_located rows _ _ hr with h | h
    · exact Or.inl h
    · exact Or.inr (Or.inl h)
  | ok st =>
    rw [hr] at h
    obtain ⟨root, fs⟩ := st
    cases fs with
    | nil => simp at h
    | cons f fs => simp at h; subst h; exact Or.inr (Or.inr ⟨f.ct, f.name, rfl⟩)

/-- a stray `end` after any balanced prefix is rejected, citing its row -/
theorem stray_end_rejected (pre post : List (Nat × RowK)) (ts : List Item) (n : Nat) (ct : Ctl)
    (h : parseRows pre = .ok ts) :
    parseRows (pre ++ (n, .end_ ct) :: post) = .error (.unmatchedEnd n) := by
  unfold parseRows
  rw [run_append, run_balanced pre ts h]
  simp [pushAll_root, run, step]

/-- an `end` of the wrong kind (group ↔ repeat) is rejected, citing its row -/
theorem mismatched_end_rejected (pre body post : List (Nat × RowK)) (ts kids : List Item)
    (n n' : Nat) (ct ct' : Ctl) (name : Str) (b : Bool) (hp : Option QData)
    (h1 : parseRows pre = .ok ts) (h2 : parseRows body = .ok kids) (hne : ct ≠ ct') :
    parseRows (pre ++ (n, .begin_ ct name b hp) :: (body ++ (n', .end_ ct') :: post))
      = .error (.unmatchedEnd n') := by
  unfold parseRows
  rw [run_open_block pre body _ ts kids n ct name b hp h1 h2, run_end, if_neg hne]

/-- a `begin` that is never closed is rejected, naming the control -/
theorem unclosed_begin_rejected (pre body : List (Nat × RowK)) (ts kids : List Item)
    (n : Nat) (ct : Ctl) (name : Str) (b : Bool) (hp : Option QData)
    (h1 : parseRows pre = .ok ts) (h2 : parseRows body = .ok kids) :
    parseRows (pre ++ (n, .begin_ ct name b hp) :: body) = .error (.unmatchedBegin ct name) := by
  have h := run_open_block pre body [] ts kids n ct name b hp h1 h2
  rw [List.append_nil] at h
  unfold parseRows
  rw [h]; rfl

/-- a row-level error (no type, no name, invalid name, …) after a prefix the row loop accepts is reported for that row -/
theorem bad_row_rejected (pre post : List (Nat × RowK)) (st : St) (n : Nat) (e : RowErr)
    (h : run ([], []) pre = .ok st) :
    parseRows (pre ++ (n, .bad e) :: post) = .error (.row n e) := by
  unfold parseRows
  rw [run_append, h]
  simp [run, step]

/-- a balanced block inside a balanced context is accepted -/
theorem balanced_accepted (pre body post : List (Nat × RowK)) (ts kids us : List Item)
    (n n' : Nat) (ct : Ctl) (name : Str) (b : Bool)
    (h1 : parseRows pre = .ok ts) (h2 : parseRows body = .ok kids) (h3 : parseRows post = .ok us) :
    parseRows (pre ++ (n, .begin_ ct name b none) :: (body ++ (n', .end_ ct) :: post))
      = .ok (ts ++ .sec ct name b kids :: us) := by
  unfold parseRows
  rw [run_open_block pre body _ ts kids n ct name b none h1 h2, run_end, if_pos rfl, run_balanced post us h3]
  simp [push, pushAll_root, optItem]

def q (s : String) : QData := { name := s.toList, bind := true, control := true, node := true }
example : (match parseRows [(2, .q (q "a") none), (3, .begin_ .group "g".toList false none),
      (4, .q (q "b") none), (5, .end_ .group)] with | .ok its => its.length == 2 | _ => false) = true := by
  decide +kernel

end Pyxv.C17
