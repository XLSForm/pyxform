import Pyxv.Proofs.ChoicesLemmas
import Pyxv.Proofs.Literals
/-!
# C09 — choice lists survive intact and selects are wired to their own list

Property theorems about `Pyxv.Choices` (model) against `Pyxv.Choices.Spec` (what the property demands).
-/
namespace Pyxv.C09
open Pyxv Pyxv.Rows Pyxv.Choices

/-! ## facts about the tables regenerated from the source (re-checked on every run) -/

theorem ext_table : Pyxv.Gen.externalInstanceExtensions = [".csv", ".geojson", ".xml"] := rfl
theorem external_instances_table :
    Pyxv.Gen.externalInstances = ["calculate", "constraint", "readonly", "relevant", "required"] := rfl
theorem itemset_refs_table :
    Pyxv.Gen.itemsetRefs = [("value", "name"), ("label", "label"), ("value_geojson", "id"),
      ("label_geojson", "title"), ("last_saved", "__last-saved")] := rfl
theorem or_other_table : Pyxv.Gen.orOtherChoice = [("name", "other"), ("label", "Other")] := rfl

/-- The rows filed under list `l` are exactly the sheet's rows naming `l`, in sheet order, with
    multiplicity, each without its `list_name` cell. -/
theorem group_preserves (key l : Str) (rows : List Cells) :
    (lookup l (groupByKey key rows)).getD [] = Spec.listRows key l rows := by
  have := fold_group key l rows []
  simpa [groupByKey, lookup] using this

example : (lookup (c!"a") (groupByKey (c!"k")
    [[(c!"k", c!"a"), (c!"n", c!"1")], [(c!"k", c!"b"), (c!"n", c!"2")], [(c!"n", c!"x")], [(c!"n", c!"3"), (c!"k", c!"a")]])).getD []
    = [[(c!"n", c!"1")], [(c!"n", c!"3")]] := by decide +kernel

/-- The lists come in the order in which their names first occur on the sheet. -/
theorem group_keys_order (key : Str) (rows : List Cells) :
    (groupByKey key rows).map (·.1) = Spec.listNames key rows := by
  have := keys_fold key rows []
  simp only [List.map_nil] at this
  rw [groupByKey, this, foldl_appendNew]
  simp [Spec.listNames]

example : (groupByKey c!"k" [[(c!"k", c!"b")], [(c!"k", c!"a")], [(c!"n", c!"x")], [(c!"k", c!"b")]]).map (·.1) = [c!"b", c!"a"] := by
  decide +kernel

/-- Two lists are never merged into one entry, nor one list split over two. -/
theorem group_keys_nodup (key : Str) (rows : List Cells) : ((groupByKey key rows).map (·.1)).Nodup := by
  rw [group_keys_order]; exact dedup_nodup _

/-- End to end: the options of list `l` are the sheet's rows of `l`, in order, each read by `choiceOf`. -/
theorem choices_of_list (cols : List Str) (l : Str) (rows : List Cells) :
    (lookup l (choicesOf cols rows)).getD [] = (Spec.listRows listKey l rows).map (choiceOf (badHeaders cols)) := by
  rw [choicesOf, lookup_map_values, ← group_preserves]
  cases lookup l (groupByKey listKey rows) <;> rfl

/-- The instance of a list has one item per choice, in order; item `i` is `itemOf` of choice `i`: `itextId` (when the
    list needs itext), name, plain label (otherwise), then the extra columns in column order. -/
theorem instance_items (l : Str) (cs : List Choice) :
    (staticInst l cs).items.length = cs.length ∧
    ∀ i, (staticInst l cs).items[i]? = cs[i]?.map (itemOf (requiresItext cs) l i) := by
  simp only [staticInst, itemsFrom_eq, List.length_map, List.length_zipIdx, List.getElem?_map, List.getElem?_zipIdx,
    Option.map_map, Nat.zero_add, true_and]
  exact fun i => rfl

/-- extra columns keep their column order: they are a filter of the row's cells -/
theorem extras_in_column_order (bad : List Str) (row : Cells) :
    (choiceOf bad row).extras = row.filter (fun kv => isExtraKey bad kv.1) := rfl

example : (staticInst (c!"l") [choiceOf [] [(c!"name", c!"a"), (c!"label", c!"A"), (c!"x", c!"1"), (c!"w", c!"2")],
                               choiceOf [] [(c!"name", c!"b"), (c!"w", c!"3")]]).items
    = [[(c!"name", c!"a"), (c!"label", c!"A"), (c!"x", c!"1"), (c!"w", c!"2")], [(c!"name", c!"b"), (c!"w", c!"3")]] := by decide +kernel

/-- The emitted instances have pairwise distinct ids. -/
theorem instance_ids_nodup (is out : List Inst) (h : emitInsts [] is = some out) :
    (out.map (·.name)).Nodup := (emit_inv is [] out h).1

/-- Only instances the form names are emitted, in the order in which it names them. -/
theorem instances_sublist (is out : List Inst) (h : emitInsts [] is = some out) : out.Sublist is :=
  (emit_inv is [] out h).2.2

/-- Every source the form names (pulldata file, select-from-file, xml-external / csv-external row, last-saved,
    choice list) is declared by an emitted instance of that id and that URI. -/
theorem external_declared_once (is out : List Inst) (h : emitInsts [] is = some out) :
    ∀ i ∈ is, ∃ o ∈ out, o.name = i.name ∧ o.src = i.src := by
  intro i hi
  cases emit_declares is [] out h i hi with
  | inl h1 => exact h1
  | inr h2 => obtain ⟨p, hp, _⟩ := h2; simp [findSeen] at hp

example : emitInsts [] [pulldataInst (c!"pd"), externalInst (c!"x") (c!"xml-external"), pulldataInst (c!"pd")]
    = some [pulldataInst (c!"pd"), externalInst (c!"x") (c!"xml-external")] := by decide +kernel

/-- the same id with a different URI is rejected -/
example : emitInsts [] [pulldataInst (c!"x"), externalInst (c!"x") (c!"xml-external")] = none := by decide +kernel

/-- the conventional URIs -/
theorem uri_scheme (f n : Str) :
    (pulldataInst f).src = some (c!"jr://file-csv/" ++ f ++ c!".csv") ∧
    (externalInst n c!"xml-external").src = some (c!"jr://file/" ++ n ++ c!".xml") ∧
    (externalInst n c!"csv-external").src = some (c!"jr://file-csv/" ++ n ++ c!".csv") ∧
    lastSavedInst.src = some c!"jr://instance/last-saved" := by
  refine ⟨rfl, ?_, ?_, rfl⟩ <;> simp [externalInst, splitOnChar]

example : (fromFileInst (c!"cities.csv")).map (·.src) = some (some (c!"jr://file-csv/cities.csv")) := by decide +kernel
example : (fromFileInst (c!"g.geojson")).map (fun i => (i.name, i.src)) = some (c!"g", some (c!"jr://file/g.geojson")) := by decide +kernel

/-- Whenever any element reads `${last-saved#…}` — in a default, choice_filter or logic bind; a group / repeat in a
    logic bind (a1c327a) — the last-saved instance is declared with the conventional URI. -/
theorem last_saved_declared (es : List Elem) (lists : List (Str × List Choice)) (out : List Inst)
    (h : emitInsts [] (allInsts es lists) = some out) (hl : (anyLastSaved es || secLastSaved es) = true) :
    ∃ o ∈ out, o.name = lastSavedInst.name ∧ o.src = some c!"jr://instance/last-saved" := by
  have hm : lastSavedInst ∈ allInsts es lists := by
    simp only [allInsts, hl, if_true]; simp
  obtain ⟨o, ho, hn, hs⟩ := external_declared_once _ out h lastSavedInst hm
  exact ⟨o, ho, hn, by rw [hs]; rfl⟩

/-- a group whose `relevant` reads last-saved, nothing else does -/
example : let es := [Elem.sec c!"g" [(c!"bind::relevant", c!"${last-saved#q} = 'a'")]]
    anyLastSaved es = false ∧ secLastSaved es = true ∧ (allInsts es []).map (·.name) = [c!"__last-saved"] := by decide +kernel

example : anyLastSaved [Elem.sel c!"s" [c!"s"] [] [(c!"choice_filter", c!"a = ${last-saved#q}")] c!"select one external" c!"towns" false] = true := by
  decide +kernel

open Pyxv.Xml in
/-- The `<model>` element holding the emitted instances between other children that carry no instance id (itext, the
    primary instance, binds …), written by the compact writer and read back by an XML reader: the ids of its
    `<instance id=…>` children are the emitted instances' names, in order, pairwise distinct.  `hwf` is C01's
    well-formedness guard. -/
theorem document_ids_unique (is out : List Inst) (h : emitInsts [] is = some out)
    (attrs : List (Str × Str)) (pre post : List Node)
    (hpre : ∀ k ∈ pre, isElem k = true) (hpost : ∀ k ∈ post, isElem k = true)
    (npre : pre.filterMap instanceId = []) (npost : post.filterMap instanceId = [])
    (hwf : (Node.elem c!"model" attrs (pre ++ out.map instNode ++ post)).WF = true) :
    ∃ doc, parseDoc (renderDoc false (.elem c!"model" attrs (pre ++ out.map instNode ++ post))) = some doc ∧
      instanceIds doc = out.map (·.name) ∧ (instanceIds doc).Nodup := by
  have hids : instanceIds (expected (.elem c!"model" attrs (pre ++ out.map instNode ++ post))) = out.map (·.name) := by
    rw [instanceIds_expected, instanceIds, List.filterMap_append, List.filterMap_append, npre, npost, ids_instNodes]
    simp
  exact ⟨_, render_parses_compact _ hwf rfl, hids, hids ▸ instance_ids_nodup is out h⟩

theorem rendered_id (i : Inst) : instanceId (instNode i) = some i.name := instanceId_instNode i

example : instText (pulldataInst c!"pd") = c!"<instance id=\"pd\" src=\"jr://file-csv/pd.csv\"/>" := by decide +kernel
example : instText (staticInst c!"l" [choiceOf [] [(c!"name", c!"a"), (c!"label", c!"A & b")]])
    = c!"<instance id=\"l\"><root><item><name>a</name><label>A &amp; b</label></item></root></instance>" := by decide +kernel
example : (Xml.Node.elem c!"model" [] ([pulldataInst c!"pd", staticInst c!"l" []].map instNode)).WF = true := by decide +kernel

section
open Pyxv.Xml

/-- data-level well-formedness of one emitted instance: id and URI survive attribute-value normalisation, the
    item children are XML names (the choices sheet's extra column headers) and the cell texts XML characters -/
def instOk (i : Inst) : Bool :=
  i.name.all attrCharOk && (match i.src with | some u => u.all attrCharOk | none => true) &&
  i.items.all fun it => it.all fun kv => isName kv.1 && kv.2.all textCharOk

theorem wf_instNode (i : Inst) (h : instOk i = true) : (instNode i).WF = true := by
  simp only [instOk, Bool.and_eq_true] at h
  obtain ⟨⟨hn, hs⟩, hi⟩ := h
  unfold instNode
  have h1 : isName c!"instance" = true := by decide +kernel
  have h2 : isName c!"id" = true := by decide +kernel
  cases hsrc : i.src with
  | some u =>
    rw [hsrc] at hs
    have h3 : isName c!"src" = true := by decide +kernel
    simp [Node.WF, WFKids, attrsWF, attrKeysNodup, h1, h2, h3, hn, hs]
  | none =>
    have h4 : isName c!"root" = true := by decide +kernel
    have h5 : isName c!"item" = true := by decide +kernel
    have hk : WFKids (i.items.map fun it => Node.elem c!"item" [] (it.map fun kv => Node.elem kv.1 [] [.text false kv.2])) = true := by
      apply WFKids_map
      intro it hit
      have hit' := List.all_eq_true.mp hi it hit
      simp only [Node.WF, h5, attrsWF, attrKeysNodup, List.all_nil, Bool.and_self, Bool.true_and]
      apply WFKids_map
      intro kv hkv
      have := List.all_eq_true.mp hit' kv hkv
      simp only [Bool.and_eq_true] at this
      simp [Node.WF, WFKids, attrsWF, attrKeysNodup, this.1, this.2]
    simp [Node.WF, WFKids, attrsWF, attrKeysNodup, h1, h2, h4, hn, hk]

/-- a condition on the sheet's list-name cells holds for every list name -/
theorem list_names_from_cells (key : Str) (rows : List Cells) (P : Str → Prop)
    (h : ∀ r ∈ rows, ∀ v, lookup key r = some v → P v) : ∀ l ∈ Spec.listNames key rows, P l := by
  intro l hl
  obtain ⟨r, hr, hv⟩ := List.mem_filterMap.mp (mem_dedup.1 hl)
  exact h r hr l hv

/-- `document_ids_unique` with its well-formedness guard discharged for the instance elements from the data
    (`instOk` of every emitted instance); what remains is the well-formedness of the *other* children of `<model>`. -/
theorem document_ids_unique_data (is out : List Inst) (h : emitInsts [] is = some out)
    (attrs : List (Str × Str)) (pre post : List Node)
    (hpre : ∀ k ∈ pre, isElem k = true) (hpost : ∀ k ∈ post, isElem k = true)
    (npre : pre.filterMap instanceId = []) (npost : post.filterMap instanceId = [])
    (hattrs : attrsWF attrs = true) (wpre : WFKids pre = true) (wpost : WFKids post = true)
    (hok : ∀ i ∈ out, instOk i = true) :
    ∃ doc, parseDoc (renderDoc false (.elem c!"model" attrs (pre ++ out.map instNode ++ post))) = some doc ∧
      instanceIds doc = out.map (·.name) ∧ (instanceIds doc).Nodup := by
  apply document_ids_unique is out h attrs pre post hpre hpost npre npost
  have hm : isName c!"model" = true := by decide +kernel
  simp only [Node.WF, hm, hattrs, WFKids_append, wpre, wpost, Bool.true_and, Bool.and_true]
  exact WFKids_map _ _ (fun i hi => wf_instNode i (hok i hi))

example : instOk (staticInst c!"l" [choiceOf [] [(c!"name", c!"a"), (c!"label", c!"A  & b"), (c!"x", c!"1")]]) = true := by
  decide +kernel
example : instOk (staticInst c!"a\tb" []) = false := by decide +kernel

end

/-- A list gets a static instance exactly when no `search()` select consumes it. -/
theorem search_inline_only (search : List Str) (lists : List (Str × List Choice)) :
    (∀ i ∈ staticInsts search lists, ¬ search.contains i.name) ∧
    (∀ g ∈ lists, ¬ search.contains g.1 → staticInst g.1 g.2 ∈ staticInsts search lists) := by
  constructor
  · intro i hi
    simp only [staticInsts, List.mem_map, List.mem_filter] at hi
    obtain ⟨g, ⟨_, hg⟩, rfl⟩ := hi
    simpa [staticInst] using hg
  · intro g hg hn
    simp only [staticInsts, List.mem_map, List.mem_filter]
    exact ⟨g, ⟨hg, by simpa using hn⟩, rfl⟩

example : (staticInsts [c!"s"] [(c!"s", []), (c!"t", [])]).map (·.name) = [c!"t"] := by decide +kernel

/-- `randomize(… [, seed])` is applied exactly when `randomize=true`, with the seed verbatim or substituted -/
theorem wrap_eq (q : SelIn) (n : Str) : wrapRandomize q.params q.seedSub n =
    if lookup c!"randomize" q.params = some c!"true" then c!"randomize(" ++ n ++ Spec.seedArg q ++ c!")" else n := by
  unfold wrapRandomize Spec.seedArg
  by_cases hr : lookup c!"randomize" q.params = some c!"true"
  · have he : q.params.isEmpty = false := by
      cases hp : q.params with
      | nil => rw [hp] at hr; simp [lookup] at hr
      | cons _ _ => rfl
    cases hs : lookup c!"seed" q.params with
    | none => simp [he, hr]
    | some s => by_cases hd : startsWith s c!"${" <;> simp [he, hr, hd, List.append_assoc]
  · simp [hr]

/-- What `build_xml` assembles for an itemset is the decision table's triple: one case split over the three sources
    (previous repeat, file, choice list). -/
theorem itemsetOf_eq (q : SelIn) : itemsetOf q =
    { nodeset := Spec.nodeset q, value := Spec.valueRef q, label := Spec.labelRef q q.choicesItext } := by
  unfold itemsetOf Spec.nodeset Spec.valueRef Spec.labelRef Spec.sourceOf
  simp only [wrap_eq]
  by_cases hp : hasBraceRef q.itemset
  · by_cases hf : q.filter.isEmpty <;> simp [hp, hf, Spec.base, Spec.pred]
  · by_cases hx : isFileExt (splitext q.itemset).2
    · simp [hp, hx, Spec.base, Spec.pred]
    · have hg : (splitext q.itemset).2 ≠ c!".geojson" := by
        intro he; apply hx; rw [he]; decide
      by_cases hc : q.choicesItext <;> simp [hp, hx, hg, hc, Spec.base, Spec.pred]

/-- The nodeset that `build_xml` assembles is the decision table's. -/
theorem itemset_nodeset (q : SelIn) : (itemsetOf q).nodeset = Spec.nodeset q := by rw [itemsetOf_eq]

/-- … and so is the value ref. -/
theorem itemset_value (q : SelIn) : (itemsetOf q).value = Spec.valueRef q := by rw [itemsetOf_eq]

/-- … and so is the label ref: `jr:itext(itextId)` exactly when the list named in the type cell keeps its labels in
    itext (`q.choicesItext`: the list is looked up on the survey, 2ee52f9, so randomized selects see it too). -/
theorem itemset_label (q : SelIn) : (itemsetOf q).label = Spec.labelRef q q.choicesItext := by rw [itemsetOf_eq]

/-- a randomized select on an itext list -/
example : (itemsetOf { itemset := c!"sizes", filter := [], params := [(c!"randomize", c!"true")], seedSub := [],
                       prevSub := [], choicesItext := true }).label = c!"jr:itext(itextId)" := by decide +kernel

example : itemsetOf { itemset := c!"colors", filter := c!"x= /data/c1 ", params := [(c!"randomize", c!"true"), (c!"seed", c!"4")],
                      seedSub := [], prevSub := [], choicesItext := false }
    = { nodeset := c!"randomize(instance('colors')/root/item[x= /data/c1 ], 4)", value := c!"name", label := c!"label" } := by decide +kernel
example : itemsetOf { itemset := c!"g.geojson", filter := [], params := [], seedSub := [], prevSub := [], choicesItext := false }
    = { nodeset := c!"instance('g')/root/item", value := c!"id", label := c!"title" } := by decide +kernel
example : itemsetOf { itemset := c!"${rq}", filter := [], params := [], seedSub := [], prevSub := c!"/data/r/rq", choicesItext := false }
    = { nodeset := c!"/data/r[./rq != '']", value := c!"rq", label := c!"rq" } := by decide +kernel

/-- or_other leaves a list that already has a choice `other` alone and otherwise appends exactly one. -/
theorem or_other_adds_one (cs : List Choice) :
    (hasOther cs = true → addOtherTo cs = cs) ∧
    (hasOther cs = false → ∃ c, addOtherTo cs = cs ++ [c] ∧ c.name = otherName ∧ c.extras = [] ∧ c.media = false) ∧
    hasOther (addOtherTo cs) = true ∧ addOtherTo (addOtherTo cs) = addOtherTo cs := by
  refine ⟨fun h => by rw [addOtherTo, if_pos h], fun h => ?_, hasOther_addOtherTo cs, addOtherTo_idem cs⟩
  exact ⟨otherChoice (cs.any fun c => isDictLbl c.label), by simp [addOtherTo, h], rfl, rfl, rfl⟩

/-- or_other touches only the list named by the select. -/
theorem or_other_only_own_list (l l' : Str) (lists : List (Str × List Choice)) :
    lookup l' (addOther l lists) = if l' = l then (lookup l' lists).map addOtherTo else lookup l' lists := by
  induction lists with
  | nil => simp [addOther, lookup]
  | cons p rest ih =>
    obtain ⟨k, cs⟩ := p
    by_cases hk : k = l
    · subst hk
      by_cases h : l' = k <;> simp [addOther, lookup, h]
    · by_cases h : l' = k
      · subst h
        have : ¬ l' = l := hk
        simp [addOther, lookup, hk]
      · simp [addOther, lookup, hk, h, ih]

example : (addOtherTo [choiceOf [] [(c!"name", c!"a"), (c!"label", c!"A")]]).map (·.name) = [c!"a", c!"other"] := by decide +kernel

/-- the companion question of an or_other select -/
example : ((walk [] [[(c!"type", c!"select_one l or_other"), (c!"name", c!"c")]]).toOption.map fun p => p.2.map (·.name))
    = some [c!"c", c!"c_other"] := by decide +kernel

/-- Reading back what the writer wrote gives the rows, for all cell strings (quotes, commas, newlines). -/
theorem csv_roundtrip (rows : List (List Str)) : parseCsv (csvText rows) = rows := parse_csvText rows

/-- The itemsets CSV reproduces the external_choices sheet cell for cell under its column headers:
    first the header, then one row per sheet row with the cell of each header (empty when absent). -/
theorem csv_cells (header : List Str) (rows : List Cells) :
    parseCsv (itemsetsCsv header rows) = header :: rows.map (fun r => header.map fun h => (lookup h r).getD []) := by
  simp [itemsetsCsv, parse_csvText, rowByHeader]

example : parseCsv (itemsetsCsv [c!"list_name", c!"name", c!"a"]
    [[(c!"list_name", c!"e"), (c!"a", c!"x\"y,\nz")], [(c!"name", c!"n"), (c!"list_name", c!"e")]])
    = [[c!"list_name", c!"name", c!"a"], [c!"e", [], c!"x\"y,\nz"], [c!"e", c!"n", []]] := by decide +kernel

/-- The parameters a select sees are exactly `parameters_generic.parse` of the raw `parameters` cell
    (`Pyxv.Controls.parseParams`), in the order of the cell.  `h4`: no column of the row is itself called
    `parameters::…` (it would be read as a parameter too). -/
theorem params_from_raw_cell (r r' : Cells) (raw : Str) (ps : Cells)
    (h1 : lookup c!"parameters" r = some raw) (hA : Controls.isAscii raw = true)
    (h2 : Controls.parseParams raw = some ps) (h3 : expandParams r = some r')
    (h4 : paramsOf (r.filter fun kv => kv.1 ≠ c!"parameters") = []) :
    paramsOf r' = ps := by
  -- `expandParams` drops the raw cell and appends one `parameters::key` cell per parsed parameter
  have hr' : r' = (r.filter fun kv => kv.1 ≠ c!"parameters") ++ ps.map fun kv => (c!"parameters::" ++ kv.1, kv.2) := by
    simp only [expandParams, h1, hA, h2, Bool.not_true, Bool.false_eq_true, ↓reduceIte, Option.some.injEq] at h3
    exact h3.symm
  rw [hr', paramsOf_append, h4, paramsOf_prefixed]
  rfl

/-- The itemset nodeset stated from the raw `parameters` cell: for every raw cell that parses, the nodeset is
    the decision table's for the parsed parameters. -/
theorem itemset_nodeset_raw (r r' : Cells) (raw : Str) (ps : Cells) (q : SelIn)
    (h1 : lookup c!"parameters" r = some raw) (hA : Controls.isAscii raw = true)
    (h2 : Controls.parseParams raw = some ps) (h3 : expandParams r = some r')
    (h4 : paramsOf (r.filter fun kv => kv.1 ≠ c!"parameters") = [])
    (hq : q.params = paramsOf r') :
    (itemsetOf q).nodeset = Spec.nodeset { q with params := ps } := by
  have := params_from_raw_cell r r' raw ps h1 hA h2 h3 h4
  rw [itemset_nodeset]
  congr 1
  cases q
  simp only at hq
  rw [hq, this]

example : (expandParams [(c!"type", c!"select_one l"), (c!"parameters", c!"randomize=true, seed=4")]).map paramsOf
    = some [(c!"randomize", c!"true"), (c!"seed", c!"4")] := by decide +kernel

/-! header dealiasing of the columns this slice reads (alias tables regenerated from the source) -/
theorem choices_headers_canon :
    canonKey false Headers.listAliases Headers.listColumns c!"list_name" = some c!"list name" ∧
    canonKey false Headers.listAliases Headers.listColumns c!"list name" = some c!"list name" ∧
    canonKey false Headers.listAliases Headers.listColumns c!"image" = some c!"media::image" ∧
    canonKey true Headers.listAliases Headers.listColumns c!"label::en" = some c!"label::en" ∧
    canonKey false Headers.listAliases Headers.listColumns c!"my_col" = some c!"my_col" := by
  simp only [Headers.listAliases, Headers.listColumns, Pyxv.Gen.aliasListHeader, Pyxv.Gen.optionFields,
    Headers.strTable, List.map_cons, List.map_nil, toList_lit rfl]
  decide +kernel

theorem survey_headers_canon :
    canonKey false Headers.surveyAliases Headers.surveyColumns c!"relevant" = some c!"bind::relevant" ∧
    canonKey false Headers.surveyAliases Headers.surveyColumns c!"calculation" = some c!"bind::calculate" ∧
    canonKey false Headers.surveyAliases Headers.surveyColumns c!"read_only" = some c!"bind::readonly" ∧
    canonKey false Headers.surveyAliases Headers.surveyColumns c!"appearance" = some c!"control::appearance" ∧
    canonKey false Headers.surveyAliases Headers.surveyColumns c!"choice_filter" = some c!"choice_filter" ∧
    canonKey false Headers.surveyAliases Headers.surveyColumns c!"parameters" = some c!"parameters" := by
  simp only [Headers.surveyAliases, Headers.surveyColumns, Pyxv.Gen.aliasSurveyHeader, Pyxv.Gen.selectQuestionFields,
    Headers.strTable, List.map_cons, List.map_nil, toList_lit rfl]
  decide +kernel

theorem smart_quotes_table :
    Pyxv.Gen.smartQuotes = [("‘", "'"), ("’", "'"), ("“", "\""), ("”", "\"")] := rfl

/-- Cleaning touches no character other than the four smart quotes: whitespace inside a cell is preserved. -/
theorem clean_preserves (s : Str) (h : ∀ c ∈ s, smartTable.find? (fun p => p.1 = c) = none) : cleanCell s = s :=
  (List.map_congr_left fun c hc => by rw [cleanChar, h c hc]; rfl).trans (List.map_id s)

/-- … and keeps every column where it is. -/
theorem clean_keys (r : Cells) : (cleanRow r).map (·.1) = r.map (·.1) := by
  simp [cleanRow]

theorem clean_length (s : Str) : (cleanCell s).length = s.length := by simp [cleanCell]

example : cleanCell c!"a  b\t\n c " = c!"a  b\t\n c " := by decide +kernel
example : cleanCell ['“', 'x', '”'] = c!"\"x\"" := by decide +kernel

end Pyxv.C09
