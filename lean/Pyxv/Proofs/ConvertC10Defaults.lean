import Pyxv.Proofs.ConvertC10
/-!
# C10 for the end-to-end composition: the table of static defaults behind the instance text

`Convert.convertDoc` writes the primary instance as `instNodes defs [root] (ntKids o.inst)`: every childless node at
path `p` — instance copy and `jr:template` copy alike — carries `lookupPath p defs` as its text, where
`defs = defaultsOfL [root] ditems`.  Its entries with a non-empty text are, in document order, exactly
`(path, Defaults.instText dynQ q)` of the questions `q` of the mapped tree (`toDefL`) whose `instText` is non-empty: the
stored default iff the lexer classifies it static, nothing for a dynamic or absent default.
-/
namespace Pyxv.ConvertP
open Pyxv Pyxv.Form Pyxv.Rows Pyxv.Xml Pyxv.Asm Pyxv.Convert Pyxv.C01

/-- filtered out: an empty `default` cell gives an entry that `Defaults.Q.default = []` cannot tell from no cell -/
def nonEmptyV (e : List Str × Str) : Bool := !e.2.isEmpty

/-- what the `Defaults` slice prescribes for a question -/
def staticEntry (x : Defaults.Path × Defaults.Q) : Option (List Str × Str) :=
  if (Defaults.instText dynQ x.2).isEmpty then none else some (x.1, Defaults.instText dynQ x.2)

/-- the specification table -/
def staticTable (pre : List Str) (els : List Defaults.El) : List (List Str × Str) :=
  (Defaults.qwp pre els).filterMap staticEntry

/-- the entry of one element in the defaults table -/
def defaultAt (x : DNode) : List (List Str × Str) :=
  match x.head with
  | .q _ =>
    (match get x.pay.cells "default" with
     | some v => if isStaticDefault x.pay.cells then [(x.chain.path, v)] else []
     | none => [])
  | .sec .. => []

theorem defaultsOfL_walk : ∀ ds (pc : Refs.Chain), defaultsOfL pc.path ds = (dnodesL pc ds).flatMap defaultAt :=
  dwalk_eq (g := fun pc d => defaultsOf pc.path d) (gL := fun pc ds => defaultsOfL pc.path ds) _
    (fun _ _ _ => by simp only [defaultsOf, defaultAt, path_snoc]; rfl)
    (fun _ _ _ _ _ _ => by simp only [defaultsOf, defaultAt, path_snoc, List.nil_append])
    (fun _ => rfl) (fun _ _ _ => rfl)

theorem defaultAt_static (c : Refs.Chain) (d : QData) (p : Pay) :
    (defaultAt ⟨c, .q d, p⟩).filter nonEmptyV = (qAt ⟨c, .q d, p⟩).filterMap staticEntry := by
  unfold defaultAt qAt isStaticDefault defaultDyn
  cases hd : get p.cells "default" with
  | none =>
    simp [staticEntry, Defaults.instText, toQ, hd]
  | some dv =>
    simp only [List.filterMap_cons, List.filterMap_nil, staticEntry, Defaults.instText, dynQ, toQ, hd, Option.getD_some,
      C10.classification_is_pinned]
    cases dv with
    | nil => simp [Lexer.dynamicPinned, nonEmptyV]
    | cons c cs =>
      cases hp : Lexer.dynamicPinned (c :: cs) (typeName p.cells) <;> simp [nonEmptyV]

/-- **the defaults table is the `Defaults` slice's static texts** -/
theorem defaultsOfL_static : ∀ (pre : List Str) (ds : List DItem),
    (defaultsOfL pre ds).filter nonEmptyV = staticTable pre (toDefL ds) := by
  intro pre ds
  rw [← path_groups pre, staticTable, qwp_toDefL, defaultsOfL_walk, List.filter_flatMap, List.filterMap_flatMap]
  refine flatMap_congr fun x _ => ?_
  obtain ⟨c, h, p⟩ := x
  cases h with
  | q d => exact defaultAt_static c d p
  | sec ct n b => rfl

theorem defaultsOf_static : ∀ (pre : List Str) (d : DItem),
    (defaultsOf pre d).filter nonEmptyV = staticTable pre [toDef d] :=
  fun pre d => by simpa only [defaultsOfL, toDefL, List.append_nil] using defaultsOfL_static pre [d]

#print axioms defaultsOfL_static

theorem staticEntry_eq_some (x : Defaults.Path × Defaults.Q) (p : List Str) (v : Str) (hv : v ≠ []) :
    staticEntry x = some (p, v) ↔ x.1 = p ∧ Defaults.instText dynQ x.2 = v := by
  unfold staticEntry
  split
  · rename_i he
    constructor
    · intro e; cases e
    · intro e
      rw [e.2] at he
      cases v with
      | nil => exact absurd rfl hv
      | cons _ _ => cases he
  · simp only [Option.some.injEq, Prod.mk.injEq]

theorem mem_defaultsOfL_iff (pre : List Str) (ds : List DItem) (p : List Str) (v : Str) (hv : v ≠ []) :
    (p, v) ∈ defaultsOfL pre ds ↔
      ∃ x ∈ Defaults.qwp pre (toDefL ds), x.1 = p ∧ Defaults.instText dynQ x.2 = v := by
  have hne : nonEmptyV (p, v) = true := by
    cases v with
    | nil => exact absurd rfl hv
    | cons _ _ => rfl
  have hf : (p, v) ∈ defaultsOfL pre ds ↔ (p, v) ∈ (defaultsOfL pre ds).filter nonEmptyV := by
    rw [List.mem_filter, and_iff_left hne]
  rw [hf, defaultsOfL_static, staticTable, List.mem_filterMap]
  simp only [staticEntry_eq_some _ p v hv]

#print axioms mem_defaultsOfL_iff

/-- any copy: `t` = template or not -/
theorem instNode_leaf (defs : List (List Str × Str)) (pre : List Str) (n : Str) (t : Bool) :
    instNode defs pre (.node n t []) =
      .elem n (tmplAttrs t) (match lookupPath (pre ++ [n]) defs with | some v => [.text false v] | none => []) := by
  simp only [instNode]; rfl

/-- **C10, instance text of the converted document** (`_partial`: the table only; that the path lookup finds the
    right entry is `convert_c10_defaults`, ConvertC10DefaultsFull).  The children of the primary instance root are
    `instNodes defs [root] nts` — every childless node at path `p`, instance and `jr:template` copies alike, has the text
    `lookupPath p defs` (`instNode_leaf`) — and the non-empty entries of `defs` are, in document order, the `Defaults`
    slice's `instText dynQ` of the questions of the mapped tree: the stored default iff it is static. -/
theorem convert_c10_defaults_partial (wb : Workbook) (doc : Node) (h : convertDoc wb = .ok doc) :
    ∃ (root : Str) (ditems : List DItem) (defs : List (List Str × Str)) (nts : List NT) (rt : Node),
      primaryRoot doc = some rt ∧ kidsOf rt = instNodes defs [root] nts ∧
      defs.filter nonEmptyV = staticTable [root] (toDefL ditems) ∧
      ∀ p v, v ≠ [] → ((p, v) ∈ defs ↔
        ∃ x ∈ Defaults.qwp [root] (toDefL ditems), x.1 = p ∧ Defaults.instText dynQ x.2 = v) := by
  obtain ⟨f, lists, rows, drows, o, ditems, T⟩ := convertDoc_trace wb doc h
  obtain ⟨rt, h1, h2, -⟩ := trace_instance T
  exact ⟨f.name, ditems, _, _, rt, h1, h2, defaultsOfL_static _ _, fun p v hv => mem_defaultsOfL_iff _ _ p v hv⟩

#print axioms convert_c10_defaults_partial

def exDefs : List DItem :=
  [.q { name := l!"a", bind := true, control := true, node := true, tag := l!"input" }
      { cells := [(c!"type", l!"text"), (c!"name", l!"a"), (c!"default", l!"abc")] },
   .sec .rep (l!"r") false {}
     [.q { name := l!"n", bind := true, control := true, node := true, tag := l!"input" }
        { cells := [(c!"type", l!"text"), (c!"name", l!"n"), (c!"default", l!"now()")] },
      .q { name := l!"m", bind := true, control := true, node := true, tag := l!"input" }
        { cells := [(c!"type", l!"text"), (c!"name", l!"m"), (c!"default", l!"7")] }]]

theorem exDefs_table :
    defaultsOfL [l!"data"] exDefs = [([l!"data", l!"a"], l!"abc"), ([l!"data", l!"r", l!"m"], l!"7")] := by
  simp only [exDefs, defaultsOfL, defaultsOf, isStaticDefault, defaultDyn_pinned]
  decide +kernel

-- the static defaults (top level and inside a repeat) are in the table, the dynamic one is not
example : defaultsOfL [l!"data"] exDefs = [([l!"data", l!"a"], l!"abc"), ([l!"data", l!"r", l!"m"], l!"7")] := exDefs_table
example : staticTable [l!"data"] (toDefL exDefs) = [([l!"data", l!"a"], l!"abc"), ([l!"data", l!"r", l!"m"], l!"7")] := by
  rw [← defaultsOfL_static, exDefs_table]; rfl
-- the theorem applied to the example workbook
example : ∃ doc, convertDoc exWb = .ok doc ∧ ∃ root ditems defs nts rt,
    primaryRoot doc = some rt ∧ kidsOf rt = instNodes defs [root] nts ∧
    defs.filter nonEmptyV = staticTable [root] (toDefL ditems) ∧
    ∀ p v, v ≠ [] → ((p, v) ∈ defs ↔
      ∃ x ∈ Defaults.qwp [root] (toDefL ditems), x.1 = p ∧ Defaults.instText dynQ x.2 = v) := by
  obtain ⟨doc, hd, -, -⟩ := ex_doc
  exact ⟨doc, hd, convert_c10_defaults_partial exWb doc hd⟩

end Pyxv.ConvertP
