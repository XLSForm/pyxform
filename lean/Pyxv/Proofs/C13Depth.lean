import Pyxv.Proofs.C13
/-!
# C13 — column order for headers of three (and more) tokens

For a *group column* `c` (every cell whose first token is `c` has at least two tokens: `media::image::fr`,
`bind::relevant`, …) `process_row` is a homomorphism: `out[c]` is the row dict built from the same cells with the first
token removed (`processRow_group`, any depth), so column-order independence follows from the two-token theorem one level
down (`column_perm_three`).  The order dependence that really exists in `merge_dicts` / `process_row` is shown by two
kernel-checked counter-witnesses, one per guard.
-/
namespace Pyxv.Spell
open Pyxv

/-- a cell of column `c`, first token removed -/
def subCell (c : Str) (cell : Cell) : Option Cell :=
  match cell.1 with
  | c' :: ts => if c' = c then some (ts, cell.2) else none
  | [] => none

/-- the cells of column `c`, first token removed, in row order -/
def subCells (c : Str) (cells : List Cell) : List Cell := cells.filterMap (subCell c)

/-- the dict stored under a key, if any -/
def subOf : Option Val → KVs
  | some (.dict d) => d
  | _ => .nil

theorem rowStep_get_other (dl : Str) (out : KVs) (cell : Cell) (c : Str) (h : subCell c cell = none) :
    (rowStep dl out cell).get c = out.get c := by
  obtain ⟨k, v⟩ := cell
  cases k with
  | nil => simp [rowStep]
  | cons c' ts => exact rowStep_get_ne dl out c' ts v fun e => by subst e; simp [subCell] at h

theorem mergeV_nest_eq_rowStep (dl : Str) (sub : KVs) (t : Str) (ts : List Str) (v : Str) (hv : v ≠ []) :
    mergeV dl (.dict sub) (nest (t :: ts) v) = .dict (rowStep dl sub (t :: ts, v)) := by
  cases ts with
  | nil =>
    rw [rowStep_one]
    simp only [nest]
    rw [merge_single]
    cases hg : sub.get t with
    | none => rfl
    | some va =>
      cases va with
      | dict d => rfl
      | str s => simp only [mV_str_str dl s v hv]
  | cons t' ts =>
    simp only [rowStep, nest]
    rw [merge_single]

theorem nest_eq_rowStep_nil (dl : Str) (t : Str) (ts : List Str) (v : Str) (hv : v ≠ []) :
    nest (t :: ts) v = .dict (rowStep dl .nil (t :: ts, v)) := by
  rw [← mergeV_nest_eq_rowStep dl .nil t ts v hv]
  simp only [nest]
  rw [mergeV]
  simp [falsy]

theorem rowStep_get_group (dl : Str) (out : KVs) (c t : Str) (ts : List Str) (v : Str) (hv : v ≠ [])
    (ho : out.get c = none ∨ ∃ d, out.get c = some (.dict d)) :
    (rowStep dl out (c :: t :: ts, v)).get c = some (.dict (rowStep dl (subOf (out.get c)) (t :: ts, v))) := by
  rw [rowStep_multi]
  rcases ho with ho | ⟨d, ho⟩
  · simp only [ho, subOf, KVs.get_set, if_true]
    rw [nest_eq_rowStep_nil dl t ts v hv]
  · simp only [ho, subOf, KVs.get_set, if_true]
    rw [mergeV_nest_eq_rowStep dl d t ts v hv]

mutual
/-- the (path, value) leaves of a value, in order — an observation with decidable equality -/
def Val.flat : Val → List (List Str × Str)
  | .str s => [([], s)]
  | .dict d => d.flat
def KVs.flat : KVs → List (List Str × Str)
  | .nil => []
  | .cons k v rest => (v.flat.map fun p => (k :: p.1, p.2)) ++ rest.flat
end

/-- `c` is a group column of the row: its cells have at least two tokens and non-empty values -/
def groupCol (c : Str) (cells : List Cell) : Prop :=
  ∀ cell ∈ cells, ∀ ts, cell.1 = c :: ts → ts ≠ [] ∧ cell.2 ≠ []

theorem subCell_eq_some (c : Str) (a s : Cell) (ha : subCell c a = some s) : a = (c :: s.1, s.2) := by
  obtain ⟨ka, va⟩ := a
  cases ka with
  | nil => simp [subCell] at ha
  | cons ca ta =>
    simp only [subCell] at ha
    by_cases h1 : ca = c
    · simp only [h1, if_true, Option.some.injEq] at ha; subst ha; simp [h1]
    · simp [h1] at ha

theorem subCell_inj (c : Str) (a b s : Cell) (ha : subCell c a = some s) (hb : subCell c b = some s) :
    a = b :=
  (subCell_eq_some c a s ha).trans (subCell_eq_some c b s hb).symm

theorem fold_group (dl c : Str) (cells : List Cell) (hg : groupCol c cells) : ∀ (out : KVs),
    (out.get c = none ∨ ∃ d, out.get c = some (.dict d)) →
    (cells.foldl (rowStep dl) out).get c =
      if subCells c cells = [] then out.get c
      else some (.dict ((subCells c cells).foldl (rowStep dl) (subOf (out.get c)))) := by
  induction cells with
  | nil => intro out _; simp [subCells]
  | cons cell rest ih =>
    intro out ho
    have hg' : groupCol c rest := fun x hx => hg x (List.mem_cons_of_mem _ hx)
    simp only [List.foldl_cons]
    cases hsc : subCell c cell with
    | none =>
      have hget := rowStep_get_other dl out cell c hsc
      have hsub : subCells c (cell :: rest) = subCells c rest := by
        simp [subCells, hsc]
      rw [hsub, ih hg' _ (by rw [hget]; exact ho), hget]
    | some sc =>
      obtain rfl := subCell_eq_some c cell sc hsc
      obtain ⟨ts', v⟩ := sc
      obtain ⟨hts, hv⟩ := hg (c :: ts', v) (List.mem_cons_self ..) ts' rfl
      obtain ⟨t, ts, rfl⟩ := List.exists_cons_of_ne_nil hts
      have hget := rowStep_get_group dl out c t ts v hv ho
      have hsub : subCells c ((c :: t :: ts, v) :: rest) = (t :: ts, v) :: subCells c rest := by
        simp [subCells, subCell]
      rw [hsub, ih hg' _ (Or.inr ⟨_, hget⟩), hget]
      simp only [subOf, List.foldl_cons]
      by_cases he : subCells c rest = [] <;> simp [he]

/-- **`process_row` on a group column is `process_row` one level down** (any token depth) -/
theorem processRow_group (dl c : Str) (cells : List Cell) (hg : groupCol c cells) :
    (processRow dl cells).get c =
      if subCells c cells = [] then none else some (.dict (processRow dl (subCells c cells))) := by
  have := fold_group dl c cells hg .nil (Or.inl rfl)
  simpa [processRow, KVs.get, subOf] using this

theorem subCells_nodup (c : Str) (cells : List Cell) (nd : (cells.map (·.1)).Nodup) :
    ((subCells c cells).map (·.1)).Nodup := by
  rw [List.Nodup, List.pairwise_map] at nd ⊢
  refine nd.filterMap _ fun a a' hne b hb b' hb' e => hne ?_
  rw [subCell_eq_some c a b hb, subCell_eq_some c a' b' hb', e]

end Pyxv.Spell

namespace Pyxv.C13
open Pyxv Pyxv.Spell

/-- **Column order does not matter for three-token headers** (`media::image::fr`,
    `bind::jr:constraintMsg::fr`, next to `media::image`, `bind::relevant`): for a group column `c`
    whose cells have two or three tokens, the dict stored under `c` by any permutation of the cells is
    the same nested finite map, entry by entry (the default-language entry included).  Guards: no two cells
    with the same token tuple (F53, `dup_tokens_order_dependent`), and `c` is not also used as a one-token
    header (`plain_beside_deep_order_dependent`). -/
theorem column_perm_three (dl : Str) (cells cells' : List Cell) (hp : cells'.Perm cells)
    (nd : (cells.map (·.1)).Nodup) (c : Str) (hg : groupCol c cells)
    (hs : ∀ cell ∈ subCells c cells, shape2 cell) :
    (subCells c cells = [] → (processRow dl cells).get c = none ∧ (processRow dl cells').get c = none) ∧
    (subCells c cells ≠ [] → ∃ g g', (processRow dl cells).get c = some (.dict g) ∧
      (processRow dl cells').get c = some (.dict g') ∧ ∀ m,
        (hasSub m (subCells c cells) = false → g'.get m = g.get m) ∧
        (hasSub m (subCells c cells) = true → ∃ d d', g.get m = some (.dict d) ∧
          g'.get m = some (.dict d') ∧ ∀ l, getS d' l = getS d l)) := by
  have hg' : groupCol c cells' := fun x hx => hg x (hp.mem_iff.mp hx)
  have hps : (subCells c cells').Perm (subCells c cells) := hp.filterMap _
  have hnil : subCells c cells' = [] ↔ subCells c cells = [] := by
    constructor <;> intro h
    · exact List.Perm.eq_nil (h ▸ hps.symm)
    · exact List.Perm.eq_nil (h ▸ hps)
  rw [processRow_group dl c cells hg, processRow_group dl c cells' hg']
  constructor
  · intro h; simp [h, hnil.mpr h]
  · intro h
    have h' : subCells c cells' ≠ [] := fun e => h (hnil.mp e)
    refine ⟨processRow dl (subCells c cells), processRow dl (subCells c cells'), by simp [h], by simp [h'], fun m => ?_⟩
    exact column_perm_partial dl (subCells c cells) (subCells c cells') hps hs (subCells_nodup c cells nd) m

/-- non-vacuity: `media::image`, `media::image::fr`, `media::audio::fr`, `media::image::en` with default
    language `en`, in two orders — same entries under `media → image` and `media → audio` -/
example :
    let a : List Cell := [(["media".toList, "image".toList], "P".toList),
      (["media".toList, "image".toList, "fr".toList], "F".toList),
      (["media".toList, "audio".toList, "fr".toList], "A".toList),
      (["media".toList, "image".toList, "en".toList], "E".toList)]
    let b : List Cell := [(["media".toList, "image".toList, "en".toList], "E".toList),
      (["media".toList, "audio".toList, "fr".toList], "A".toList),
      (["media".toList, "image".toList, "fr".toList], "F".toList),
      (["media".toList, "image".toList], "P".toList)]
    (match (processRow "en".toList a).get "media".toList, (processRow "en".toList b).get "media".toList with
     | some (.dict g), some (.dict g') =>
       (match g.get "image".toList, g'.get "image".toList, g.get "audio".toList, g'.get "audio".toList with
        | some (.dict d), some (.dict d'), some (.dict e), some (.dict e') =>
          getS d "en".toList == some "E".toList && getS d' "en".toList == some "E".toList &&
          getS d "fr".toList == some "F".toList && getS d' "fr".toList == some "F".toList &&
          getS e "fr".toList == some "A".toList && getS e' "fr".toList == some "A".toList
        | _, _, _, _ => false)
     | _, _ => false) = true := by
  decide +kernel

/-- `process_row` on a group column is `process_row` one level down (`Spell.processRow_group`) -/
theorem process_row_group (dl c : Str) (cells : List Cell) (hg : groupCol c cells) :
    (processRow dl cells).get c =
      if subCells c cells = [] then none else some (.dict (processRow dl (subCells c cells))) :=
  processRow_group dl c cells hg

example : (processRow "en".toList [(["bind".toList, "jr:constraintMsg".toList, "fr".toList], "M".toList),
      (["name".toList], "q".toList), (["bind".toList, "relevant".toList], "r".toList)]).get "bind".toList =
    some (.dict (processRow "en".toList [(["jr:constraintMsg".toList, "fr".toList], "M".toList),
      (["relevant".toList], "r".toList)])) := by
  rfl

/-- **Counter-witness for the guard `Nodup`** (open finding F53, `caption` and `label` both map to the
    token tuple `(label,)`): two cells with the same tokens — the later one wins, so the row dict depends
    on the column order. -/
theorem dup_tokens_order_dependent :
    (processRow "default".toList [(["label".toList], "A".toList), (["label".toList], "B".toList)]).get "label".toList ≠
    (processRow "default".toList [(["label".toList], "B".toList), (["label".toList], "A".toList)]).get "label".toList := by
  intro h
  exact absurd (congrArg (Option.map Val.flat) h) (by decide +kernel)

/-- **Counter-witness for the guard `groupCol`**: with distinct token tuples, a one-token cell `c`
    beside `c::fr` and `c::<default>::x` is kept (filed under `default → default`) when it comes first
    and dropped when `c::<default>::x` comes first — the only order dependence of the repaired
    `merge_dicts` found for distinct headers; no documented column uses such headers. -/
theorem plain_beside_deep_order_dependent :
    let P : Cell := (["c".toList], "P".toList)
    let F : Cell := (["c".toList, "fr".toList], "F".toList)
    let X : Cell := (["c".toList, "default".toList, "x".toList], "X".toList)
    ((processRow "default".toList [P, F, X]).get "c".toList ≠ (processRow "default".toList [X, P, F]).get "c".toList) ∧
    ([X, P, F].Perm [P, F, X]) ∧ (([P, F, X].map (·.1)).Nodup) := by
  intro P F X
  exact ⟨fun h => absurd (congrArg (Option.map Val.flat) h) (by decide +kernel), List.perm_append_comm (l₁ := [X]) (l₂ := [P, F]), by decide +kernel⟩

end Pyxv.C13
