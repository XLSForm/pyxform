import Pyxv.Proofs.C07
import Pyxv.Proofs.C08
/-!
# C07 from sheet rows: composing the header layer (C08) with the itext model

`C07.refs_exist` is stated about the *built* survey under the guard `wf`.  Here `wf` is derived from the sheet cells: the rows
go through `Headers.processRow`, C08 says what each column holds afterwards (`row_grouping`, `colFold_eq_colVal`) and that this
value is `None`, a non-empty string or a non-empty dict of non-empty strings — never `{}` (`colVal_flat`).  This file: the
one-level text columns `label` / `hint` / `guidance_hint` on a flat form; the general statement is `C07Sheets.refs_exist_rows`.
`effective_label` is stated in `C07Text.lean`, after `value_label`.
-/
namespace Pyxv.C07Rows
open Pyxv Pyxv.Headers Pyxv.C08 Pyxv.Itext

/-- `C08.colVal_flat` under the name C07's audit lists -/
theorem flat_colVal (dk : Str) : ∀ (cells : List ColCell) (acc : V),
    Flat acc → (∀ c ∈ cells, c.2 ≠ []) → (cells.map (·.1)).Nodup →
    (isStrV acc = true → ∀ c ∈ cells, c.1 ≠ none) → Flat (colVal dk acc cells) :=
  fun cells acc hf hne hnd hstr => colVal_flat dk cells acc hf hne hnd hstr

theorem colCells_texts (hk : List (Str × List Str)) (q : Str) : ∀ (row : List (Str × Str)),
    (∀ c ∈ row, c.2 ≠ []) → ∀ d ∈ colCells hk q row, d.2 ≠ []
  | [], _ => by simp [colCells]
  | (h, v) :: rest, hne => by
    have ih := colCells_texts hk q rest (fun c hc => hne c (by simp [hc]))
    have hv : v ≠ [] := hne (h, v) (by simp)
    unfold colCells
    split
    · split
      · exact List.forall_mem_cons.mpr ⟨hv, ih⟩
      · exact ih
    · split
      · exact List.forall_mem_cons.mpr ⟨hv, ih⟩
      · exact ih
    · exact ih

/-- what a row must satisfy for the columns `qs`: C08's hypotheses, verbatim -/
structure RowOk (dk : Str) (hk : List (Str × List Str)) (qs : List Str) (row : List (Str × Str)) : Prop where
  headers : ∀ c ∈ row, c.1 ≠ "__row".toList ∧ ∃ t ts, lookup c.1 hk = some (t :: ts)
  noClash : NoClash dk hk .nil row
  oneLevel : ∀ q ∈ qs, ∀ c ∈ row, ∀ t ts, lookup c.1 hk = some (t :: ts) → q = t → ts.length ≤ 1
  nonEmpty : ∀ c ∈ row, c.2 ≠ []
  distinct : ∀ q ∈ qs, ((colCells hk q row).map (·.1)).Nodup

/-- header layer: `process_row` succeeds and each of the columns `qs` holds a flat value -/
theorem processRow_flat {dk : Str} {hk : List (Str × List Str)} {qs : List Str} {row : List (Str × Str)}
    (h : RowOk dk hk qs row) : ∃ out, processRow dk hk row = .ok out ∧ ∀ q ∈ qs, Flat (out.get q) := by
  obtain ⟨out, hout, _⟩ := row_grouping dk hk row .nil h.headers h.noClash
  refine ⟨out, hout, fun q hq => ?_⟩
  rw [processRow_col h.headers h.noClash hout (h.oneLevel q hq)]
  exact flat_colVal dk _ _ Flat.none (colCells_texts hk q row h.nonEmpty) (h.distinct q hq) (by intro hs; cases hs)

def strOf : V → Str
  | .str s => s
  | _ => []

/-- a grouped-row value in a translatable slot, as the builder hands it to the element -/
def txtOfV : V → Txt
  | .none => .none
  | .str s => .str s
  | .dict m => .dict (m.keys.map fun k => (k, strOf (m.get k)))

theorem txtOfV_wf {v : V} (h : Flat v) : (txtOfV v).wf = true := by
  cases h with
  | none => rfl
  | str u _ => rfl
  | dict m hne _ =>
    cases m with
    | nil => exact absurd rfl hne
    | cons k v rest => simp [txtOfV, Kvs.keys, Txt.wf]

def textCols : List Str := ["label".toList, "hint".toList, "guidance_hint".toList]

/-- a question row (type with a body control) carrying only text columns -/
def rowElem (name : Str) (out : Kvs) : ElemD :=
  { cls := .control, name := name, type := "text".toList
    label := txtOfV (out.get "label".toList), hint := txtOfV (out.get "hint".toList)
    guidance := txtOfV (out.get "guidance_hint".toList)
    media := none, msgs := [], hasCalc := false, trigger := false, bodyless := false, flat := false
    appearance := none, itemset := none, list := [], hasChoices := false }

def rootD0 : ElemD :=
  { cls := .group, name := "data".toList, type := "survey".toList, label := .none, hint := .none,
    guidance := .none, media := none, msgs := [], hasCalc := false, trigger := false, bodyless := false,
    flat := false, appearance := none, itemset := none, list := [], hasChoices := false }

def listOf (name : Str) (outs : List Kvs) : CList :=
  { name := name, options := outs.map fun o => { label := txtOfV (o.get "label".toList), media := none } }

/-- the survey of a flat form: question rows (name, grouped row) and choice lists (name, grouped rows) -/
def sheetSurvey (dl : Str) (qs : List (Str × Kvs)) (ls : List (Str × List Kvs)) : Survey :=
  { defaultLanguage := dl
    lists := ls.map fun l => listOf l.1 l.2
    root := .node rootD0 (qs.map fun q => .node (rowElem q.1 q.2) []) }

theorem flattenL_leaves (pre : Str) (hid : Bool) (qs : List (Str × Kvs)) :
    flattenL pre hid (qs.map fun q => Elem.node (rowElem q.1 q.2) []) =
      qs.map fun q => (⟨pre ++ '/' :: q.1, rowElem q.1 q.2, hid⟩ : Itext.Flat) := by
  rw [flattenL_eq_flatMap, List.flatMap_map, List.map_eq_flatMap]
  simp [flatten, flattenL, tagFlats, rowElem]

theorem flats_sheet (dl : Str) (qs : List (Str × Kvs)) (ls : List (Str × List Kvs)) :
    flats (sheetSurvey dl qs ls) =
      qs.map fun q => (⟨"/data".toList ++ '/' :: q.1, rowElem q.1 q.2, false⟩ : Itext.Flat) := by
  simp only [flats, sheetSurvey, rootD, rootKids]
  exact flattenL_leaves _ _ qs

/-- the builder-output invariant `wf` follows from flatness of the grouped rows' text columns -/
theorem wf_sheetSurvey (dl : Str) (qs : List (Str × Kvs)) (ls : List (Str × List Kvs))
    (hq : ∀ q ∈ qs, ∀ c ∈ textCols, Flat (q.2.get c))
    (hl : ∀ l ∈ ls, ∀ o ∈ l.2, Flat (o.get "label".toList)) :
    wf (sheetSurvey dl qs ls) = true := by
  simp only [wf, Bool.and_eq_true, List.all_eq_true]
  constructor
  · intro f hf
    rw [flats_sheet] at hf
    obtain ⟨q, hqm, rfl⟩ := List.mem_map.mp hf
    have h1 := txtOfV_wf (hq q hqm "label".toList (by simp [textCols]))
    have h2 := txtOfV_wf (hq q hqm "hint".toList (by simp [textCols]))
    have h3 := txtOfV_wf (hq q hqm "guidance_hint".toList (by simp [textCols]))
    simp only [elemWf, rowElem, mediaWf, nodupB, keys, List.map_nil, List.all_nil, Bool.and_true, Bool.and_eq_true]
    exact ⟨⟨h1, h2⟩, h3⟩
  · intro l hlm o ho
    simp only [sheetSurvey, List.mem_map] at hlm
    obtain ⟨l0, hl0, rfl⟩ := hlm
    simp only [listOf, List.mem_map] at ho
    obtain ⟨o0, ho0, rfl⟩ := ho
    simp only [optWf, mediaWf, Bool.and_true]
    exact txtOfV_wf (hl l0 hl0 o0 ho0)

/-- the row loop of `dealias_and_group_headers`: the recursion of the model's `Headers.mapRows`, written out again
(no lemma identifies the two) -/
def processRows (dk : Str) (hk : List (Str × List Str)) : List (List (Str × Str)) → Except Err (List Kvs)
  | [] => .ok []
  | r :: rs =>
    match processRow dk hk r with
    | .error e => .error e
    | .ok o =>
      match processRows dk hk rs with
      | .error e => .error e
      | .ok os => .ok (o :: os)

theorem processRows_all {dk : Str} {hk : List (Str × List Str)} {P : List (Str × Str) → Prop} {Q : Kvs → Prop}
    (hrow : ∀ r, P r → ∃ o, processRow dk hk r = .ok o ∧ Q o) :
    ∀ (rows : List (List (Str × Str))), (∀ r ∈ rows, P r) →
    ∃ outs, processRows dk hk rows = .ok outs ∧ outs.length = rows.length ∧ ∀ o ∈ outs, Q o
  | [], _ => ⟨[], rfl, rfl, by simp⟩
  | r :: rs, h => by
    obtain ⟨o, ho, hq⟩ := hrow r (h r (by simp))
    obtain ⟨os, hos, hlen, hqs⟩ := processRows_all hrow rs (fun r' hr' => h r' (by simp [hr']))
    exact ⟨o :: os, by simp [processRows, ho, hos], by simp [hlen], List.forall_mem_cons.mpr ⟨hq, hqs⟩⟩

theorem processRows_flat {dk : Str} {hk : List (Str × List Str)} {qs : List Str} :
    ∀ (rows : List (List (Str × Str))), (∀ r ∈ rows, RowOk dk hk qs r) →
    ∃ outs, processRows dk hk rows = .ok outs ∧ outs.length = rows.length ∧ ∀ o ∈ outs, ∀ q ∈ qs, Flat (o.get q) :=
  processRows_all fun _ h => processRow_flat h

theorem mem_keys_of_get_ne {m : Kvs} {k : Str} (h : m.get k ≠ .none) : k ∈ m.keys := by
  rw [← Kvs.has_iff_mem_keys]
  cases hh : m.has k with
  | true => rfl
  | false => exact absurd (Kvs.get_of_not_has m k hh) h

/-! ### `RowOk` as a decidable check, for the non-vacuity examples -/

def noClashFrom (dk : Str) (hk : List (Str × List Str)) (out : Kvs) :
    List (Str × Str) → List (Str × Str) → Bool
  | _, [] => true
  | pre, (h, v) :: rest =>
    (match lookup h hk with
     | some [t] => !isStrV (colFold dk hk t (out.get t) pre)
     | _ => true) && noClashFrom dk hk out (pre ++ [(h, v)]) rest

theorem noClashFrom_sound (dk : Str) (hk : List (Str × List Str)) (out : Kvs) :
    ∀ (rest pre : List (Str × Str)), noClashFrom dk hk out pre rest = true →
      ∀ p h v post, rest = p ++ (h, v) :: post → ∀ t, lookup h hk = some [t] →
        ∀ x, colFold dk hk t (out.get t) (pre ++ p) ≠ .str x
  | [], _, _ => by
    intro p h v post hs
    cases p <;> simp at hs
  | (h0, v0) :: rest, pre, hb => by
    simp only [noClashFrom, Bool.and_eq_true] at hb
    intro p h v post hs t hl x
    cases p with
    | nil =>
      simp only [List.nil_append, List.cons.injEq, Prod.mk.injEq] at hs
      obtain ⟨⟨rfl, rfl⟩, rfl⟩ := hs
      have h1 := hb.1
      rw [hl] at h1
      simp only [List.append_nil]
      intro he
      simp only [he, isStrV] at h1
      cases h1
    | cons c p' =>
      simp only [List.cons_append, List.cons.injEq] at hs
      obtain ⟨rfl, hs'⟩ := hs
      have := noClashFrom_sound dk hk out rest (pre ++ [(h0, v0)]) hb.2 p' h v post hs' t hl x
      simpa [List.append_assoc] using this

def rowOkB (dk : Str) (hk : List (Str × List Str)) (qs : List Str) (row : List (Str × Str)) : Bool :=
  (row.all fun c => c.1 != "__row".toList &&
      (match lookup c.1 hk with | some (_ :: _) => true | _ => false)) &&
  noClashFrom dk hk .nil [] row &&
  (qs.all fun q => row.all fun c =>
      match lookup c.1 hk with | some (t :: ts) => q != t || decide (ts.length ≤ 1) | _ => true) &&
  (row.all fun c => !c.2.isEmpty) &&
  (qs.all fun q => decide ((colCells hk q row).map (·.1)).Nodup)

theorem rowOkB_sound {dk : Str} {hk : List (Str × List Str)} {qs : List Str} {row : List (Str × Str)}
    (h : rowOkB dk hk qs row = true) : RowOk dk hk qs row := by
  simp only [rowOkB, Bool.and_eq_true, List.all_eq_true] at h
  obtain ⟨⟨⟨⟨h1, h2⟩, h3⟩, h4⟩, h5⟩ := h
  refine ⟨?_, ?_, ?_, ?_, ?_⟩
  · intro c hc
    have := h1 c hc
    simp only [bne_iff_ne, ne_eq] at this
    refine ⟨this.1, ?_⟩
    cases hl : lookup c.1 hk with
    | none => rw [hl] at this; simp at this
    | some l =>
      cases l with
      | nil => rw [hl] at this; simp at this
      | cons t ts => exact ⟨t, ts, rfl⟩
  · intro pre h v post hs t hl x
    have := noClashFrom_sound dk hk .nil row [] h2 pre h v post hs t hl x
    simpa using this
  · intro q hq c hc t ts hl hqt
    have := h3 q hq c hc
    rw [hl] at this
    simp only [Bool.or_eq_true, bne_iff_ne, ne_eq, decide_eq_true_eq] at this
    rcases this with h' | h'
    · exact absurd hqt h'
    · exact h'
  · intro c hc
    have := h4 c hc
    intro he
    rw [he] at this
    simp at this
  · intro q hq
    simpa using h5 q hq

def hkSEx : List (Str × List Str) :=
  [("label::fr".toList, ["label".toList, "fr".toList]), ("label".toList, ["label".toList]),
   ("hint::en".toList, ["hint".toList, "en".toList]), ("guidance_hint".toList, ["guidance_hint".toList]),
   ("label::en".toList, ["label".toList, "en".toList])]

/-- two question rows: translated column before the unsuffixed one (the F19 order), a hint in one language
and an untranslated guidance hint; the second row has English only -/
def srowsEx : List (List (Str × Str)) :=
  [[("label::fr".toList, "Qfr".toList), ("label".toList, "Q".toList), ("hint::en".toList, "h".toList),
    ("guidance_hint".toList, "g".toList)],
   [("label::en".toList, "B".toList)]]

/-- a choice list with a sparse translation pattern -/
def crowsEx : List (List (Str × Str)) :=
  [[("label::fr".toList, "Oui".toList), ("label::en".toList, "Yes".toList)], [("label::en".toList, "No".toList)]]

/-- these sheets meet `RowOk` (flat special case of `C07Sheets.refs_exist_rows`), and the conclusion is not vacuous:
5 references (2 labels and 1 hint in the body, 2 itextIds) over 3 translations (fr, default, en) -/
example :
    (srowsEx.all (rowOkB "default".toList hkSEx textCols) && crowsEx.all (rowOkB "default".toList hkSEx ["label".toList])) = true ∧
    (match processRows "default".toList hkSEx srowsEx, processRows "default".toList hkSEx crowsEx with
     | .ok so, .ok co =>
       let x := sheetSurvey "default".toList (["a".toList, "b".toList].zip so) [("yn".toList, co)]
       (C07.refs x).length == 5 && (out x).translations.length == 3
     | _, _ => false) = true := by decide +kernel

/-- non-vacuity of `effective_label`: the first example row (columns `label::fr`, `label`, …) is `RowOk`,
its label column ends up a dict, the spec reads `Qfr` for `fr` and `Q` for the default language, and that is what
the final table holds under `/data/a:label` -/
example :
    (match srowsEx.head? with
     | some row =>
       rowOkB "default".toList hkSEx textCols row &&
       (match processRow "default".toList hkSEx row with
        | .ok o =>
          (match o.get "label".toList with | .dict _ => true | _ => false) &&
          specRead "default".toList (colCells hkSEx "label".toList row) "fr".toList == some "Qfr".toList &&
          specRead "default".toList (colCells hkSEx "label".toList row) "default".toList == some "Q".toList &&
          valueAt (table (sheetSurvey "default".toList [("a".toList, o)] [])) "fr".toList
            (path "/data/a".toList "label") "long".toList == some "Qfr".toList &&
          valueAt (table (sheetSurvey "default".toList [("a".toList, o)] [])) "default".toList
            (path "/data/a".toList "label") "long".toList == some "Q".toList
        | _ => false)
     | none => false) = true := by decide +kernel

end Pyxv.C07Rows
