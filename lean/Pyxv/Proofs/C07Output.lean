import Pyxv.Model.ItextOutput
import Pyxv.Proofs.C06
import Pyxv.Proofs.C07Text
/-!
# C07, DOM level: `<output>` substitution inside itext values

`Pyxv.ItextOut` (Model/ItextOutput.lean) builds the `<value>` element of every final table value with C06's mixed
channel.  Here C06's channel theorems are composed with C07's value-level theorems: for an element `f` of any survey and any
language `l` of a translated slot whose cell is `t0 ${n1} t1 … ${nk} tk` (literal chunks with ANY characters, names resolving in
the survey's own reference table), the itext block holds under `f`'s id, in the translation of `l`, a `<value>` whose children
are exactly the chunks (line ends normalised) interleaved with one `<output value=" xpath "/>` per reference — or the conversion
is rejected, exactly when a chunk holds a character XML does not allow.
-/
namespace Pyxv.C07Output
open Pyxv Pyxv.Itext Pyxv.ItextOut Pyxv.Xml Pyxv.Chan Pyxv.C06 Pyxv.C07Text

/-- the `form` attribute `itext()` gives the `<value>` of content type `f` under text id `p` -/
def formOf (p f : Str) : Option Str :=
  if labelType p == "hint".toList && f == "guidance".toList then some f else none

/-- content types that carry text (not a media file name): everything under a hint id, and `long` -/
def textKind (p f : Str) : Bool := labelType p == "hint".toList || f == "long".toList

/-- a value with references: C06's `mixed_channel_total` under the tag `value`, with the `form` attribute asked for -/
theorem value_dom_refs (refs : List (Str × Str)) (form : Option Str) (c : Cell) (items : List (Str × Str))
    (hc : CellShape refs c items) (hi : NoInstanceExpr c.text) :
    valueDom refs form c.text =
      if textsValid c.head items then .ok (.elem valueTag (formAttr form) (cellKids true c.head items))
      else .pyxformError := by
  unfold valueDom
  rw [mixed_channel_total refs valueTag c items (by decide) hc hi]
  cases textsValid c.head items <;> simp [withAttrs]

/-- a value without references is one text node holding the cell as it is -/
theorem value_dom_plain (refs : List (Str × Str)) (form : Option Str) (s : Str)
    (h : hasDollarBrace s = false) (hi : NoInstanceExpr s) :
    valueDom refs form s = .ok (.elem valueTag (formAttr form) [.text false s]) := by
  unfold valueDom
  rw [mixed_no_ref refs valueTag s h hi]
  simp [withAttrs, nodeText]

/-- the entry `itext()` writes for a text-bearing content type -/
theorem dom_entry_text (refs : List (Str × Str)) (st : Bool) (p : Str) (fb : Str × Str)
    (hk : textKind p fb.1 = true) (hs : (st || !isInfix "${".toList fb.2) = true) :
    domEntry refs st p fb = some (formOf p fb.1, some (valueDom refs (formOf p fb.1) fb.2)) := by
  have hlg : ("long".toList == "guidance".toList) = false := by decide
  unfold domEntry formOf
  unfold textKind at hk
  -- the names of the content types matter only through `long ≠ guidance`; as variables they are not evaluated
  revert hlg hk
  generalize "hint".toList = H
  generalize "guidance".toList = G
  generalize "long".toList = L
  intro hlg hk
  simp only [hs, if_true]
  cases h1 : (labelType p == H) <;> cases h2 : (fb.1 == G) <;> simp_all

/-- a value of the table is found, level by level, in any block built from the table one content type at a time -/
theorem mem_block_of_valueAt {β} (g : Str → Str × Str → Option β) {T : Table} {l p f t : Str} {v : β}
    (hv : valueAt T l p f = some t) (hg : g p (f, t) = some v) :
    ∃ tds, (l, tds) ∈ T.map (fun lps => (lps.1, lps.2.map fun pf => (pf.1, pf.2.filterMap (g pf.1)))) ∧
      ∃ vs, (p, vs) ∈ tds ∧ v ∈ vs := by
  obtain ⟨ps, fs, h1, h2, h3⟩ := valueAt_eq_some.mp hv
  exact ⟨_, List.mem_map.mpr ⟨(l, ps), lookup_mem h1, rfl⟩, _,
    List.mem_map.mpr ⟨(p, fs), lookup_mem h2, rfl⟩, List.mem_filterMap.mpr ⟨(f, t), lookup_mem h3, hg⟩⟩

/-- from the table to the block: for a text-bearing content type (context outside repeats, or no `${` in the text) the
block has, under the same language and id, the `<value>` the mixed channel builds from the table's text -/
theorem dom_of_valueAt (x : Survey) {l p f t : Str} (hv : valueAt (table x) l p f = some t)
    (hk : textKind p f = true) (hs : (stated x p || !isInfix "${".toList t) = true) :
    ∃ tds, (l, tds) ∈ outDoms x ∧ ∃ vs, (p, vs) ∈ tds ∧
      (formOf p f, some (valueDom (nameRefs x) (formOf p f) t)) ∈ vs :=
  mem_block_of_valueAt (fun p => domEntry (nameRefs x) (stated x p) p) hv (dom_entry_text _ _ p (f, t) hk hs)

theorem formOf_long (p : Str) : formOf p "long".toList = none := by
  simp [formOf]

theorem textKind_long (p : Str) : textKind p "long".toList = true := by
  simp [textKind]

/-- what the block holds for a cell with references -/
def RefsValue (x : Survey) (l p : Str) (form : Option Str) (c : Cell) (items : List (Str × Str)) : Prop :=
  ∃ tds, (l, tds) ∈ outDoms x ∧ ∃ vs, (p, vs) ∈ tds ∧
    (form, some (if textsValid c.head items
      then Chan.Outcome.ok (.elem valueTag (formAttr form) (cellKids true c.head items))
      else Chan.Outcome.pyxformError)) ∈ vs

/-- content type `long` (label, hint, bind message, choice label): table value `c.text` ⟹ the `<value>` of the
block, no `form` attribute -/
theorem long_dom (x : Survey) {l p : Str} {c : Cell} {items : List (Str × Str)}
    (hv : valueAt (table x) l p "long".toList = some c.text) (hs : stated x p = true)
    (hc : CellShape (nameRefs x) c items) (hi : NoInstanceExpr c.text) :
    RefsValue x l p none c items := by
  have h := dom_of_valueAt x hv (textKind_long p) (by simp [hs])
  rwa [formOf_long, value_dom_refs _ _ c items hc hi] at h

/-- translated label with references, per language: chunks verbatim interleaved with one `<output>` per
reference, under the element's label id in that language's translation -/
theorem label_dom {x : Survey} (hx : ((flats x).map (·.xpath)).Nodup) {f : Flat} (hf : f ∈ flats x)
    (hv : visited f = true) {pairs : List (Str × Str)} (hl : f.d.label = .dict pairs) (hok : SlotOk f pairs)
    {l : Str} {c : Cell} {items : List (Str × Str)} (hlt : (l, c.text) ∈ pairs)
    (hs : stated x (path f.xpath "label") = true)
    (hc : CellShape (nameRefs x) c items) (hi : NoInstanceExpr c.text) :
    RefsValue x l (path f.xpath "label") none c items :=
  long_dom x (value_label hx hf hv hl hok hlt) hs hc hi

theorem hint_dom {x : Survey} (hx : ((flats x).map (·.xpath)).Nodup) {f : Flat} (hf : f ∈ flats x)
    (hv : visited f = true) {pairs : List (Str × Str)} (hl : f.d.hint = .dict pairs) (hfun : Functional pairs)
    {l : Str} {c : Cell} {items : List (Str × Str)} (hlt : (l, c.text) ∈ pairs)
    (hs : stated x (path f.xpath "hint") = true)
    (hc : CellShape (nameRefs x) c items) (hi : NoInstanceExpr c.text) :
    RefsValue x l (path f.xpath "hint") none c items :=
  long_dom x (value_hint hx hf hv hl hfun hlt) hs hc hi

theorem msg_dom {x : Survey} (hx : ((flats x).map (·.xpath)).Nodup) {f : Flat} (hf : f ∈ flats x)
    (hv : visited f = true) {k : String} (hk : k ∈ ["jr:constraintMsg", "jr:requiredMsg", "jr:noAppErrorString"])
    {pairs : List (Str × Str)} (hm : msgOf f.d k = .dict pairs) (hfun : Functional pairs)
    {l : Str} {c : Cell} {items : List (Str × Str)} (hlt : (l, c.text) ∈ pairs)
    (hs : stated x (path f.xpath k) = true)
    (hc : CellShape (nameRefs x) c items) (hi : NoInstanceExpr c.text) :
    RefsValue x l (path f.xpath k) none c items :=
  long_dom x (value_msg hx hf hv hk hm hfun hlt) hs hc hi

/-- translated choice label with references, per language (choices carry no context: `stated` is only asked of
the id) -/
theorem choice_label_dom {x : Survey} (hn : (x.lists.map (·.name)).Nodup) {cl : CList} (hl : cl ∈ x.lists)
    (hr : requiresItext cl = true) {i : Nat} {o : Opt} (hi : cl.options[i]? = some o)
    {pairs : List (Str × Str)} (hlab : o.label = .dict pairs) (hfun : Functional pairs)
    (hlong : ∀ m, o.media = some m → "long".toList ∉ m.map (·.1))
    {lang : Str} {c : Cell} {items : List (Str × Str)} (hlt : (lang, c.text) ∈ pairs)
    (hs : stated x (choiceId cl.name i) = true)
    (hc : CellShape (nameRefs x) c items) (hin : NoInstanceExpr c.text) :
    RefsValue x lang (choiceId cl.name i) none c items :=
  long_dom x (value_choice_label hn hl hr hi hlab hfun hlong hlt) hs hc hin

/-- the display element of an id `xpath:display` is what follows the last colon of `display` -/
theorem labelType_path (xp d : Str) : labelType (xp ++ ':' :: d) = labelType d := by
  unfold labelType
  rw [List.reverse_append, List.reverse_cons, List.append_assoc]
  simp only [List.singleton_append]
  rw [(dropWhile_append_stop _ _ _ (by simp)).2]

theorem formOf_guidance (xp : Str) : formOf (path xp "hint") "guidance".toList = some "guidance".toList := by
  unfold formOf path
  rw [labelType_path]
  decide

theorem textKind_guidance (xp : Str) : textKind (path xp "hint") "guidance".toList = true := by
  unfold textKind path
  rw [labelType_path]
  decide

/-- translated guidance hint with references, per language: the `<value form="guidance">` under the hint id -/
theorem guidance_dom {x : Survey} (hx : ((flats x).map (·.xpath)).Nodup) {f : Flat} (hf : f ∈ flats x)
    (hv : visited f = true) {pairs : List (Str × Str)} (hl : f.d.guidance = .dict pairs) (hfun : Functional pairs)
    {l : Str} {c : Cell} {items : List (Str × Str)} (hlt : (l, c.text) ∈ pairs)
    (hs : stated x (path f.xpath "hint") = true)
    (hc : CellShape (nameRefs x) c items) (hi : NoInstanceExpr c.text) :
    RefsValue x l (path f.xpath "hint") (some "guidance".toList) c items := by
  have h := dom_of_valueAt x (value_guidance hx hf hv hl hfun hlt) (textKind_guidance _) (by simp [hs])
  rwa [formOf_guidance, value_dom_refs _ _ c items hc hi] at h

/-- question `n` with a translated label (two references in English, markup characters around them), a translated
hint and a translated guidance hint, next to the referenced questions -/
def exSurvey : Survey :=
  { defaultLanguage := "default".toList
    lists := []
    root := .node (C07.q .group "data" .none .none .none) [
      .node (C07.q .control "a" (.str "A".toList) .none .none) [],
      .node (C07.q .control "n" (C07.tr [("en", "Hi ${a}, <b> & ${last-saved#a}!"), ("fr", "Salut")])
              (C07.tr [("fr", "h ${a}")]) (C07.tr [("fr", "${a} g")])) [] ] }

def exC : Cell := ⟨"Hi ".toList, [("a".toList, ", <b> & ".toList), ("last-saved#a".toList, "!".toList)]⟩
def exI : List (Str × Str) :=
  [(" /data/a ".toList, ", <b> & ".toList), (" instance('__last-saved')/data/a ".toList, "!".toList)]
def exG : Cell := ⟨[], [("a".toList, " g".toList)]⟩
def exGI : List (Str × Str) := [(" /data/a ".toList, " g".toList)]

instance (ps : List (Str × Str)) : Decidable (Functional ps) := by unfold Functional; infer_instance

theorem exC_shape : CellShape (nameRefs exSurvey) exC exI := by
  simp only [exC, exI, toList_lit rfl]
  exact ⟨by decide +kernel, ⟨by decide +kernel, by decide +kernel, by decide +kernel, by decide +kernel, trivial⟩,
   by decide +kernel, ⟨by decide +kernel, by decide +kernel, trivial⟩, by decide +kernel⟩

theorem exG_shape : CellShape (nameRefs exSurvey) exG exGI :=
  ⟨by decide +kernel, ⟨by decide +kernel, by decide +kernel, trivial⟩, by decide +kernel,
   ⟨by decide +kernel, trivial⟩, by decide +kernel⟩

theorem exC_noInstance : NoInstanceExpr exC.text := by decide +kernel

theorem exC_valid : textsValid exC.head exI = true := by decide +kernel

/-- `value_dom_refs` / `value_dom_plain` instantiated -/
example : valueDom (nameRefs exSurvey) (some "guidance".toList) exC.text =
    .ok (.elem valueTag [("form".toList, "guidance".toList)] (cellKids true exC.head exI)) := by
  rw [value_dom_refs _ _ exC exI exC_shape exC_noInstance]
  simp [exC_valid, formAttr]
example : valueDom [] none "<b> & $ { }".toList = .ok (.elem valueTag [] [.text false "<b> & $ { }".toList]) :=
  value_dom_plain [] none _ (by decide +kernel) (by decide +kernel)

/-- `dom_entry_text`, `dom_of_valueAt`, `long_dom` instantiated: the English label of `n` in the itext block -/
theorem exSurvey_label_en : RefsValue exSurvey "en".toList (path "/data/n".toList "label") none exC exI :=
  long_dom exSurvey (by decide +kernel) (by decide +kernel) exC_shape exC_noInstance

example : RefsValue exSurvey "en".toList (path "/data/n".toList "label") none exC exI := exSurvey_label_en

/-- … and computed by the kernel, as `writexml` serialises it (boundary spaces of mixed content included): the typed
`<b> &` is character data, the two references are the only elements -/
example :
    (outDoms exSurvey).any (fun lt => lt.1 == "en".toList && lt.2.any fun td =>
      td.1 == "/data/n:label".toList && td.2.any fun fv => fv.1 == none &&
        (match fv.2 with
         | some (.ok n) => render [] [] [] n ==
             "<value> Hi <output value=\" /data/a \"/>, &lt;b&gt; &amp; <output value=\" instance('__last-saved')/data/a \"/>! </value>".toList
         | _ => false)) = true := by
  -- the entry is the one `long_dom` describes; only its serialisation is left to compute
  obtain ⟨tds, h1, vs, h2, h3⟩ := exSurvey_label_en
  rw [exC_valid, if_pos rfl] at h3
  simp only [List.any_eq_true, Bool.and_eq_true]
  refine ⟨_, h1, ?_, _, h2, ?_, _, h3, ?_, ?_⟩ <;> simp only [toList_lit rfl] <;> decide +kernel

/-- the hypotheses of `label_dom` / `hint_dom` / `guidance_dom` / `msg_dom` hold for `n` in `exSurvey`: `label_dom`
and `guidance_dom` instantiated at the element itself -/
example :
    RefsValue exSurvey "en".toList (path ((flats exSurvey)[1]'(by decide +kernel)).xpath "label") none exC exI ∧
    RefsValue exSurvey "fr".toList (path ((flats exSurvey)[1]'(by decide +kernel)).xpath "hint")
      (some "guidance".toList) exG exGI := by
  have hx : ((flats exSurvey).map (·.xpath)).Nodup := by decide +kernel
  have hm : ((flats exSurvey)[1]'(by decide +kernel)).d.media = none := by decide +kernel
  refine ⟨label_dom hx (List.getElem_mem _) (by decide +kernel)
      (pairs := [("en".toList, exC.text), ("fr".toList, "Salut".toList)]) (by decide +kernel)
      ⟨by decide +kernel, fun m h => by rw [hm] at h; cases h⟩ (by decide +kernel) (by decide +kernel) exC_shape
      exC_noInstance, ?_⟩
  exact guidance_dom hx (List.getElem_mem _) (by decide +kernel)
      (pairs := [("fr".toList, exG.text)]) (by decide +kernel) (by decide +kernel) (by decide +kernel)
      (by decide +kernel) exG_shape
      (by decide +kernel)

/-- non-vacuity of `choice_label_dom` / `msg_dom`: their value-level hypotheses are those of `value_choice_label` /
`value_msg` (witnessed in `C07Text`); the cell hypotheses are `exC_shape` -/
example : CellShape (nameRefs exSurvey) exC exI ∧ NoInstanceExpr exC.text ∧
    stated exSurvey (choiceId "c".toList 0) = true ∧
    stated exSurvey (path "/data/n".toList "jr:constraintMsg") = true :=
  ⟨exC_shape, exC_noInstance, by decide +kernel, by decide +kernel⟩

end Pyxv.C07Output
