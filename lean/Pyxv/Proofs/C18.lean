import Pyxv.Proofs.Literals
import Pyxv.Proofs.ValidatorLemmas
import Pyxv.Proofs.ValidatorLines
import Pyxv.Proofs.ExtChoicesLemmas
/-!
# C18 — validator verdicts are honoured and failures leave no residue

Theorems about the model `Pyxv.Validator`.  Unless a hypothesis says otherwise they quantify over every validator
outcome (`Env`: java missing, or any return code / watchdog flag / stderr text), conversion outcome (`Form`), flag
combination (`Args`) and initial file system.  `t` numbers the temporary file `NamedTemporaryFile` creates;
`FS.read fs (.tmp t) = none` says that it is fresh (what `O_EXCL` guarantees).
-/
namespace Pyxv.Validator

/-- the codes the property names: 100 / 101 / 999 -/
theorem cli_codes : codeOk = 100 ∧ codeWarn = 101 ∧ codeFail = 999 := by decide

/-- the characters XLSForm names are commonly made of are path-segment characters; `$ { }` and blanks are not -/
theorem seg_chars_ascii :
    ("abcdefghijklmnopqrstuvwxyzABCDEFGHIJKLMNOPQRSTUVWXYZ0123456789_-".toList.all isSeg) = true ∧
    ("${} \t\n.,[]()='\"".toList.any isSeg) = false := by
  simp only [toList_lit rfl]
  decide +kernel

/-- the shape of ERROR_MESSAGE_REGEX the token scan relies on (probed on the compiled regex) -/
theorem regex_shape : Gen.c18RegexShape.all (fun p => p.2) = true := by decide

/-- the three string tables of the cleaner as the source has them; `toList_lit` makes character lists of them -/
theorem cleaner_tables :
    jarfilePhrase = "Error: Unable to access jarfile".toList ∧
    noiseMarkers = [".java:".toList, "\tat".toList] ∧
    excPrefixes = ["java.lang.RuntimeException: ".toList, "org.javarosa.xpath.XPathUnhandledException: ".toList,
      "java.lang.NullPointerException".toList, "org.javarosa.xform.parse.XFormParseException".toList] := ⟨rfl, rfl, rfl⟩

/-- the cleaner with its string tables in sight, so that `cleaner_tables` can rewrite them before anything is evaluated -/
theorem cleaner_chars : odkValidate = (fun msg => if isInfix jarfilePhrase msg then msg else
      joinWith ['\n'] ((cleanupErrors msg).filterMap fun line =>
        if isNoisy line then none else if isNoisy (stripExc line) then none else some (stripExc line))) ∧
    isNoisy = (fun line => noiseMarkers.any fun m => isInfix m line) ∧
    stripExc = (fun line => excPrefixes.foldl (fun l p => if startsWith l p then removeAll p l else l) line) :=
  ⟨rfl, rfl, rfl⟩

theorem cleaner_tables_nonempty :
    noiseMarkers ≠ [] ∧ (noiseMarkers.all fun m => m ≠ []) ∧ (excPrefixes.all fun m => m ≠ []) ∧ jarfilePhrase ≠ [] := by
  simp only [cleaner_tables, toList_lit rfl]
  decide +kernel

/-- the model's `isLineBreak` is Python's `str.splitlines()` boundary set (probed over every code point) -/
theorem isLineBreak_table (c : Char) : isLineBreak c = Gen.c18LineBreaks.contains c.toNat := by
  have h : Gen.c18LineBreaks = [10, 11, 12, 13, 28, 29, 30, 133, 8232, 8233] := by decide
  rw [h, Bool.eq_iff_iff]
  simp [isLineBreak]
  omega

/-- the blanks the strip lemmas reason about are exactly what Python's `str.strip()` removes (probed) -/
theorem strip_blanks_table : Gen.c18StripBlanks = spaceNats := by decide

/-- … and `pyIsSpace` (Base) accepts exactly those code points -/
theorem pyIsSpace_table (c : Char) : pyIsSpace c = Gen.c18StripBlanks.contains c.toNat := by
  rw [strip_blanks_table, Bool.eq_iff_iff, pyIsSpace_iff_mem, List.contains_iff_mem]

theorem watchdog_positive : 0 < Gen.c18ValidatorTimeout := by decide

/-- whatever `print_xform_to_file` does to `path` (nothing, write, write and unlink), no other file is touched -/
theorem unlink_printXform (form : Form) (path : Path) (v p : Bool) (env : Env) (fs : FS) :
    FS.unlink (printXformToFile form path v p env fs).fs path = FS.unlink fs path := by
  cases form with
  | early m => rfl
  | late m => rfl
  | unencodable m => simp [printXformToFile, unlink_unlink, unlink_write]
  | diskFault m => simp [printXformToFile, unlink_unlink, unlink_write]
  | ok ugly pretty items preW postW =>
    have : (printXformToFile (.ok ugly pretty items preW postW) path v p env fs).fs
        = FS.write fs path (if p then pretty else ugly) := by
      unfold printXformToFile
      cases v
      · rfl
      · cases checkXform env <;> rfl
    rw [this, unlink_write]

/-- `to_xml` leaves the file system exactly as it found it, whatever happens inside (`finally`). -/
theorem toXml_fs (form : Form) (t : Nat) (v p : Bool) (env : Env) (fs : FS) (hfresh : FS.read fs (.tmp t) = none) :
    (toXml form t v p env fs).fs = fs := by
  show FS.unlink (printXformToFile form (.tmp t) v p env (FS.write fs (.tmp t) [])).fs (.tmp t) = fs
  rw [unlink_printXform, unlink_write, unlink_fresh fs _ hfresh]

/-- Library call: the file system after `convert` equals the one before, whatever the validator and the conversion
do — no temporary file survives. -/
theorem no_temp_survives_lib (form : Form) (t : Nat) (v p : Bool) (env : Env) (fs : FS)
    (hfresh : FS.read fs (.tmp t) = none) : (convert form t v p env fs).fs = fs := by
  have h := toXml_fs form t v p env fs hfresh
  -- `early` returns before `to_xml`; every other branch of `convert` hands on the file system `to_xml` left
  cases form with
  | early m => rfl
  | _ => simp only [convert]; split <;> exact h

/-- shorthand: the library call `main_cli` ends up making -/
abbrev libCall (raw : Args) (form : Form) (t : Nat) (env : Env) (fs : FS) : LibOut :=
  convert form t (validatorArgsLogic raw).odkValidate (validatorArgsLogic raw).prettyPrint env fs

/-- the result of `convert`: a function of the conversion outcome, the flags and the validator outcome alone -/
def convertRes (form : Form) (v p : Bool) (env : Env) : Except Exc ConvertResult :=
  match form with
  | .early m => .error (.pyxform m)
  | .late m => .error (.pyxform m)
  | .unencodable m => .error (.encode m)
  | .diskFault m => .error (.osError m)
  | .ok ugly pretty items preW postW =>
    match (if v then checkXform env else .ok []) with
    | .error e => .error e
    | .ok w => .ok ⟨if p then pretty else ugly, preW ++ (w ++ postW), items⟩

theorem convert_res (form : Form) (t : Nat) (v p : Bool) (env : Env) (fs : FS) :
    (convert form t v p env fs).res = convertRes form v p env := by
  cases form with
  | ok ugly pretty items preW postW =>
    cases v
    · simp [convert, toXml, printXformToFile, convertRes]
    · cases h : checkXform env <;> simp [convert, toXml, printXformToFile, convertRes, h]
  | _ => rfl

theorem xls2xformConvert_eq (form : Form) (t : Nat) (d n : Str) (v p : Bool) (env : Env) (fs : FS) :
    xls2xformConvert form t d n v p env fs =
      match convertRes form v p env with
      | .error e => ⟨(convert form t v p env fs).fs, (convert form t v p env fs).seen, [], .error e⟩
      | .ok cr => ⟨written (convert form t v p env fs).fs d n cr, (convert form t v p env fs).seen,
                   itemsLogs d cr, .ok cr.warnings⟩ := by
  unfold xls2xformConvert
  rw [convert_res]
  rfl

theorem temps_written (fs : FS) (d n : Str) (cr : ConvertResult) : FS.temps (written fs d n cr) = FS.temps fs := by
  unfold written
  split <;> simp [temps_write_file]

theorem xls2xformConvert_temps {form : Form} {t : Nat} {d n : Str} {v p : Bool} {env : Env} {fs : FS}
    (hfresh : FS.read fs (.tmp t) = none) :
    FS.temps (xls2xformConvert form t d n v p env fs).fs = FS.temps fs := by
  have h := no_temp_survives_lib form t v p env fs hfresh
  unfold xls2xformConvert
  split <;> simp [h, temps_written]

theorem jsonReport_ok_fs (x : ConvOut) : (jsonReport x).fs = x.fs := by
  unfold jsonReport; split <;> rfl

theorem plainReport_temps (x : ConvOut) (d n : Str) : FS.temps (plainReport x d n).fs = FS.temps x.fs := by
  unfold plainReport; split <;> simp [temps_unlink_file]

theorem mainCli_some {raw : Args} {inDir inName : Str} {out : Option (Str × Str)} {form : Form} {t : Nat}
    {env : Env} {fs : FS} (he : (validatorArgsLogic raw).enketoValidate = false) :
    mainCli raw inDir inName out form t env fs = some
      (if (validatorArgsLogic raw).json then
          jsonReport (xls2xformConvert form t (outPathOf inDir inName out).1 (outPathOf inDir inName out).2
            (validatorArgsLogic raw).odkValidate (validatorArgsLogic raw).prettyPrint env fs)
        else
          plainReport (xls2xformConvert form t (outPathOf inDir inName out).1 (outPathOf inDir inName out).2
            (validatorArgsLogic raw).odkValidate (validatorArgsLogic raw).prettyPrint env fs)
            (outPathOf inDir inName out).1 (outPathOf inDir inName out).2) := by
  simp [mainCli, he]

theorem mainCli_enketo {raw : Args} {inDir inName : Str} {out : Option (Str × Str)} {form : Form} {t : Nat}
    {env : Env} {fs : FS} {r : CliOut} (h : mainCli raw inDir inName out form t env fs = some r) :
    (validatorArgsLogic raw).enketoValidate = false := by
  cases he : (validatorArgsLogic raw).enketoValidate with
  | false => rfl
  | true => simp [mainCli, he] at h

/-- command line: the temporary files after `main_cli` are those before it. -/
theorem no_temp_survives (raw : Args) (inDir inName : Str) (out : Option (Str × Str)) (form : Form) (t : Nat)
    (env : Env) (fs : FS) (r : CliOut) (hfresh : FS.read fs (.tmp t) = none)
    (h : mainCli raw inDir inName out form t env fs = some r) : FS.temps r.fs = FS.temps fs := by
  rw [mainCli_some (mainCli_enketo h)] at h
  obtain rfl := Option.some.inj h
  split
  · rw [jsonReport_ok_fs]; exact xls2xformConvert_temps hfresh
  · rw [plainReport_temps]; exact xls2xformConvert_temps hfresh

/-- corollary in the form of the property text: an empty temp directory stays empty -/
theorem no_temp_survives_empty (raw : Args) (inDir inName : Str) (out : Option (Str × Str)) (form : Form) (t : Nat)
    (env : Env) (fs : FS) (r : CliOut) (hempty : FS.temps fs = [])
    (h : mainCli raw inDir inName out form t env fs = some r) : FS.temps r.fs = [] := by
  have hfresh : FS.read fs (.tmp t) = none := by
    rw [read_none_iff]
    intro e he heq
    have : e ∈ FS.temps fs := by simp [FS.temps, he, heq, Path.isTmp]
    rw [hempty] at this
    exact absurd this (by simp)
  rw [no_temp_survives raw inDir inName out form t env fs r hfresh h, hempty]

/-- a validator verdict "reject": the process ran to completion with a positive return code -/
def Rejects (env : Env) (stderr : Str) : Prop := ∃ rc : Int, rc > 0 ∧ env = .ran ⟨rc, false, stderr⟩

theorem reject_res {ugly pretty : Str} {items : Option Str} {preW postW : List Str} {p : Bool}
    {env : Env} {stderr : Str} (h : Rejects env stderr) :
    convertRes (.ok ugly pretty items preW postW) true p env
      = .error (.odkValidate (msgErrorsPrefix ++ odkValidate stderr)) := by
  obtain ⟨rc, hrc, rfl⟩ := h
  simp [convertRes, checkXform, hrc]

/-- `convert(validate=True)` on a convertible form raises ODKValidateError carrying the cleaned diagnostic. -/
theorem reject_raises (ugly pretty : Str) (items : Option Str) (preW postW : List Str) (t : Nat) (p : Bool)
    (env : Env) (stderr : Str) (fs : FS) (h : Rejects env stderr) :
    (convert (.ok ugly pretty items preW postW) t true p env fs).res
      = .error (.odkValidate (msgErrorsPrefix ++ odkValidate stderr)) :=
  (convert_res ..).trans (reject_res h)

/-- validation is requested on the command line: no `--skip_validate`, no `--enketo_validate` -/
def OdkRequested (raw : Args) : Prop := raw.skipValidate = true ∧ raw.enketoValidate = false

theorem odkRequested_logic (raw : Args) (h : OdkRequested raw) :
    (validatorArgsLogic raw).odkValidate = true ∧ (validatorArgsLogic raw).enketoValidate = false ∧
    (validatorArgsLogic raw).json = raw.json ∧ (validatorArgsLogic raw).prettyPrint = raw.prettyPrint := by
  obtain ⟨h1, h2⟩ := h
  rcases raw with ⟨j, s, o, e, pp⟩
  simp only at h1 h2
  subst h1 h2
  cases o <;> simp [validatorArgsLogic]

/-- `--json`, validator rejects: code 999 with the cleaned diagnostic as message, no warnings, nothing raised, and the
file system is *unchanged* (no XForm, no itemsets.csv, a pre-existing output file keeps its content). -/
theorem reject_cli_json_999_no_output_written (raw : Args) (inDir inName : Str) (out : Option (Str × Str))
    (ugly pretty : Str) (items : Option Str) (preW postW : List Str) (t : Nat) (env : Env) (stderr : Str) (fs : FS)
    (hreq : OdkRequested raw) (hjson : raw.json = true) (hrej : Rejects env stderr)
    (hfresh : FS.read fs (.tmp t) = none) :
    ∃ r, mainCli raw inDir inName out (.ok ugly pretty items preW postW) t env fs = some r ∧
      r.json = some ⟨codeFail, msgErrorsPrefix ++ odkValidate stderr, []⟩ ∧ r.raised = none ∧ r.fs = fs ∧
      codeFail = 999 := by
  obtain ⟨ho, he, hj, _⟩ := odkRequested_logic raw hreq
  refine ⟨_, mainCli_some he, ?_⟩
  rw [xls2xformConvert_eq, ho, reject_res hrej, no_temp_survives_lib _ _ _ _ _ _ hfresh,
    hj, hjson]
  exact ⟨rfl, rfl, rfl, cli_codes.2.2⟩

/-- plain mode, validator rejects: an error is logged, nothing propagates, and the output path does not exist
afterwards — also when it existed before; the rest of the file system is untouched. -/
theorem reject_cli_plain_unlinks (raw : Args) (inDir inName : Str) (out : Option (Str × Str))
    (ugly pretty : Str) (items : Option Str) (preW postW : List Str) (t : Nat) (env : Env) (stderr : Str) (fs : FS)
    (hreq : OdkRequested raw) (hjson : raw.json = false) (hrej : Rejects env stderr)
    (hfresh : FS.read fs (.tmp t) = none) :
    ∃ r, mainCli raw inDir inName out (.ok ugly pretty items preW postW) t env fs = some r ∧
      FS.read r.fs (.file (outPathOf inDir inName out).1 (outPathOf inDir inName out).2) = none ∧
      r.fs = FS.unlink fs (.file (outPathOf inDir inName out).1 (outPathOf inDir inName out).2) ∧
      r.logs = [.exception (plainLogFor "ODKValidateError") "ODKValidateError"] ∧ r.raised = none ∧ r.json = none := by
  obtain ⟨ho, he, hj, _⟩ := odkRequested_logic raw hreq
  refine ⟨_, mainCli_some he, ?_⟩
  rw [xls2xformConvert_eq, ho, reject_res hrej, no_temp_survives_lib _ _ _ _ _ _ hfresh,
    hj, hjson]
  exact ⟨read_unlink_same _ _, rfl, rfl, rfl, rfl⟩

/-- a validator verdict "accept": return code 0, watchdog silent -/
def Accepts (env : Env) (stderr : Str) : Prop := env = .ran ⟨0, false, stderr⟩

/-- the warnings `convert(validate=True)` returns when the validator accepts: conversion warnings, then the
validator's stderr (one entry, only if non-empty), then the language-tag warning -/
def acceptWarnings (preW postW : List Str) (stderr : Str) : List Str :=
  preW ++ (if stderr ≠ [] then [msgWarningsPrefix ++ stderr] else []) ++ postW

theorem accept_res {ugly pretty : Str} {items : Option Str} {preW postW : List Str} {p : Bool}
    {env : Env} {stderr : Str} (h : Accepts env stderr) :
    convertRes (.ok ugly pretty items preW postW) true p env
      = .ok ⟨if p then pretty else ugly, acceptWarnings preW postW stderr, items⟩ := by
  subst h
  by_cases hs : stderr = [] <;> simp [convertRes, checkXform, acceptWarnings, hs]

/-- `--json`, validator accepts: the response carries exactly the warnings of the library call (the validator's
stderr among them iff it is non-empty); the code is 101 iff that list is non-empty, else 100. -/
theorem accept_warnings_codes (raw : Args) (inDir inName : Str) (out : Option (Str × Str))
    (ugly pretty : Str) (items : Option Str) (preW postW : List Str) (t : Nat) (env : Env) (stderr : Str) (fs : FS)
    (hreq : OdkRequested raw) (hjson : raw.json = true) (hacc : Accepts env stderr) :
    ∃ r j, mainCli raw inDir inName out (.ok ugly pretty items preW postW) t env fs = some r ∧ r.json = some j ∧
      r.raised = none ∧ j.warnings = acceptWarnings preW postW stderr ∧
      (j.code = 101 ↔ j.warnings ≠ []) ∧ (j.code = 100 ↔ j.warnings = []) ∧
      (stderr ≠ [] → (msgWarningsPrefix ++ stderr) ∈ j.warnings ∧ j.code = 101) := by
  obtain ⟨ho, he, hj, _⟩ := odkRequested_logic raw hreq
  obtain ⟨c100, c101, _⟩ := cli_codes
  refine ⟨_, if acceptWarnings preW postW stderr ≠ [] then ⟨codeWarn, msgOkWarn, acceptWarnings preW postW stderr⟩
    else ⟨codeOk, msgOk, acceptWarnings preW postW stderr⟩, mainCli_some he, ?_⟩
  rw [xls2xformConvert_eq, ho, accept_res hacc, hj, hjson]
  refine ⟨rfl, rfl, ?_⟩
  by_cases hw : acceptWarnings preW postW stderr = []
  · have hs : stderr = [] := by
      cases stderr with
      | nil => rfl
      | cons c cs => simp [acceptWarnings] at hw
    subst hs
    simp [hw, c100]
  · simp only [ne_eq, hw, not_false_eq_true, if_true, c101, iff_false, true_and]
    exact ⟨by decide, fun hs => ⟨by simp [acceptWarnings, hs], trivial⟩⟩

theorem cli_fs_of_lib_ok {raw : Args} {inDir inName : Str} {out : Option (Str × Str)} {form : Form} {t : Nat}
    {env : Env} {fs : FS} {r : CliOut} {cr : ConvertResult}
    (h : mainCli raw inDir inName out form t env fs = some r)
    (hlib : (libCall raw form t env fs).res = .ok cr) :
    r.fs = written (libCall raw form t env fs).fs (outPathOf inDir inName out).1 (outPathOf inDir inName out).2 cr := by
  rw [mainCli_some (mainCli_enketo h)] at h
  obtain rfl := Option.some.inj h
  simp only [libCall, convert_res] at hlib
  rw [xls2xformConvert_eq, hlib]
  split <;> rfl

/-- every mode: whenever the library call with the same effective flags returns a result, the file at the output path
holds exactly `result.xform` — unless the output is itself named like the itemsets file while external choices exist
(`hname`; its complement is finding C18-F3). -/
theorem file_equals_library_result (raw : Args) (inDir inName : Str) (out : Option (Str × Str)) (form : Form) (t : Nat)
    (env : Env) (fs : FS) (r : CliOut) (cr : ConvertResult)
    (h : mainCli raw inDir inName out form t env fs = some r)
    (hlib : (libCall raw form t env fs).res = .ok cr)
    (hname : (outPathOf inDir inName out).2 ≠ itemsetsName ∨ cr.itemsets = none) :
    FS.read r.fs (.file (outPathOf inDir inName out).1 (outPathOf inDir inName out).2) = some cr.xform := by
  rw [cli_fs_of_lib_ok h hlib]
  unfold written
  cases hi : cr.itemsets with
  | none => exact read_write_same _ _ _
  | some items =>
    have hne : (outPathOf inDir inName out).2 ≠ itemsetsName := by
      rcases hname with hn | hn
      · exact hn
      · rw [hi] at hn; exact absurd hn (by simp)
    simp only []
    rw [read_write_other _ _ _ _ (by intro e; injection e with _ e2; exact hne e2)]
    exact read_write_same _ _ _

/-- whenever the library call returns external choices, `itemsets.csv` in the directory
of the output path holds exactly `result.itemsets` (no side condition: it is written last). -/
theorem itemsets_beside (raw : Args) (inDir inName : Str) (out : Option (Str × Str)) (form : Form) (t : Nat)
    (env : Env) (fs : FS) (r : CliOut) (cr : ConvertResult) (items : Str)
    (h : mainCli raw inDir inName out form t env fs = some r)
    (hlib : (libCall raw form t env fs).res = .ok cr)
    (hitems : cr.itemsets = some items) :
    FS.read r.fs (.file (outPathOf inDir inName out).1 itemsetsName) = some items := by
  rw [cli_fs_of_lib_ok h hlib]
  simp only [written, hitems]
  exact read_write_same _ _ _

/-- the temp-file write inside `print_xform_to_file` fails: disk fault (OSError) or unencodable text -/
def writeFailure (form : Form) (e : Exc) : Prop :=
  (∃ m, form = .diskFault m ∧ e = .osError m) ∨ (∃ m, form = .unencodable m ∧ e = .encode m)

theorem convert_writeFailure {form : Form} {e : Exc} (t : Nat) (v p : Bool) (env : Env) (fs : FS)
    (h : writeFailure form e) :
    convertRes form v p env = .error e ∧ (convert form t v p env fs).seen = [] := by
  rcases h with ⟨m, rfl, rfl⟩ | ⟨m, rfl, rfl⟩ <;> exact ⟨rfl, rfl⟩

/-- crash point "writing the XForm text to the temporary file fails" (the `except` branch of `print_xform_to_file`),
library and command line: the validator is never started, the file system afterwards equals the one before, `--json`
reports 999 with the error text; plain mode logs an OSError as "EnvironmentError" and lets any other exception propagate. -/
theorem write_failure_cli (raw : Args) (inDir inName : Str) (out : Option (Str × Str)) (form : Form) (e : Exc) (t : Nat)
    (env : Env) (fs : FS) (h : writeFailure form e) (he : (validatorArgsLogic raw).enketoValidate = false)
    (hfresh : FS.read fs (.tmp t) = none) :
    (libCall raw form t env fs).res = .error e ∧ (libCall raw form t env fs).fs = fs ∧
    ∃ r, mainCli raw inDir inName out form t env fs = some r ∧ r.fs = fs ∧ r.seen = [] ∧
      ((validatorArgsLogic raw).json = true → r.json = some ⟨codeFail, e.msg, []⟩ ∧ r.raised = none ∧ r.logs = []) ∧
      ((validatorArgsLogic raw).json = false → r.json = none ∧
        (∀ m, e = .osError m → r.raised = none ∧ r.logs = [.exception (plainLogFor "OSError") "OSError"]) ∧
        (∀ m, e = .encode m → r.raised = some e ∧ r.logs = [])) := by
  obtain ⟨hc, hseen⟩ := convert_writeFailure t (validatorArgsLogic raw).odkValidate (validatorArgsLogic raw).prettyPrint env fs h
  have hl := no_temp_survives_lib form t (validatorArgsLogic raw).odkValidate (validatorArgsLogic raw).prettyPrint env fs hfresh
  refine ⟨(convert_res ..).trans hc, hl, _, mainCli_some he, ?_⟩
  rw [xls2xformConvert_eq, hc, hl, hseen]
  cases hj : (validatorArgsLogic raw).json with
  | true => simp [jsonReport]
  | false => rcases h with ⟨m, rfl, rfl⟩ | ⟨m, rfl, rfl⟩ <;> simp [plainReport, Exc.cls]

/-- the eight rows (stored `skip_validate`, `--odk_validate`, `--enketo_validate`) ↦ (run ODK Validate, run Enketo
Validate); the six the Python docstring of `_validator_args_logic` lists are among them, as documented. -/
theorem args_logic_table :
    (List.map (fun (x : Bool × Bool × Bool) =>
        let a := validatorArgsLogic { skipValidate := x.1, odkValidate := x.2.1, enketoValidate := x.2.2 }
        (a.odkValidate, a.enketoValidate))
      [(true, false, false), (true, true, false), (true, false, true), (true, true, true),
       (false, false, false), (false, true, false), (false, false, true), (false, true, true)])
    = [(true, false), (true, false), (false, true), (true, true),
       (false, false), (false, false), (false, false), (false, false)] := by decide

/-- for *every* `Args` value: `--skip_validate` switches both validators off; otherwise Enketo runs iff asked for and
ODK runs iff asked for or nothing is asked for; no other field changes. -/
theorem args_logic_spec (a : Args) :
    let b := validatorArgsLogic a
    b.odkValidate = (a.skipValidate && (a.odkValidate || !a.enketoValidate)) ∧
    b.enketoValidate = (a.skipValidate && a.enketoValidate) ∧
    b.json = a.json ∧ b.prettyPrint = a.prettyPrint ∧ b.skipValidate = a.skipValidate := by
  rcases a with ⟨j, s, o, e, p⟩
  cases s <;> cases o <;> cases e <;> simp [validatorArgsLogic]

/-- after `_cleanup_errors` no two neighbouring lines are equal, no line is invented and none is lost. -/
theorem cleaner_dedup (msg : Str) :
    noAdjDup (cleanupErrors msg) = true ∧
    (∀ l, l ∈ cleanupErrors msg ↔ l ∈ splitlines (strip (subPaths msg))) ∧
    (cleanupErrors msg).Sublist (splitlines (strip (subPaths msg))) :=
  ⟨dedupAdj_noAdjDup _, fun l => dedupAdj_mem _ l, dedupAdj_sublist _⟩

/-- for every message but the launcher's "Unable to access jarfile": the result is the `\n`-join of lines none of which
carries a stack marker (`.java:` / `\tat`); each stems from a marker-free line of `_cleanup_errors`' result by deleting
the exception names, and every line with a marker is gone. -/
theorem cleaner_no_java_noise (msg : Str) (hjar : isInfix jarfilePhrase msg = false) :
    odkValidate msg = joinWith ['\n'] (cleanLines msg) ∧
    (∀ l ∈ cleanLines msg, isNoisy l = false ∧ ∃ l0 ∈ cleanupErrors msg, isNoisy l0 = false ∧ l = stripExc l0) ∧
    cleanLines msg = (((cleanupErrors msg).filter (fun l => !isNoisy l)).map stripExc).filter (fun l => !isNoisy l) := by
  refine ⟨by simp [odkValidate, hjar], ?_, ?_⟩
  · intro l hl
    simp only [cleanLines, List.mem_filterMap, removeJava] at hl
    obtain ⟨l0, h0, h1⟩ := hl
    by_cases hn : isNoisy l0 = true
    · simp [hn] at h1
    · by_cases hn2 : isNoisy (stripExc l0) = true
      · simp [hn, hn2] at h1
      · simp only [hn, hn2] at h1
        have hl : l = stripExc l0 := by simpa using h1.symm
        exact ⟨by rw [hl]; simpa using hn2, l0, h0, by simpa using hn, hl⟩
  · simp only [cleanLines]
    induction cleanupErrors msg with
    | nil => rfl
    | cons x rest ih =>
      by_cases hn : isNoisy x = true
      · simp [removeJava, hn, ih]
      · by_cases hn2 : isNoisy (stripExc x) = true <;>
          simp [removeJava, hn, hn2, ih]

/-- finding C18-F1: the line itself has no marker, its cleaned form has one — it is dropped -/
example : isNoisy "java.lang.RuntimeException: Foo.javajava.lang.RuntimeException: :12".toList = false ∧
    isNoisy (stripExc "java.lang.RuntimeException: Foo.javajava.lang.RuntimeException: :12".toList) = true ∧
    odkValidate "java.lang.RuntimeException: Foo.javajava.lang.RuntimeException: :12\nkept".toList = "kept".toList := by
  simp only [cleaner_chars, cleaner_tables, toList_lit rfl]
  decide +kernel

/-- every *delimited* occurrence of a path `/s1/…/sn` (n ≥ 2; no segment character touches it and no `/` follows it)
is rewritten independently of its context: to `${sn}`, or left alone when it belongs to one of the kept families. -/
theorem cleaner_paths_to_refs (pre post : Str) (segs : List Str)
    (hpre : pre = [] ∨ ∃ p c, pre = p ++ [c] ∧ isSeg c = false)
    (hpost : post = [] ∨ ∃ c r, post = c :: r ∧ isSeg c = false ∧ c ≠ '/')
    (hsegs : ∀ s ∈ segs, s ≠ [] ∧ ∀ c ∈ s, isSeg c = true) (hlen : 2 ≤ segs.length) :
    subPaths (pre ++ chainText segs ++ post) = subPaths pre ++ replacement segs ++ subPaths post ∧
    (keepMatch (chainText segs) = false → replacement segs = '$' :: '{' :: (segs.getLastD []) ++ ['}']) ∧
    (keepMatch (chainText segs) = true → replacement segs = chainText segs) := by
  refine ⟨?_, by intro h; simp [replacement, h], by intro h; simp [replacement, h]⟩
  obtain ⟨s1, s2, rest, rfl⟩ : ∃ a b r, segs = a :: b :: r := by
    match segs, hlen with
    | a :: b :: r, _ => exact ⟨a, b, r, rfl⟩
  have hpost' : ∀ c r, post = c :: r → isSeg c = false := by
    intro c r h
    rcases hpost with h0 | ⟨c', r', h1, h2, _⟩
    · rw [h0] at h; exact absurd h (by simp)
    · rw [h1] at h; injection h with hc _; rw [← hc]; exact h2
  have hchain_head : ∀ c r, chainText (s1 :: s2 :: rest) ++ post = c :: r → isSeg c = false := by
    intro c r h
    simp only [chainText, List.cons_append] at h
    injection h with hc _
    rw [← hc]; exact slash_not_seg
  -- token level: the chain is `segs.map .unit` between the tokens of `pre`, which end in a `ch` (`ha`), and those of
  -- `post`, which start with one (`hp`); `renderToks_chain` then flushes it on its own
  have htoks : toks (pre ++ chainText (s1 :: s2 :: rest) ++ post)
      = toks pre ++ (s1 :: s2 :: rest).map .unit ++ toks post := by
    rw [List.append_assoc, toks_append pre _ hchain_head, toks_chain _ post hsegs hpost', List.append_assoc]
  have ha : toks pre = [] ∨ ∃ a' c, toks pre = a' ++ [.ch c] := by
    rcases hpre with rfl | ⟨p, c, rfl, hc⟩
    · exact .inl rfl
    · exact .inr ⟨toks p, c, toks_snoc_ch p c hc⟩
  have hp : toks post = [] ∨ ∃ c r, toks post = .ch c :: r := by
    rcases hpost with rfl | ⟨c, r, rfl, hc, hne⟩
    · left; rfl
    · right
      exact ⟨c, toks r, by simp [toks, pushChar, hc, hne]⟩
  unfold subPaths
  rw [htoks, renderToks_chain _ _ _ ha hp]
  rfl

/-- `\n` separates paths (table fact) -/
theorem nl_delim : isDelim '\n' = true := by decide +kernel

/-- a diagnostic made of blanks only (or empty) is reported as the empty message -/
theorem cleaner_blank (ws : Str) (h : ∀ c ∈ ws, pyIsSpace c = true) (hjar : isInfix jarfilePhrase ws = false) :
    odkValidate ws = [] := by
  simp [odkValidate, hjar, cleanLines, cleanupErrors, subPaths_blank ws h, strip_blank ws h, splitlines, dedupAdj, joinWith]

open Pyxv.JV in
/-- the walk answers `True` iff some dict at any depth (below any key, inside any
list) binds `type` to a string starting with `select one external`. -/
theorem has_external_choices_iff (j : JV.J) : hasExt j = true ↔ ExtAt j :=
  ⟨hasExt_sound j, hasExt_complete j⟩

/-- a survey element as the JSON intermediate form nests it: its type, its other members, its children -/
inductive El where
  | node (type : Str) (extra : List (Str × JV.J)) (children : List El)

mutual
/-- the dict of an element: `{"type": …, …, "children": […]}` -/
def El.toJ : El → JV.J
  | .node t extra ch => .obj ((typeKey, .str t) :: extra ++ [(childrenKey, .arr (El.toJList ch))])
def El.toJList : List El → List JV.J
  | [] => []
  | e :: es => e.toJ :: El.toJList es
end

/-- the element or one of its descendants, at any depth, is an external select -/
inductive El.HasExtSelect : El → Prop where
  | self (t : Str) (extra : List (Str × JV.J)) (ch : List El) :
      startsWith t selectOneExternal = true → El.HasExtSelect (.node t extra ch)
  | child (t : Str) (extra : List (Str × JV.J)) (ch : List El) (c : El) :
      c ∈ ch → El.HasExtSelect c → El.HasExtSelect (.node t extra ch)

theorem mem_toJList (ch : List El) (c : El) (h : c ∈ ch) : c.toJ ∈ El.toJList ch :=
  eq_map_of_eqns (g := El.toJ) El.toJList.eq_1 El.toJList.eq_2 ch ▸ List.mem_map_of_mem h

/-- an external select is found at any depth below containers of *any* type (group, repeat, loop, survey, …): nothing
in the walk depends on the container's type. -/
theorem ext_select_any_container (e : El) (h : El.HasExtSelect e) : hasExt e.toJ = true := by
  induction h with
  | self t extra ch ht =>
    exact hasExt_complete _ (.here _ (.str t) (by simp) (by simpa [isExtType] using ht))
  | child t extra ch c hm _ ih =>
    refine hasExt_complete _ (.inObj _ childrenKey (.arr (El.toJList ch)) (by simp) ?_)
    exact .inArr _ c.toJ (mem_toJList ch c hm) (hasExt_sound _ ih)

/-- the container kinds a survey row can open (`aliases.control`) are the builder's section types or `loop` -/
theorem container_kinds_table :
    Gen.aliasControl.all (fun p => Gen.c18SectionTypes.contains p.2 || p.2 == Gen.c18LoopType) = true := by decide

theorem convert_ok_itemsets {u p : Str} {items : Option Str} {preW postW : List Str} {t : Nat} {v pp : Bool}
    {env : Env} {fs : FS} {cr : ConvertResult}
    (h : (convert (.ok u p items preW postW) t v pp env fs).res = .ok cr) : cr.itemsets = items := by
  rw [convert_res] at h
  simp only [convertRes] at h
  split at h
  · cases h
  · cases h; rfl

/-- `itemsets_beside` tied to the tree walk: when the JSON intermediate form contains an external select at any depth,
every run in which the library call returns leaves `itemsets.csv` with the external choices beside the XForm. -/
theorem itemsets_beside_tree (raw : Args) (inDir inName : Str) (out : Option (Str × Str)) (pyx : JV.J) (csv u p : Str)
    (preW postW : List Str) (t : Nat) (env : Env) (fs : FS) (r : CliOut) (cr : ConvertResult)
    (hext : ExtAt pyx)
    (h : mainCli raw inDir inName out (.ok u p (itemsetsOf pyx csv) preW postW) t env fs = some r)
    (hlib : (libCall raw (.ok u p (itemsetsOf pyx csv) preW postW) t env fs).res = .ok cr) :
    cr.itemsets = some csv ∧ FS.read r.fs (.file (outPathOf inDir inName out).1 itemsetsName) = some csv := by
  have hi : cr.itemsets = some csv := by
    rw [convert_ok_itemsets hlib]
    simp [itemsetsOf, hasExt_complete pyx hext]
  exact ⟨hi, itemsets_beside raw inDir inName out _ t env fs r cr csv h hlib hi⟩

/-- an external select inside a `loop` inside a `repeat` below the survey, on concrete data -/
example : hasExt (El.toJ (.node "survey".toList [] [.node "repeat".toList [] [.node "loop".toList [("name".toList, .str "l".toList)]
    [.node "select one external cities".toList [] []]]])) = true := by
  simp only [toList_lit rfl]
  decide +kernel
example : El.HasExtSelect (.node "survey".toList [] [.node "loop".toList [] [.node "select one external cities".toList [] []]]) :=
  .child _ _ _ (.node "loop".toList [] [.node "select one external cities".toList [] []]) (List.mem_singleton.2 rfl)
    (.child _ _ _ (.node "select one external cities".toList [] []) (List.mem_singleton.2 rfl) (.self _ _ _ (by decide +kernel)))
example : hasExt (El.toJ (.node "survey".toList [] [.node "select one".toList [] []])) = false := by
  simp only [toList_lit rfl]
  decide +kernel

def exForm : Form := .ok "<x/>".toList "<x>\n</x>".toList (some "a,b".toList) ["w1".toList] []
def exReject : Env := .ran ⟨1, false, "Bad /data/g/q1\n\tat org.X(X.java:1)\nBad /data/g/q1".toList⟩
def exFs : FS := [(.file "out".toList "form.xml".toList, "STALE".toList)]

example : Rejects exReject "Bad /data/g/q1\n\tat org.X(X.java:1)\nBad /data/g/q1".toList := ⟨1, by decide, rfl⟩
example : OdkRequested { json := true } := ⟨rfl, rfl⟩
example : FS.read exFs (.tmp 7) = none := by decide
/-- the reject path through the JSON CLI on concrete data: 999, cleaned message, STALE untouched, no temp -/
example : (mainCli { json := true } "in".toList "form.md".toList (some ("out".toList, "form.xml".toList)) exForm 7 exReject exFs).map
    (fun r => (r.json, r.fs)) = some (some ⟨999, "ODK Validate Errors:\nBad ${q1}\nBad ${q1}".toList, []⟩, exFs) := by
  unfold exForm exReject exFs
  simp only [toList_lit rfl]
  decide +kernel
/-- plain mode: output unlinked -/
example : (mainCli {} "in".toList "form.md".toList (some ("out".toList, "form.xml".toList)) exForm 7 exReject exFs).map
    (fun r => r.fs) = some [] := by
  unfold exForm exReject exFs
  simp only [toList_lit rfl]
  decide +kernel
/-- accept with stderr: 101, file = library result, itemsets beside it -/
example : (mainCli { json := true } "in".toList "form.md".toList none exForm 7 (.ran ⟨0, false, "hm".toList⟩) []).map
    (fun r => (r.json.map (·.code), FS.read r.fs (.file "in".toList "form.xml".toList),
               FS.read r.fs (.file "in".toList "itemsets.csv".toList), (FS.temps r.fs).isEmpty))
    = some (some 101, some "<x/>".toList, some "a,b".toList, true) := by
  unfold exForm
  simp only [toList_lit rfl]
  decide +kernel
/-- accept silent without conversion warnings: 100 -/
example : (mainCli { json := true } "in".toList "form.md".toList none (.ok [] [] none [] []) 7 (.ran ⟨0, false, []⟩) []).map
    (fun r => r.json.map (·.code)) = some (some 100) := by
  simp only [toList_lit rfl]
  decide +kernel
/-- C18-F3 on the model: the hypothesis of `file_equals_library_result` is needed -/
example : (mainCli { json := true, skipValidate := false } "in".toList "form.md".toList
    (some ("out".toList, "itemsets.csv".toList)) exForm 7 .javaAbsent []).map
    (fun r => FS.read r.fs (.file "out".toList "itemsets.csv".toList)) = some (some "a,b".toList) := by
  unfold exForm
  simp only [toList_lit rfl]
  decide +kernel
/-- killed validator, late conversion error, unencodable text, java missing: machine runs, no temp survives -/
example : ((convert exForm 7 true false (.ran ⟨-9, false, []⟩) exFs).fs, (convert (.late []) 7 true false .javaAbsent exFs).fs,
    (convert (.unencodable []) 7 true false .javaAbsent exFs).fs, (convert exForm 7 true false .javaAbsent exFs).fs)
    = (exFs, exFs, exFs, exFs) := by
  unfold exForm exFs
  simp only [toList_lit rfl]
  decide +kernel
/-- write failure on concrete data: plain CLI, pre-existing output kept, OSError logged -/
example : writeFailure (.diskFault "No space".toList) (.osError "No space".toList) := .inl ⟨_, rfl, rfl⟩
example : (mainCli {} "in".toList "form.md".toList (some ("out".toList, "form.xml".toList)) (.diskFault "No space".toList) 7 exReject exFs).map
    (fun r => (r.fs, r.raised, r.logs.length, r.seen)) = some (exFs, none, 1, []) := by
  unfold exReject exFs
  simp only [toList_lit rfl]
  decide +kernel
example : odkValidate "x /data/g/q1 y\nx /data/g/q1 y\n\tat a.B(B.java:1)\n/html/body/input".toList
    = "x ${q1} y\n/html/body/input".toList := by
  simp only [cleaner_chars, cleaner_tables, toList_lit rfl]
  decide +kernel
example : cleanupErrors "a\na\nb\na".toList = ["a".toList, "b".toList, "a".toList] := by
  simp only [toList_lit rfl]
  decide +kernel
/-- the end-to-end statement on concrete data: a bracketed path, a stack line between two kept lines -/
example : odkValidate (joinWith ['\n'] ["Error in [/data/g/first-name] now".toList, "\tat a.B(B.java:1)".toList, "Result: Invalid".toList])
    = "Error in [${first-name}] now\nResult: Invalid".toList := by
  simp only [cleaner_chars, cleaner_tables, toList_lit rfl]
  decide +kernel
example : odkValidate (" \n".toList ++ joinWith ['\n'] ["/data/g/q1 depends on".toList, "/data/g/q2".toList] ++ "\n\n".toList)
    = "${q1} depends on\n${q2}".toList := by
  simp only [cleaner_chars, cleaner_tables, toList_lit rfl]
  decide +kernel
example : odkValidate " \n\t ".toList = [] := by
  simp only [cleaner_chars, cleaner_tables, toList_lit rfl]
  decide +kernel
/-- a text that starts with a path and ends inside one -/
example : odkValidate (joinWith ['\n'] ["/data/g/q1 depends on".toList, "/data/g/q2".toList])
    = "${q1} depends on\n${q2}".toList := by
  simp only [cleaner_chars, cleaner_tables, toList_lit rfl]
  decide +kernel
example : subPaths ("see [".toList ++ chainText ["data".toList, "g".toList, "q1".toList] ++ "] now".toList)
    = "see [${q1}] now".toList := by
  simp only [toList_lit rfl]
  decide +kernel

end Pyxv.Validator
