import Pyxv.Model.ChoicesInline
import Pyxv.Proofs.C09
/-!
# C09 — in-line items of `search()` selects and the `query` of `select_one_external`

`Pyxv.Choices.inlineItems` and `Pyxv.Choices.selObs` are what the driver op `choices.model` runs and the check compares
with the implementation (`items`, `query` of every select).  Here they are proved equal to the specifications of
`Pyxv.Model.ChoicesInline`.
-/
namespace Pyxv.C09
open Pyxv Pyxv.Rows Pyxv.Choices

theorem inline_go_eq (l : Str) (itext : Bool) (cs : List Choice) (i : Nat) :
    inlineItems.go l itext i cs = some (Spec.inlineFrom itext l i cs) := by
  induction cs generalizing i with
  | nil => simp [inlineItems.go, Spec.inlineFrom]
  | cons c rest ih =>
    rw [inlineItems.go]
    simp only [ih]
    cases itext <;> cases h : c.label <;>
      simp [Spec.inlineFrom, Spec.inlineItem, Spec.plainLabel, Spec.itextIdOf, h, List.append_assoc]

theorem inlineFrom_eq (itext : Bool) (l : Str) (cs : List Choice) (i : Nat) :
    Spec.inlineFrom itext l i cs = (cs.zipIdx i).map fun p => Spec.inlineItem itext l p.2 p.1 := by
  induction cs generalizing i with
  | nil => rfl
  | cons c rest ih => rw [Spec.inlineFrom, ih]; rfl

theorem inlineFrom_values (itext : Bool) (l : Str) (cs : List Choice) (i : Nat) :
    (Spec.inlineFrom itext l i cs).map (·.2) = cs.map (·.name) := by
  induction cs generalizing i with
  | nil => rfl
  | cons c rest ih => simp [Spec.inlineFrom, Spec.inlineItem, ih]

theorem inlineItems_eq (l : Str) (cs : List Choice) (b : Bool) :
    inlineItems l cs b = some (Spec.inlineFrom (requiresItext cs) l 0 cs) := by
  simp [inlineItems, inline_go_eq]

/-- The in-line items of a `search()` select: always produced, one per choice of the list, in sheet order;
    item `i` is the itext reference `jr:itext('l-i')` (when the list requires itext) or the plain label
    text (empty when absent), and the value is the name of choice `i`. -/
theorem inline_items (l : Str) (cs : List Choice) (b : Bool) :
    ∃ items, inlineItems l cs b = some items ∧ items.length = cs.length ∧
      (∀ i, items[i]? = cs[i]?.map (Spec.inlineItem (requiresItext cs) l i)) ∧
      items.map (·.2) = cs.map (·.name) := by
  refine ⟨_, inlineItems_eq l cs b, ?_, fun i => ?_, inlineFrom_values _ _ _ _⟩
  · rw [inlineFrom_eq, List.length_map, List.length_zipIdx]
  · rw [inlineFrom_eq, List.getElem?_map, List.getElem?_zipIdx, Option.map_map, Nat.zero_add]; rfl

example : inlineItems (c!"l") [{ name := c!"a", label := .plain (c!"A"), media := false, extras := [] },
                               { name := c!"b", label := .none, media := false, extras := [(c!"x", c!"1")] }] true
    = some [((false, c!"A"), c!"a"), ((false, []), c!"b")] := by decide +kernel
example : inlineItems (c!"l") [{ name := c!"a", label := .dict, media := false, extras := [] },
                               { name := c!"b", label := .plain (c!"B"), media := false, extras := [] }] true
    = some [((true, c!"jr:itext('l-0')"), c!"a"), ((true, c!"jr:itext('l-1')"), c!"b")] := by decide +kernel

/-- The itext id an in-line item refers to is the id the static instance of the same list would give choice `i`
    as `itextId` (`instance_items`): in-line rendering and instance rendering address the same translations. -/
theorem inline_itext_id (l : Str) (i : Nat) (c : Choice) :
    (itemOf true l i c).head? = some (c!"itextId", Spec.itextIdOf l i) ∧
    (Spec.inlineItem true l i c).1 = (true, c!"jr:itext('" ++ Spec.itextIdOf l i ++ c!"')") := ⟨rfl, rfl⟩

example : Spec.itextIdOf (c!"fruits") 12 = c!"fruits-12" := by decide +kernel

/-! ## peeling the `do` block of `selObs`: one lemma per `if … then throw` join point -/

theorem bind_ok {α β : Type} {x : Except String α} {f : α → Except String β} {o : β}
    (h : (x >>= f) = .ok o) : ∃ a, x = .ok a ∧ f a = .ok o := by
  cases x with
  | error e => simp [bind, Except.bind] at h
  | ok a => exact ⟨a, rfl, h⟩

theorem guard_jp {β : Type} {c : Prop} [Decidable c] {e : String} {jp : PUnit → Except String β} {o : β}
    (h : (if c then ((throw e : Except String PUnit) >>= jp) else jp PUnit.unit) = .ok o) : ¬ c ∧ jp PUnit.unit = .ok o := by
  by_cases hc : c
  · simp [hc, bind, Except.bind, throw, throwThe, MonadExceptOf.throw] at h
  · simpa [hc] using h

theorem guard_ok {β : Type} {c : Prop} [Decidable c] {e : String} {f : PUnit → Except String β} {o : β}
    (h : ((if c then throw e else pure PUnit.unit : Except String PUnit) >>= f) = .ok o) : ¬ c ∧ f PUnit.unit = .ok o :=
  guard_jp (by rwa [apply_ite (· >>= f)] at h)

theorem opt_match_ok {α β : Type} {x : Option α} {A : α → Except String β} {B : Except String β} {o : β}
    (h : (match x with | some v => A v | none => B) = .ok o) :
    (∃ v, A v = .ok o) ∨ (B = .ok o) := by
  cases x with
  | none => exact .inr h
  | some v => exact .inl ⟨v, h⟩

theorem ite_both {β : Type} {c : Prop} [Decidable c] {A B : Except String β} {o : β}
    (h : (if c then A else B) = .ok o) (hA : A = .ok o → B = .ok o) : B = .ok o := by
  by_cases hc : c
  · exact hA (by simpa [hc] using h)
  · simpa [hc] using h

/-- Whenever the model answers for a `select_one_external` row, the select's `query` is
    `instance('LIST')/root/item[FILTER]` with LIST the name in the type cell (a list of the external_choices
    sheet) and FILTER the row's own `choice_filter` after `${}` substitution (`current()/` form); no itemset, in-line
    item or or_other companion. -/
theorem external_query (inp : Input) (tbl : List NameInfo) (lists : List (Str × List Choice)) (extLists : List Str)
    (name : Str) (path : List Str) (chain : Refs.Chain) (cells : Cells) (sel ln : Str) (other : Bool) (o : SelObs)
    (hsel : isExternalSel sel = true)
    (h : selObs inp tbl lists extLists name path chain cells sel ln other = .ok o) :
    ∃ pred, subst inp.root tbl chain true false ((lookup (c!"choice_filter") cells).getD []) = some pred ∧
      o.query = some (Spec.externalQuery ln pred) ∧ o.itemset = none ∧ o.items = [] ∧ o.other = none ∧
      extLists.contains ln = true := by
  unfold selObs at h
  obtain ⟨_, h⟩ := guard_jp h   -- no calculate / trigger
  obtain ⟨_, h⟩ := guard_jp h   -- only known parameters
  -- `randomize` is a boolean, or absent and then there is no `seed`; both cases go on alike
  rcases hr : lookup (c!"randomize") (paramsOf cells) with _ | v <;> rw [hr] at h <;> obtain ⟨_, h⟩ := guard_jp h
  all_goals
    rw [if_pos hsel] at h
    obtain ⟨_, h⟩ := guard_jp h      -- the filter is not empty
    obtain ⟨hext, h⟩ := guard_jp h   -- the list is an external one
    obtain ⟨_, h⟩ := guard_jp h      -- no or_other
    cases hs : subst inp.root tbl chain true false ((lookup (c!"choice_filter") cells).getD []) with
    | none => simp [hs, bind, Except.bind, throw, throwThe, MonadExceptOf.throw] at h
    | some pred =>
      simp only [hs] at h
      injection h with h
      subst h
      exact ⟨pred, rfl, rfl, rfl, rfl, rfl, by simpa using hext⟩

example : ((selObs { root := c!"data", choices := [], choiceCols := [], allowDup := none, survey := [], extHeader := [],
                     extRows := none } [] [] [c!"towns"] (c!"s") [c!"s"] [] [(c!"choice_filter", c!"a=1")]
             (c!"select one external") (c!"towns") false).toOption.map (·.query))
    = some (some (c!"instance('towns')/root/item[a=1]")) := by decide +kernel

/-- Whenever the model answers for a select whose appearance calls `search()`, the select carries no itemset and
    no query; its in-line items are those of its **own** list (the list named in the type cell, which exists),
    one per choice in sheet order, each as `Spec.inlineItem` says. -/
theorem search_select_inline (inp : Input) (tbl : List NameInfo) (lists : List (Str × List Choice)) (extLists : List Str)
    (name : Str) (path : List Str) (chain : Refs.Chain) (cells : Cells) (sel ln : Str) (other : Bool) (o : SelObs)
    (hsel : isExternalSel sel = false) (hs : isSearch cells = true)
    (h : selObs inp tbl lists extLists name path chain cells sel ln other = .ok o) :
    ∃ cs, lookup ln lists = some cs ∧ o.items = Spec.inlineFrom (requiresItext cs) ln 0 cs ∧
      o.itemset = none ∧ o.query = none := by
  unfold selObs at h
  obtain ⟨_, h⟩ := guard_jp h   -- no calculate / trigger
  obtain ⟨_, h⟩ := guard_jp h   -- only known parameters
  -- `randomize` is a boolean, or absent and then there is no `seed`; both cases go on alike
  rcases hr : lookup (c!"randomize") (paramsOf cells) with _ | v <;> rw [hr] at h <;> obtain ⟨_, h⟩ := guard_jp h
  all_goals
    rw [if_neg (by simp [hsel])] at h
    obtain ⟨_, h⟩ := guard_jp h      -- the list is known, a file or a repeat
    -- the two extra guards of a select_multiple (from repeat, choice name with space)
    have h := ite_both h (by
      intro h
      obtain ⟨_, h⟩ := guard_jp h
      obtain ⟨_, h⟩ := guard_jp h
      exact h)
    obtain ⟨_, h⟩ := guard_jp h      -- or_other needs a list and no filter
    obtain ⟨_, h⟩ := guard_jp h      -- no value / label parameter on a static list
    rw [if_pos hs] at h
    obtain ⟨_, h⟩ := guard_jp h      -- search not on a file or a repeat
    obtain ⟨hk, h⟩ := guard_jp h     -- search with choices of a known list
    rw [inlineItems_eq] at h
    cases hl : lookup ln lists with
    | none => simp [hl] at hk
    | some cs =>
      injection h with h
      subst h
      refine ⟨cs, rfl, ?_, rfl, rfl⟩
      simp [hl]

example : ((selObs { root := c!"data", choices := [], choiceCols := [], allowDup := none, survey := [], extHeader := [],
                     extRows := none } []
             [(c!"fr", [{ name := c!"a", label := .plain (c!"A"), media := false, extras := [] },
                        { name := c!"b", label := .none, media := false, extras := [] }])] [] (c!"s") [c!"s"] []
             [(c!"label", c!"S"), (c!"control::appearance", c!"search('fruits')")]
             (c!"select one") (c!"fr") false).toOption.map (·.items))
    = some [((false, c!"A"), c!"a"), ((false, []), c!"b")] := by decide +kernel

end Pyxv.C09
