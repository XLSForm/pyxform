import Pyxv.Model.ExtChoices
/-! C18: `has_external_choices` finds an external select at any depth, under any key and any container type. -/
namespace Pyxv.Validator
open Pyxv.JV

/-- some dict at any depth of the JSON value binds `type` to a string starting with `select one external` -/
inductive ExtAt : J → Prop where
  | here (kvs : List (Str × J)) (v : J) : (typeKey, v) ∈ kvs → isExtType v = true → ExtAt (.obj kvs)
  | inObj (kvs : List (Str × J)) (k : Str) (v : J) : (k, v) ∈ kvs → ExtAt v → ExtAt (.obj kvs)
  | inArr (xs : List J) (x : J) : x ∈ xs → ExtAt x → ExtAt (.arr xs)

mutual
theorem hasExt_sound : ∀ j : J, hasExt j = true → ExtAt j
  | .obj kvs, h => by
    simp only [hasExt] at h
    obtain ⟨k, v, hm, hc⟩ := hasExtKvs_sound kvs h
    rcases hc with ⟨hk, hv⟩ | hv
    · subst hk; exact .here kvs v hm hv
    · exact .inObj kvs k v hm hv
  | .arr xs, h => by
    simp only [hasExt] at h
    obtain ⟨x, hm, hx⟩ := hasExtList_sound xs h
    exact .inArr xs x hm hx
  | .null, h => by simp [hasExt] at h
  | .bool _, h => by simp [hasExt] at h
  | .num _, h => by simp [hasExt] at h
  | .str _, h => by simp [hasExt] at h
theorem hasExtKvs_sound : ∀ kvs : List (Str × J), hasExtKvs kvs = true →
    ∃ k v, (k, v) ∈ kvs ∧ ((k = typeKey ∧ isExtType v = true) ∨ ExtAt v)
  | [], h => by simp [hasExtKvs] at h
  | (k, v) :: rest, h => by
    simp only [hasExtKvs, Bool.or_eq_true, Bool.and_eq_true, beq_iff_eq] at h
    rcases h with (⟨hk, hv⟩ | hv) | hr
    · exact ⟨k, v, by simp, .inl ⟨hk, hv⟩⟩
    · exact ⟨k, v, by simp, .inr (hasExt_sound v hv)⟩
    · obtain ⟨k', v', hm, hc⟩ := hasExtKvs_sound rest hr
      exact ⟨k', v', by simp [hm], hc⟩
theorem hasExtList_sound : ∀ xs : List J, hasExtList xs = true → ∃ x, x ∈ xs ∧ ExtAt x
  | [], h => by simp [hasExtList] at h
  | x :: xs, h => by
    simp only [hasExtList, Bool.or_eq_true] at h
    rcases h with hx | hr
    · exact ⟨x, by simp, hasExt_sound x hx⟩
    · obtain ⟨y, hm, hy⟩ := hasExtList_sound xs hr
      exact ⟨y, by simp [hm], hy⟩
end

theorem hasExtKvs_of_mem (kvs : List (Str × J)) (k : Str) (v : J) (hm : (k, v) ∈ kvs)
    (h : (k = typeKey ∧ isExtType v = true) ∨ hasExt v = true) : hasExtKvs kvs = true := by
  induction kvs with
  | nil => simp at hm
  | cons p rest ih =>
    obtain ⟨k', v'⟩ := p
    simp only [hasExtKvs, Bool.or_eq_true, Bool.and_eq_true, beq_iff_eq]
    rcases List.mem_cons.1 hm with e | hr
    · injection e with e1 e2
      subst e1 e2
      rcases h with ⟨hk, hv⟩ | hv
      · exact .inl (.inl ⟨hk, hv⟩)
      · exact .inl (.inr hv)
    · exact .inr (ih hr)

theorem hasExtList_of_mem (xs : List J) (x : J) (hm : x ∈ xs) (h : hasExt x = true) : hasExtList xs = true := by
  induction xs with
  | nil => simp at hm
  | cons y ys ih =>
    simp only [hasExtList, Bool.or_eq_true]
    rcases List.mem_cons.1 hm with e | hr
    · subst e; exact .inl h
    · exact .inr (ih hr)

theorem hasExt_complete (j : J) (h : ExtAt j) : hasExt j = true := by
  induction h with
  | here kvs v hm hv => simp only [hasExt]; exact hasExtKvs_of_mem kvs typeKey v hm (.inl ⟨rfl, hv⟩)
  | inObj kvs k v hm _ ih => simp only [hasExt]; exact hasExtKvs_of_mem kvs k v hm (.inr ih)
  | inArr xs x hm _ ih => simp only [hasExt]; exact hasExtList_of_mem xs x hm ih

end Pyxv.Validator
