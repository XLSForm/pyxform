import Pyxv.Proofs.C10Form
import Pyxv.Proofs.C03
import Pyxv.Model.DefaultsRefs
/-!
# C10 composed with C03's model of `${name}` (`Pyxv.Refs`)

With `sub := Defaults.subRefs root els` (every `${name}` replaced by what C03's `Refs.refFor` emits for the context
element) the theorems of `Pyxv.C10` speak about concrete value texts: a dynamic default's setvalue carries the default
cell expanded from the question's own node, a triggered calculation's set-node the calculation expanded from the
*target* node, and what `refFor` emits, evaluated from that context node, reaches the one element of that name.
`Defaults.insertRefs` is a scanner of its own, not an instance of `Refs.substRefs`: that the text at an occurrence is
`refFor`'s answer is read off its definition.
-/
namespace Pyxv.C10
open Pyxv Pyxv.Defaults List

/-- the value text of a cell expanded from the element at `p` -/
def expand (root : Str) (els : List El) (p : Path) (cell : Str) : Str := subRefs root els p cell

/-- **value of a dynamic default's setvalue**: for an accepted sheet, the one setvalue targeting a question with
    a dynamic default has `value` = the default cell expanded from the question's own node; location and events as
    in `exactly_once` -/
theorem dynamic_default_value (dyn : Q → Bool) (root : Str) (rows : List (Nat × Form.RowK)) (els : List El)
    (hrows : Form.parseRows rows = .ok (shape els))
    (hval : Rows17.validate17 root (shape els) = .ok ())
    (y : Path × Option Path × Q) (hy : y ∈ qwn [root] none els) (hd : hasDynDefault dyn y.2.2 = true) :
    (setFacts (gen dyn (subRefs root els) root els)).filter (fun f => decide (f.set.ref = y.1)) =
      [{ loc := y.2.1,
         set := { tag := "setvalue".toList, ref := y.1,
                  event := if y.2.1.isSome then evNewRepeat else evFirstLoad,
                  value := some (expand root els y.1 y.2.2.default) } }] := by
  have h := (exactly_once_of_rows dyn (subRefs root els) root rows els hrows hval y hy).2.2.2
  rw [h]
  simp [expSetP, hd, expand]

/-- **value of a triggered calculation's set-node**: the one value-changed node targeting `q` carries `q`'s
    calculation expanded from `q`'s node (the `ref` node — XForms evaluates the value there), not from the
    triggering question that hosts it -/
theorem triggered_value (dyn : Q → Bool) (root : Str) (els : List El) (pq pt : Path) (q t : Q)
    (hq : (pq, q) ∈ qwp [root] els) (ht : (pt, t) ∈ qwp [root] els)
    (hn : ((qPaths [root] els).map (·.1)).Nodup)
    (htrig : q.trigger.isEmpty = false) (hkey : strip q.trigger = refOf t.name) (hshown : shown t = true)
    (hc : q.calcu.isEmpty = false) :
    ∃ f, (trigFacts (gen dyn (subRefs root els) root els)).filter (fun f => decide (f.set.ref = pq)) = [f] ∧
      f.ctl = pt ∧ f.set.ref = pq ∧ f.set.value = some (expand root els pq q.calcu) := by
  obtain ⟨h1, h2, _⟩ := trigger_setvalue dyn (subRefs root els) root els pq pt q t hq ht hn htrig hkey hshown
  refine ⟨_, h1, rfl, h2, ?_⟩
  have hp : pathOf (qPaths [root] els) q.name = pq := pathOf_question els [root] (pq, q) hq hn
  simp [trigFactOf, entryOf, hc, hp, expand]

/-- **every expanded reference reaches its element from the context C10 prescribes**: if C03's model emits
    `e` for `${name}` in a cell of the element at path `p`, then `e` evaluated from `p` is the path of THE
    element called `name` -/
theorem hole_resolves (root : Str) (els : List El) (p : Path) (c : Refs.Chain)
    (hc : chainAt (chainsOf root els) p = some c)
    (hgood : ∀ t ∈ chainsOf root els, Refs.GoodNames t.path)
    (name : Str) (cur : Bool) (e : Refs.Emitted)
    (h : Refs.refFor (chainsOf root els) (some c) name {} = .ok cur e) :
    ∃ t, (chainsOf root els).filter (Refs.named name) = [t] ∧ Refs.resolve p e = some t.path := by
  have hmem : c ∈ chainsOf root els := List.mem_of_find?_eq_some hc
  have hp : c.path = p := by
    have := List.find?_some hc
    simpa using this
  obtain ⟨t, h1, h2⟩ := Refs.ref_resolves (chainsOf root els) hgood c (hgood c hmem) name {} cur e h
  exact ⟨t, h1, hp ▸ h2⟩

/-- a cell without `${` is its own expansion (a literal value stays literal) -/
theorem insertRefs_no_ref (chs : List Refs.Chain) (ctx : Option Refs.Chain) :
    ∀ (f : Nat) (s : Str), (∀ r, ¬ (∃ a, s = a ++ '$' :: '{' :: r)) → insertRefs chs ctx f s = s
  | 0, s, _ => insertRefs.eq_1 chs ctx s
  | f + 1, [], _ => insertRefs.eq_2 chs ctx (f + 1) nofun
  | f + 1, c :: r, h => by
    -- no `${` opens at the head, so the character is copied (the last equation of `insertRefs`); none opens further on
    rw [insertRefs.eq_4 chs ctx f c r fun r' hc hr => h r' ⟨[], by rw [hc, hr]; rfl⟩,
      insertRefs_no_ref chs ctx f r fun r' ⟨a, ha⟩ => h r' ⟨c :: a, by rw [ha]; rfl⟩]

/-! ### non-vacuity of `hole_resolves`'s hypotheses on C10's example tree (question c sits in group g of repeat r) -/
example : chainAt (chainsOf "data".toList exTree) ["data".toList, "r".toList, "g".toList, "c".toList] =
    some [("data".toList, .group), ("r".toList, .rep), ("g".toList, .group), ("c".toList, .q)] := by
  simp [chainAt, chainsOf, exTree, exB, exC, toRefs, toRefsL, Refs.El.chains, Refs.chainsL, Refs.Chain.path]
example : ∀ t ∈ chainsOf "data".toList exTree, Refs.GoodNames t.path := by
  intro t ht
  simp only [chainsOf, exTree, exB, exC, toRefs, toRefsL, Refs.El.chains, Refs.chainsL, List.nil_append,
    List.cons_append, List.mem_cons, List.append_nil, List.mem_nil_iff, or_false] at ht
  rcases ht with rfl | rfl | rfl | rfl | rfl | rfl | rfl <;>
    (intro s hs; simp [Refs.Chain.path] at hs; rcases hs with rfl | rfl | rfl | rfl <;> decide)

end Pyxv.C10
