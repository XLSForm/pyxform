import Pyxv.Proofs.C01Valid
import Pyxv.Proofs.RowsLemmas
/-!
# C01: the names one classified row contributes

`Rows.nameOrErr` accepts a `name` cell only if `is_xml_tag` does; the names the converter *generates* beside
a row — `<repeat>_count`, `<select>_other`, `generated_note_name_<row>` — are the row's name with a suffix of name
characters, or a literal with digits.  So a predicate on names that these constructions inherit (`NameClosed`;
`is_xml_tag` is one, through the typo-literal branch as well) holds of every name of a classified row as soon as it
holds of the accepted `name` cell.  For colon-free names `is_xml_tag` is all `validate_xml_document` asks of an
element name, so the name hypothesis of `instance_children_valid` is a derived fact for them.
-/
namespace Pyxv.C01
open Pyxv Pyxv.Xml Pyxv.Asm Pyxv.Rows Pyxv.Form

/-- **`is_xml_tag` is closed under suffixes of name characters** (also for what it accepts through the typo literal) -/
theorem isXmlTag_append (s t : Str) (ht : t.all nmOk = true) (h : isXmlTag s = true) : isXmlTag (s ++ t) = true := by
  rw [isXmlTag_iff] at h ⊢
  rcases h with h | ⟨p, l, hp, hl, rfl⟩
  · exact Or.inl (h.append ht)
  · exact Or.inr ⟨p, l ++ t, hp, hl.append ht, by rw [List.append_assoc]; rfl⟩

theorem generated_names_valid (n : Str) (h : isXmlTag n = true) :
    isXmlTag (n ++ "_count".toList) = true ∧ isXmlTag (n ++ "_other".toList) = true :=
  ⟨isXmlTag_append n _ (by decide) h, isXmlTag_append n _ (by decide) h⟩

def optAll (p : Str → Bool) : Option QData → Bool
  | none => true
  | some d => p d.name

/-- every name a classified row contributes to the tree satisfies `p` -/
def rowkAll (p : Str → Bool) : RowK → Bool
  | .skip => true
  | .bad _ => true
  | .end_ _ => true
  | .q d o => p d.name && optAll p o
  | .begin_ _ n _ h => p n && optAll p h

/-- a predicate on names that the generated names inherit -/
structure NameClosed (p : Str → Bool) : Prop where
  count : ∀ n, p n = true → p (n ++ "_count".toList) = true
  other : ∀ n, p n = true → p (n ++ "_other".toList) = true
  note : ∀ n : Nat, p ("generated_note_name_".toList ++ natToStr n) = true

theorem nameOrErr_all (p : Str → Bool) (C : NameClosed p) (r : Cells) (t : Str) (n : Nat) (nm : Str)
    (hcell : ∀ x, Rows.get r "name" = some x → isXmlTag x = true → p x = true)
    (h : nameOrErr r t n = .ok nm) : p nm = true := by
  unfold nameOrErr at h
  cases hg : Rows.get r "name" with
  | none =>
    rw [hg] at h; simp only [] at h
    split at h
    · injection h with h; subst h; exact C.note n
    · cases h
  | some x =>
    rw [hg] at h; simp only [] at h
    split at h
    · rename_i hx; injection h with h; subst h; exact hcell x hg hx
    · cases h

theorem countHelper_all (p : Str → Bool) (C : NameClosed p) (name : Str) (r : Cells) (hn : p name = true) :
    optAll p (countHelper name r) = true := by
  unfold countHelper
  split
  · split
    · rfl
    · simpa [optAll] using C.count name hn
  · rfl

/-- the names of a classified row: the name `nameOrErr` returned and what is generated from it -/
theorem rowkAll_of_classified (p : Str → Bool) (C : NameClosed p) {lists : List Str} {n : Nat} {r : Cells} {k : RowK}
    (hcell : ∀ x, Rows.get r "name" = some x → isXmlTag x = true → p x = true)
    (h : Classified lists n r k) : rowkAll p k = true := by
  cases h with
  | skip | bad | end_ => rfl
  | begin_ _ hn =>
    have hp := nameOrErr_all p C _ _ _ _ hcell hn
    simp only [rowkAll, hp, countHelper_all p C _ r hp, Bool.and_self]
  | @select _ _ _ _ other _ hn =>
    have hp := nameOrErr_all p C _ _ _ _ hcell hn
    cases other
    · simp [rowkAll, optAll, selectQ, hp]
    · simpa [rowkAll, optAll, selectQ, otherQ, hp] using C.other _ hp
  | known _ hn hq =>
    have hp := nameOrErr_all p C _ _ _ _ hcell hn
    simp only [rowkAll, optAll, (qdata_some _ _ _ _ hq).1, hp, Bool.and_self]
  | unknown _ hn => simp only [rowkAll, optAll, nameOrErr_all p C _ _ _ _ hcell hn, Bool.and_self]

/-- `classify` looks at the row without its `disabled` cell; the `name` cell is the same -/
theorem rowkAll_of_active (p : Str → Bool) (C : NameClosed p) {lists : List Str} {n : Nat} {r : Cells} {k : RowK}
    (hcell : ∀ x, Rows.get r "name" = some x → isXmlTag x = true → p x = true)
    (h : Classified lists n (r.filter fun kv => kv.1 ≠ "disabled".toList) k) : rowkAll p k = true :=
  rowkAll_of_classified p C
    (fun x hx => hcell x (by rw [← get_filter_ne (d := "disabled") (by decide)]; exact hx)) h

/-- **every name a classified row contributes satisfies `p`**, when the row's `name` cell (if accepted by
    `is_xml_tag`) does and `p` is inherited by the generated names -/
theorem classify_all (p : Str → Bool) (C : NameClosed p) (lists : List Str) (n : Nat) (r0 : Cells) (k : RowK)
    (hcell : ∀ x, Rows.get r0 "name" = some x → isXmlTag x = true → p x = true)
    (h : classify lists n r0 = .row k) : rowkAll p k = true :=
  rowkAll_of_active p C hcell (classify_inv h)

theorem nmOk_digits (n : Nat) : (natToStr n).all nmOk = true := by
  rw [List.all_eq_true]
  intro c hc
  have hd : c.isDigit = true := digits_toString hc
  simp only [Char.isDigit, Bool.and_eq_true, decide_eq_true_eq] at hd
  have h0 : '0' ≤ c := by
    show (48 : UInt32) ≤ c.val
    exact hd.1
  have h9 : c ≤ '9' := by
    show c.val ≤ (57 : UInt32)
    exact hd.2
  simp [nmOk, isNameExtra, h0, h9]

theorem nameClosed_isXmlTag : NameClosed isXmlTag where
  count n h := (generated_names_valid n h).1
  other n h := (generated_names_valid n h).2
  note n := isXmlTag_append _ _ (nmOk_digits n) (by decide +kernel)

theorem nameOrErr_valid (r : Cells) (t : Str) (n : Nat) (nm : Str) (h : nameOrErr r t n = .ok nm) :
    isXmlTag nm = true :=
  nameOrErr_all isXmlTag nameClosed_isXmlTag r t n nm (fun _ _ hx => hx) h

theorem countHelper_valid (name : Str) (r : Cells) (q : QData) (hn : isXmlTag name = true)
    (h : countHelper name r = some q) : isXmlTag q.name = true := by
  have := countHelper_all isXmlTag nameClosed_isXmlTag name r hn
  rwa [h] at this

/-- for a colon-free name, `is_xml_tag` is everything `validate_xml_document` asks of an element name -/
theorem nameValid_of_isXmlTag_nocolon (R : List Str) (x : Str) (h : isXmlTag x = true)
    (hc : x.contains ':' = false) : (nameValid R x && elemPrefixOk x) = true := by
  have hp := partitionColon_nocolon x hc
  simp [nameValid, elemPrefixOk, h, hp]

theorem nocolon_append (x t : Str) (hx : x.contains ':' = false) (ht : t.contains ':' = false) :
    (x ++ t).contains ':' = false := by
  rw [List.contains_append, hx, ht]; rfl

/-- **row level → what `instance_children_valid` needs**: a colon-free name the classifier accepted, and the
    `_count` / `_other` names generated from it, satisfy the validator's element-name condition in every scope -/
theorem row_names_valid (R : List Str) (r : Cells) (t : Str) (n : Nat) (nm : Str)
    (hcell : (Rows.get r "name").isSome = true) (h : nameOrErr r t n = .ok nm) (hc : nm.contains ':' = false) :
    (nameValid R nm && elemPrefixOk nm) = true ∧
    (nameValid R (nm ++ "_count".toList) && elemPrefixOk (nm ++ "_count".toList)) = true ∧
    (nameValid R (nm ++ "_other".toList) && elemPrefixOk (nm ++ "_other".toList)) = true := by
  have hv := nameOrErr_valid r t n nm h
  have hg := generated_names_valid nm hv
  exact ⟨nameValid_of_isXmlTag_nocolon R nm hv hc,
    nameValid_of_isXmlTag_nocolon R _ hg.1 (nocolon_append nm _ hc (by decide)),
    nameValid_of_isXmlTag_nocolon R _ hg.2 (nocolon_append nm _ hc (by decide))⟩

#print axioms row_names_valid

example : isXmlTag "kids".toList = true ∧ isXmlTag "kids_count".toList = true ∧ isXmlTag "esri:q_other".toList = true := by
  decide +kernel
example : isXmlTag ("esri:q".toList ++ "_other".toList) = true :=
  (generated_names_valid "esri:q".toList (by decide +kernel)).2
example : isXmlTag (typoLit ++ "_count".toList) = true := (generated_names_valid typoLit (by decide +kernel)).1
theorem ex_nameOrErr : nameOrErr [("name".toList, "kids".toList)] "text".toList 2 = .ok "kids".toList := by
  have hx : isXmlTag "kids".toList = true := by decide +kernel
  have hg : Rows.get [("name".toList, "kids".toList)] "name" = some "kids".toList := by decide +kernel
  simp only [nameOrErr, hg, hx, if_true]
example : (nameValid [] "kids_count".toList && elemPrefixOk "kids_count".toList) = true :=
  (row_names_valid [] [("name".toList, "kids".toList)] "text".toList 2 "kids".toList (by decide +kernel) ex_nameOrErr
    (by decide)).2.1

end Pyxv.C01
