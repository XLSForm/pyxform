import Pyxv.Proofs.Convert
import Pyxv.Proofs.C04Controls
/-!
# Convert's decoration and the attribute model

`Pyxv.Convert.decorate` attaches to every element the attributes of its own body control; this file ties that
decoration to `Controls.rowControls` and to the classification the structural walk uses.
-/
namespace Pyxv.C04
open Pyxv Pyxv.Form Pyxv.Rows Pyxv.Controls

/-- **The decoration is the attribute model's answer for that very row**: whenever `Convert.decorate` accepts a
    row that is not a row-level error, `Controls.rowControls` answers for the row, the decoration's attributes
    are `ownAttrs` of that answer, the answer is the pure emission `emitOut` of the classification of the prepared
    cells, and its element names are that classification's `rowTags` — the controls the stack machine places. -/
theorem decorate_controls (lists : List Str) (n : Nat) (r : Cells) (k : RowK) (p : Convert.Pay)
    (h : Convert.decorate lists n r = .ok (k, p)) :
    (∃ e, k = .bad e) ∨
    ∃ cs k' ps, rowControls lists n r = .ok cs ∧ p.attrs = Convert.ownAttrs k cs ∧ p.cells = r ∧
      classify lists n r = .row k ∧ classify lists n (prep r).1 = .row k' ∧
      cs = emitOut k' (prep r).1 ps ∧ cs.map (·.1) = rowTags k' := by
  obtain ⟨-, hk, ⟨e, hb, -⟩ | ⟨cs, hcs, rfl⟩⟩ := ConvertP.decorate_inv h
  · exact Or.inl ⟨e, hb⟩
  · obtain ⟨k', ps, hk', _, _, hout, _⟩ := rowControls_out lists n r cs hcs
    obtain ⟨k'', hk'', htags⟩ := rowControls_aligned lists n r cs hcs
    rw [hk'] at hk''; injection hk'' with hk''; subst hk''
    exact Or.inr ⟨cs, k', ps, hcs, rfl, rfl, hk, hk', hout, htags⟩

-- non-vacuity: a text row with an appearance is decorated with exactly that attribute; a begin repeat with its own
example : (match Convert.decorate [] 2 [(k!"type", k!"text"), (k!"name", k!"a"), (k!"label", k!"A"),
      (k!"control::appearance", k!"multiline")] with
    | .ok (.q d none, p) => d.control && p.attrs == [(k!"appearance", k!"multiline")]
    | _ => false) = true := by decide +kernel
example : (match Convert.decorate [] 2 [(k!"type", k!"begin repeat"), (k!"name", k!"r"), (k!"label", k!"R"),
      (k!"control::appearance", k!"field-list")] with
    | .ok (.begin_ .rep _ _ none, p) => p.attrs == [(k!"appearance", k!"field-list")]
    | _ => false) = true := by decide +kernel

end Pyxv.C04
