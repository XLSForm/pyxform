import Pyxv.Proofs.DefaultsLemmas
import Pyxv.Proofs.C02
import Pyxv.Proofs.BaseLemmas
/-!
# C02 — the `ref` of every generated `<setvalue>` / `<odk:setgeopoint>` names an instance node

`Pyxv.Defaults` models dynamic defaults and triggers on its own element tree (`El`); `toItems` reads that tree
as the element tree of `Pyxv.Form`, so the statements are about `Form.instanceOf`, the instance of `refs_resolve`.
-/
namespace Pyxv.C02
open Pyxv Pyxv.Form Pyxv.Defaults

def toQData (d : Q) : QData := { name := d.name, bind := true, control := d.hasCtl, node := true, tag := d.tag }

/-- the element tree of `Pyxv.Defaults` as the element tree of `Pyxv.Form` -/
def toItems : List El → List Item
  | [] => []
  | .q d :: rest => .q (toQData d) :: toItems rest
  | .grp n ks :: rest => .sec .group n false (toItems ks) :: toItems rest
  | .rep n ks :: rest => .sec .rep n false (toItems ks) :: toItems rest

theorem qPaths_eq_nodes : ∀ (els : List El) (pre : Path),
    qPaths pre els = (nodesL pre (toItems els)).map fun x => (x.2.name, x.1) := by
  intro els
  induction els using els_induction with
  | nil => intro pre; simp [qPaths, toItems, nodesL]
  | q d rest ih => intro pre; simp [qPaths, toItems, nodesL, nodes, ih, Head.name, toQData]
  | grp n ks rest ihk ih | rep n ks rest ihk ih =>
    intro pre; simp [qPaths, toItems, nodesL, nodes, ihk, ih, Head.name]

theorem hasNode_toItems (els : List El) : (headsL (toItems els)).all Head.hasNode = true := by
  induction els using els_induction with
  | nil => simp [toItems, headsL]
  | q d rest ih => simpa [toItems, headsL, heads, Head.hasNode, toQData] using ih
  | grp n ks rest ihk ih | rep n ks rest ihk ih => simp [toItems, headsL, heads, Head.hasNode, ihk, ih]

theorem qPaths_resolve (root : Str) (els : List El) {np : Str × Path} (h : np ∈ qPaths [root] els) :
    resolves (instanceOf root (toItems els)) np.2 = true := by
  rw [qPaths_eq_nodes] at h
  obtain ⟨x, hx, rfl⟩ := List.mem_map.mp h
  exact resolves_of_mem_nodes root _ hx
    (List.all_eq_true.mp (hasNode_toItems els) _ (nodesL_map_snd (toItems els) [root] ▸ List.mem_map_of_mem hx))

/-- **Every dynamic-default `<setvalue>` names an instance node**: every setvalue the model of
    `get_setvalue_node_for_dynamic_default` / `_dynamic_defaults_helper` emits, in `<model>` or appended to a `<repeat>`,
    has a `ref` that resolves in the primary instance. -/
theorem setvalue_refs_resolve (dyn : Q → Bool) (sub : Path → Str → Str) (root : Str) (els : List El) :
    ∀ sf ∈ setFacts (gen dyn sub root els), resolves (instanceOf root (toItems els)) sf.set.ref = true := by
  intro sf h
  -- the setvalues are those of C10's specification: one per question with a dynamic default, `ref` = its path
  simp only [setFacts, gen] at h
  rw [(model_sets dyn sub _ _ els [root]).mem_iff, expSets_eq_flatMap, List.mem_flatMap] at h
  obtain ⟨y, hy, hf⟩ := h
  have hq : (y.1, y.2.2) ∈ qwp [root] els := qwn_forget els [root] none ▸ List.mem_map_of_mem hy
  rw [expSetP_ref dyn sub y sf hf]
  exact qPaths_resolve root els (qwp_in_qPaths els [root] _ hq)

theorem expNested_ref (sub : Path → Str → Str) (paths : Str → Path) (tbl : List Trig) (x : Path × Q) (tf : TrigFact)
    (h : tf ∈ expNested sub paths tbl x) : ∃ e ∈ tbl, tf.set.ref = paths e.target := by
  unfold expNested at h
  split at h
  · simp only [List.mem_append, List.mem_map, triggered, List.mem_filter] at h
    rcases h with ⟨e, he, rfl⟩ | ⟨e, he, rfl⟩ <;> exact ⟨e, he.1, rfl⟩
  · simp at h

/-- **Every triggered `<setvalue>` / `<odk:setgeopoint>` names an instance node**: the `ref` of every set-node nested in
    a triggering control (`nest_set_nodes`) resolves in the primary instance, whatever the trigger cell says. -/
theorem trigger_refs_resolve (dyn : Q → Bool) (sub : Path → Str → Str) (root : Str) (els : List El) :
    ∀ tf ∈ trigFacts (gen dyn sub root els), resolves (instanceOf root (toItems els)) tf.set.ref = true := by
  intro tf h
  simp only [trigFacts, gen] at h
  rw [trigs_eq, List.mem_flatMap] at h
  obtain ⟨_, _, hx⟩ := h
  obtain ⟨e, he, hr⟩ := expNested_ref sub _ _ _ tf hx
  -- the target of a table entry is a question, so the lookup finds a path (of the first element of that name)
  obtain ⟨x, hx, hn⟩ := tbl_target_is_question els [root] e he
  rw [hr, hn]
  exact qPaths_resolve root els (pathOf_mem els [root] x hx)

/-! ### Non-vacuity -/

def qa : Q := { name := ['a'], type := ['t'], default := ['n'], labelled := true, hasCtl := true }
def qc : Q := { name := ['c'], type := ['t'], calcu := ['1'], trigger := ['$', '{', 'a', '}'], labelled := true, hasCtl := true }
def qb : Q := { qa with name := ['b'] }
def exEls : List El := [.q qa, .rep ['r'] [.grp ['g'] [.q qb], .q qc]]

-- two dynamic defaults (one in <model>, one appended to the repeat) and one triggered setvalue exist …
example : (setFacts (gen (fun _ => true) (fun _ s => s) ['d'] exEls)).map (·.set.ref) =
    [[['d'], ['a']], [['d'], ['r'], ['g'], ['b']]] := by
  simp [exEls, qa, qb, qc, setFacts, gen, modelSets, helperSets, dynSet, hasDynDefault, body, bodySetsL, bodySets, qCtl,
    shown, hiddenQ]
example : (trigFacts (gen (fun _ => true) (fun _ s => s) ['d'] exEls)).map (·.set.ref) = [[['d'], ['r'], ['c']]] := by
  simp +decide [exEls, qa, qb, qc, trigFacts, gen, body, bodyTrigsL, bodyTrigs, qCtl, nestSets, triggered,
    trigTable, saveTrigger, refOf, strip, lstrip, rstrip, pyIsSpace, pathOf, qPaths, lookup]
-- … and their refs resolve
example : resolves (instanceOf ['d'] (toItems exEls)) [['d'], ['r'], ['g'], ['b']] = true ∧
    resolves (instanceOf ['d'] (toItems exEls)) [['d'], ['r'], ['c']] = true := by
  simp only [exEls, toItems, qa, qb, qc, toQData]
  decide +kernel

end Pyxv.C02
