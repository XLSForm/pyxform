import Pyxv.Model.Rows
import Pyxv.Proofs.BaseLemmas
/-!
# `is_xml_tag`: what the scan consumes

`ncTail` consumes exactly the longest prefix made of name characters and copies of the typo literal
(`NcRun`); the two alternatives never compete (`À` is no name character), so the decomposition is
unique and `ncTail` / `ncName` / `isXmlTag` are characterised by it in both directions.  Facts about
accepted names are then proved by induction over `NcRun`, not over the fuel.
-/
namespace Pyxv.Rows
open Pyxv

/-- one step of `(namestartchar|namechar_extra)` -/
def nmOk (c : Char) : Bool := isNameStart1 c || isNameExtra c

/-- what `(namestartchar|namechar_extra)*` can consume: name characters and copies of `À-Ö]` -/
inductive NcRun : Str → Prop
  | nil : NcRun []
  | char {c : Char} {cs : Str} : nmOk c = true → NcRun cs → NcRun (c :: cs)
  | typo {cs : Str} : NcRun cs → NcRun (typoLit ++ cs)

/-- what `namestartchar` can consume -/
inductive NcHead : Str → Prop
  | char {c : Char} : isNameStart1 c = true → NcHead [c]
  | typo : NcHead typoLit

/-- the scan stops here: end of input, or a character that starts neither alternative -/
def stops : Str → Bool
  | [] => true
  | c :: cs => !nmOk c && !startsWith (c :: cs) typoLit

/-- an `ncname` of the source's regex -/
def IsNcName (n : Str) : Prop := ∃ h pre, NcHead h ∧ NcRun pre ∧ n = h ++ pre

theorem typo_cons (c : Char) (cs : Str) (h : startsWith (c :: cs) typoLit = true) :
    c :: cs = typoLit ++ cs.drop 3 := by
  have := startsWith_eq_append_drop h
  rwa [show typoLit.length = 4 from rfl, List.drop_succ_cons] at this

/-- soundness: what `ncTail` drops is a run; with enough fuel it stops where the run cannot go on -/
theorem ncTail_run : ∀ (f : Nat) (s : Str), ∃ pre, NcRun pre ∧ s = pre ++ ncTail f s ∧
    (s.length ≤ f → stops (ncTail f s) = true)
  | 0, s => ⟨[], .nil, rfl, fun h => by rw [List.eq_nil_of_length_eq_zero (Nat.le_zero.mp h)]; rfl⟩
  | _ + 1, [] => ⟨[], .nil, rfl, fun _ => rfl⟩
  | f + 1, c :: cs => by
    rw [ncTail]
    split
    · rename_i hc
      obtain ⟨pre, hp, hs, hst⟩ := ncTail_run f cs
      exact ⟨c :: pre, .char hc hp, by rw [List.cons_append, ← hs], fun h => hst (by simpa using h)⟩
    · rename_i hc
      split
      · rename_i ht
        obtain ⟨pre, hp, hs, hst⟩ := ncTail_run f (cs.drop 3)
        refine ⟨typoLit ++ pre, .typo hp, by rw [List.append_assoc, ← hs]; exact typo_cons c cs ht, fun h => hst ?_⟩
        rw [List.length_drop]; simp at h; omega
      · rename_i ht
        exact ⟨[], .nil, rfl, fun _ => by simp [stops, nmOk, hc, ht]⟩

/-- completeness: a run followed by a stop is scanned up to the stop -/
theorem ncTail_eq {pre : Str} (hp : NcRun pre) : ∀ (r : Str) (f : Nat), stops r = true → (pre ++ r).length ≤ f →
    ncTail f (pre ++ r) = r := by
  induction hp with
  | nil =>
    intro r f hr _
    cases f with
    | zero => rfl
    | succ f =>
      cases r with
      | nil => rfl
      | cons c cs =>
        simp only [stops, Bool.and_eq_true, Bool.not_eq_true'] at hr
        have hc : (isNameStart1 c || isNameExtra c) = false := hr.1
        simp [ncTail, hc, hr.2]
  | @char c cs hc _ ih =>
    intro r f hr hf
    cases f with
    | zero => simp at hf
    | succ f =>
      have hc' : (isNameStart1 c || isNameExtra c) = true := hc
      rw [List.cons_append, ncTail, if_pos hc']
      exact ih r f hr (by simpa using hf)
  | @typo cs _ ih =>
    intro r f hr hf
    cases f with
    | zero => simp [typoLit] at hf
    | succ f =>
      have h0 : (isNameStart1 (Char.ofNat 0xC0) || isNameExtra (Char.ofNat 0xC0)) = false := by decide
      have hst : startsWith (typoLit ++ (cs ++ r)) typoLit = true := startsWith_append_self _ _
      rw [List.append_assoc]
      rw [show typoLit ++ (cs ++ r) = Char.ofNat 0xC0 :: (['-', Char.ofNat 0xD6, ']'] ++ (cs ++ r)) from rfl] at hst ⊢
      rw [ncTail, if_neg (by simp [h0]), if_pos hst]
      exact ih r f hr (by simp [typoLit] at hf ⊢; omega)

theorem ncName_iff (s r : Str) : ncName s = some r ↔
    ∃ h pre, NcHead h ∧ NcRun pre ∧ stops r = true ∧ s = h ++ (pre ++ r) := by
  constructor
  · intro hs
    cases s with
    | nil => cases hs
    | cons c cs =>
      simp only [ncName] at hs
      split at hs
      · rename_i hc
        obtain ⟨pre, hp, e, hst⟩ := ncTail_run cs.length cs
        injection hs with hs
        rw [hs] at e hst
        exact ⟨[c], pre, .char hc, hp, hst (Nat.le_refl _), by rw [← e]; rfl⟩
      · split at hs
        · rename_i ht
          obtain ⟨pre, hp, e, hst⟩ := ncTail_run cs.length (cs.drop 3)
          injection hs with hs
          rw [hs] at e hst
          exact ⟨typoLit, pre, .typo, hp, hst (by rw [List.length_drop]; omega), by rw [← e]; exact typo_cons c cs ht⟩
        · cases hs
  · rintro ⟨h, pre, hh, hp, hr, rfl⟩
    cases hh with
    | @char c hc =>
      simp only [List.cons_append, List.nil_append, ncName, if_pos hc]
      rw [ncTail_eq hp r _ hr (Nat.le_refl _)]
    | typo =>
      have h0 : isNameStart1 (Char.ofNat 0xC0) = false := by decide
      have hst : startsWith (typoLit ++ (pre ++ r)) typoLit = true := startsWith_append_self _ _
      rw [show typoLit ++ (pre ++ r) = Char.ofNat 0xC0 :: (['-', Char.ofNat 0xD6, ']'] ++ (pre ++ r)) from rfl] at hst ⊢
      simp only [ncName, h0, Bool.false_eq_true, if_false, if_pos hst]
      rw [show (['-', Char.ofNat 0xD6, ']'] ++ (pre ++ r)).drop 3 = pre ++ r from rfl,
        ncTail_eq hp r _ hr (by simp; omega)]

theorem ncName_nil_iff (s : Str) : ncName s = some [] ↔ IsNcName s := by
  rw [ncName_iff]
  constructor
  · rintro ⟨h, pre, hh, hp, -, e⟩; exact ⟨h, pre, hh, hp, by rw [e, List.append_nil]⟩
  · rintro ⟨h, pre, hh, hp, e⟩; exact ⟨h, pre, hh, hp, rfl, by rw [e, List.append_nil]⟩

theorem stops_colon (l : Str) : stops (':' :: l) = true := by
  simp [stops, startsWith, typoLit]; decide

/-- **`is_xml_tag`**: one `ncname`, or two joined by a colon -/
theorem isXmlTag_iff (s : Str) :
    isXmlTag s = true ↔ IsNcName s ∨ ∃ p l, IsNcName p ∧ IsNcName l ∧ s = p ++ ':' :: l := by
  constructor
  · intro h
    unfold isXmlTag at h
    split at h
    · cases h
    · rename_i h1; exact Or.inl ((ncName_nil_iff s).mp h1)
    · rename_i r h1
      obtain ⟨hd, pre, hh, hp, -, e⟩ := (ncName_iff s _).mp h1
      split at h
      · rename_i h2
        exact Or.inr ⟨hd ++ pre, r, ⟨hd, pre, hh, hp, rfl⟩, (ncName_nil_iff r).mp h2, by rw [e, List.append_assoc]⟩
      · cases h
    · cases h
  · rintro (h | ⟨p, l, ⟨hd, pre, hh, hp, rfl⟩, hl, rfl⟩)
    · simp only [isXmlTag, (ncName_nil_iff s).mpr h]
    · have h1 : ncName (hd ++ pre ++ ':' :: l) = some (':' :: l) :=
        (ncName_iff _ _).mpr ⟨hd, pre, hh, hp, stops_colon l, by rw [List.append_assoc]⟩
      simp only [isXmlTag, h1, (ncName_nil_iff l).mpr hl]

theorem NcRun.of_all {t : Str} (h : t.all nmOk = true) : NcRun t := by
  induction t with
  | nil => exact .nil
  | cons c r ih =>
    rw [List.all_cons, Bool.and_eq_true] at h
    exact .char h.1 (ih h.2)

theorem NcRun.append {a b : Str} (ha : NcRun a) (hb : NcRun b) : NcRun (a ++ b) := by
  induction ha with
  | nil => exact hb
  | char hc _ ih => exact .char hc ih
  | typo _ ih => rw [List.append_assoc]; exact .typo ih

theorem NcRun.forall {P : Char → Prop} (hn : ∀ c, nmOk c = true → P c) (ht : ∀ c ∈ typoLit, P c) {s : Str}
    (h : NcRun s) : ∀ c ∈ s, P c := by
  induction h with
  | nil => intro c hc; cases hc
  | char hc _ ih =>
    intro d hd
    rcases List.mem_cons.mp hd with rfl | hd
    · exact hn _ hc
    · exact ih d hd
  | typo _ ih =>
    intro d hd
    rcases List.mem_append.mp hd with hd | hd
    · exact ht d hd
    · exact ih d hd

theorem IsNcName.forall {P : Char → Prop} (hn : ∀ c, nmOk c = true → P c) (ht : ∀ c ∈ typoLit, P c) {s : Str}
    (h : IsNcName s) : ∀ c ∈ s, P c := by
  obtain ⟨hd, pre, hh, hp, rfl⟩ := h
  intro c hc
  rcases List.mem_append.mp hc with hc | hc
  · cases hh with
    | char h1 => rw [List.mem_singleton.mp hc]; exact hn _ (by simp [nmOk, h1])
    | typo => exact ht c hc
  · exact hp.forall hn ht c hc

theorem IsNcName.ne_nil {s : Str} (h : IsNcName s) : s ≠ [] := by
  obtain ⟨hd, pre, hh, -, rfl⟩ := h
  cases hh <;> simp [typoLit]

theorem IsNcName.append {s t : Str} (h : IsNcName s) (ht : t.all nmOk = true) : IsNcName (s ++ t) := by
  obtain ⟨hd, pre, hh, hp, rfl⟩ := h
  exact ⟨hd, pre ++ t, hh, hp.append (.of_all ht), List.append_assoc ..⟩

theorem isXmlTag_forall {P : Char → Prop} (hn : ∀ c, nmOk c = true → P c) (ht : ∀ c ∈ typoLit, P c) (hc : P ':')
    {s : Str} (h : isXmlTag s = true) : ∀ c ∈ s, P c := by
  rcases (isXmlTag_iff s).mp h with h | ⟨p, l, hp, hl, rfl⟩
  · exact h.forall hn ht
  · intro c hm
    rcases List.mem_append.mp hm with hm | hm
    · exact hp.forall hn ht c hm
    · rcases List.mem_cons.mp hm with rfl | hm
      · exact hc
      · exact hl.forall hn ht c hm

theorem isXmlTag_ne_nil {s : Str} (h : isXmlTag s = true) : s ≠ [] := by
  rcases (isXmlTag_iff s).mp h with h | ⟨p, l, hp, -, rfl⟩
  · exact h.ne_nil
  · simp

end Pyxv.Rows
