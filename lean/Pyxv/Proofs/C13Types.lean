import Pyxv.Proofs.C13
import Pyxv.Proofs.BaseLemmas
/-!
# C13 — type spellings through the whole classified sheet and `formOut`

Lifts `C13.classify_retype` (one row) to the sheet: retyping a row to a spelling with the same `typeObs` leaves
`classifyAll`, `unknownTypeRows`, `metaKids`, and therefore `Rows.formOut`, unchanged.
-/
namespace Pyxv.C13
open Pyxv Pyxv.Spell Pyxv.Form Pyxv.Rows

/-- `qdata` reads the row only through cells other than `type` -/
theorem qdata_retype (name t t' : Str) (r : Cells) : qdata name t (retype t' r) = qdata name t r := by
  have hh : ∀ k : String, k ≠ "type" → Rows.has (retype t' r) k = Rows.has r k := has_retype t' r
  unfold qdata hasBindCells hasLabelOrHint
  simp only [hasPrefix_retype, hh "bind::calculate" (by decide), hh "trigger" (by decide), hh "label" (by decide),
    hh "hint" (by decide), get_retype t' r "control::appearance" (by decide)]

theorem classify_retype_row (lists : List Str) (r : Cells) (t t' : Str) (ht : Rows.get r "type" = some t)
    (h : typeObs t = typeObs t') (n : Nat) : classify lists n (retype t' r) = classify lists n r :=
  classify_retype lists n r t t' (by rw [get_filter_ne (by decide)]; exact ht) h

/-- retyping one row to a spelling with the same observations leaves the classification of every row unchanged -/
theorem classifyAll_retype (lists : List Str) (pre post : List Cells) (r : Cells) (t t' : Str)
    (ht : Rows.get r "type" = some t) (h : typeObs t = typeObs t') : ∀ n,
    classifyAll lists n (pre ++ retype t' r :: post) = classifyAll lists n (pre ++ r :: post) := by
  intro n
  simp only [classifyAll_eq_num, number_append, number, classifyNum_append, classifyNum,
    classify_retype_row lists r t t' ht h]

theorem unknownTypeRows_retype (lists : List Str) (pre post : List Cells) (r : Cells) (t t' : Str)
    (ht : Rows.get r "type" = some t) (h : typeObs t = typeObs t') : ∀ n,
    unknownTypeRows lists n (pre ++ retype t' r :: post) = unknownTypeRows lists n (pre ++ r :: post) := by
  have hr := classify_retype_row lists r t t' ht h
  obtain ⟨_, _, _, _, _, _, _, h8, h9, _, _⟩ := TypeObs.mk.inj h
  induction pre with
  | nil =>
    intro n
    simp only [List.nil_append, unknownTypeRows, hr, get_type_retype t' r t ht, ht, qdata_retype,
      ← qdata_type_congr [] t t' r h, ← h8, ← h9]
  | cons x xs ih => intro n; simp only [List.cons_append, unknownTypeRows, ih]

theorem isAuditRow_retype (r : Cells) (t t' : Str) (ht : Rows.get r "type" = some t) (h : typeObs t = typeObs t') :
    isAuditRow (retype t' r) = isAuditRow r := by
  obtain ⟨h1, _⟩ := TypeObs.mk.inj h
  have a1 : (t = "audit".toList) ↔ (t' = "audit".toList) := iff_of_beq _ _ _ h1
  unfold isAuditRow
  rw [get_type_retype t' r t ht, ht, get_retype t' r "disabled" (by decide)]
  simp only [Option.some.injEq, a1]

theorem metaKids_retype (pre post : List Cells) (r : Cells) (t t' : Str) (settings : Cells)
    (ht : Rows.get r "type" = some t) (h : typeObs t = typeObs t') :
    metaKids (pre ++ retype t' r :: post) settings = metaKids (pre ++ r :: post) settings := by
  unfold metaKids
  simp only [List.filter_append, List.filter_cons, isAuditRow_retype r t t' ht h]
  split <;> simp only [List.map_append, List.map_cons]

/-- **Type spellings do not reach the structural pipeline**: rewriting the type cell of any row to a spelling with the
    same `typeObs` (`int`/`integer`, `begin group`/`begin_group`, `select_one l`/`select one l`, …) leaves `Rows.formOut`
    unchanged: same output or the same located error. -/
theorem formOut_retype (root : Str) (lists : List Str) (pre post : List Cells) (r : Cells) (t t' : Str)
    (settings : Cells) (ht : Rows.get r "type" = some t) (h : typeObs t = typeObs t') :
    formOut root lists (pre ++ retype t' r :: post) settings = formOut root lists (pre ++ r :: post) settings := by
  unfold formOut withMeta
  rw [classifyAll_retype lists pre post r t t' ht h 2, unknownTypeRows_retype lists pre post r t t' ht h 2,
    metaKids_retype pre post r t t' settings ht h]

/-- non-vacuity: a select spelling with a concrete list name, and a control spelling -/
example : typeObs "select one l".toList = typeObs "select_one l".toList ∧
    typeObs "begin_group".toList = typeObs "begin group".toList ∧
    typeObs (dealiasType "int".toList) = typeObs "integer".toList :=
  ⟨typeObs_spellings.2.2.1, typeObs_spellings.2.2.2, typeObs_spellings.2.1⟩

example (root : Str) (lists : List Str) (post : List Cells) (settings : Cells) :
    formOut root lists ([] ++ retype "select one l".toList [("type".toList, "select_one l".toList), ("name".toList, "s".toList)] :: post) settings =
    formOut root lists ([] ++ [("type".toList, "select_one l".toList), ("name".toList, "s".toList)] :: post) settings :=
  formOut_retype root lists [] post _ "select_one l".toList _ settings (by decide +kernel) typeObs_spellings.2.2.1.symm

end Pyxv.C13
