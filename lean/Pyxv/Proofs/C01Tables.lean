import Pyxv.Model.Assemble
/-!
# C01: the constants the `Assemble` model writes by hand are the ones in the source

`Pyxv.Gen.*` is regenerated from the working tree on every run; the facts below are re-checked by the kernel
each time, so a change of `XML_RESERVED_PREFIXES`, `XML_RESERVED_NAMESPACES`, `INVALID_XML_CHAR_REGEX` or of the
literal `get_nsmap` appends makes this file fail (→ the check reports the broken obligation and searches for
an input) instead of silently leaving the model behind.
-/
namespace Pyxv.C01
open Pyxv Pyxv.Xml Pyxv.Asm

/-- the reserved prefixes `nameValid` / `pyDeclOk` compare with are the source's `XML_RESERVED_PREFIXES` -/
theorem reserved_prefixes_pinned : Pyxv.Gen.xmlReservedPrefixes = ["xml", "xmlns"] := by decide +kernel

/-- the reserved prefixes are exactly the lower-case `xml` / `xmlns`: a case variant has to be declared
    like any other prefix -/
theorem reserved_prefixes_exact :
    nameValid [] "xml:lang".toList = true ∧ nameValid [] "XML:lang".toList = false ∧
    nameValid [] "Xml:space".toList = false ∧ nameValid [] "XmlNs:a".toList = false ∧
    nameValid ["XML".toList] "XML:lang".toList = true ∧
    prefixesBound [] (.elem "a".toList [("XML:lang".toList, "en".toList)] []) = false ∧
    prefixesBound [] (.elem "a".toList [("xml:lang".toList, "en".toList)] []) = true := by decide +kernel

/-- `reservedNs` tests exactly the source's `XML_RESERVED_NAMESPACES` -/
theorem reserved_namespaces_pinned :
    Pyxv.Gen.xmlReservedNamespaces.map String.toList = [xmlnsNsUri, xmlNsUri] := by decide +kernel

/-- the fragment `nsString` appends is the literal in `Survey.get_nsmap` -/
theorem entities_literal_pinned : Pyxv.Gen.entitiesNsLiteral.toList = entitiesNs := by decide +kernel

/-- items of a character class body, on code points: `a-b` (45 is `-`) is a range, anything else a single character -/
def classItems : Nat → List Nat → List (Nat × Nat)
  | 0, _ => []
  | _, [] => []
  | f + 1, a :: 45 :: b :: rest => (a, b) :: classItems f rest
  | f + 1, a :: rest => (a, a) :: classItems f rest

/-- `[^ … ]` (91 94 … 93) → the items of the negated class -/
def negatedClass (codes : List Nat) : Option (List (Nat × Nat)) :=
  match codes with
  | 91 :: 94 :: rest =>
    match rest.reverse with
    | 93 :: body => some (classItems body.length body.reverse)
    | _ => none
  | _ => none

def inRanges (rs : List (Nat × Nat)) (n : Nat) : Bool := rs.any fun r => r.1 ≤ n && n ≤ r.2

/-- the class the source's regex negates: TAB, LF, CR, U+0020–U+D7FF, U+E000–U+FFFD, U+10000–U+10FFFF -/
theorem invalid_char_regex_pinned :
    negatedClass Pyxv.Gen.invalidXmlCharRegexCodes =
      some [(9, 9), (10, 10), (13, 13), (0x20, 0xD7FF), (0xE000, 0xFFFD), (0x10000, 0x10FFFF)] := by decide +kernel

/-- **`isXmlChar` (the character test of `validDoc`, and of the reader) accepts exactly the characters the
    source's `INVALID_XML_CHAR_REGEX` does not match** -/
theorem isXmlChar_is_regex_complement (c : Char) :
    isXmlChar c = match negatedClass Pyxv.Gen.invalidXmlCharRegexCodes with
      | some rs => inRanges rs c.toNat
      | none => false := by
  rw [invalid_char_regex_pinned]
  simp only [isXmlChar, inRanges, List.any_cons, List.any_nil, Bool.or_false]
  have point : ∀ k : Nat, (c.toNat == k) = (decide (k ≤ c.toNat) && decide (c.toNat ≤ k)) := fun k => by
    rw [Bool.eq_iff_iff]; simp only [beq_iff_eq, Bool.and_eq_true, decide_eq_true_eq]; omega
  rw [point 9, point 10, point 13]
  simp [Bool.or_assoc]

#print axioms isXmlChar_is_regex_complement

-- non-vacuity: the class parser on other sources; U+FFFE is matched by the regex, U+FFFD is not
example : negatedClass [91, 94, 97, 45, 122, 48, 93] = some [(97, 122), (48, 48)] := by decide
example : isXmlChar (Char.ofNat 0xFFFE) = false ∧ isXmlChar (Char.ofNat 0xFFFD) = true ∧ isXmlChar (Char.ofNat 1) = false := by
  decide +kernel

end Pyxv.C01
