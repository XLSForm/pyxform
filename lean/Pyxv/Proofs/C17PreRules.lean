import Pyxv.Model.PreRules
import Pyxv.Proofs.C17Params
import Pyxv.Proofs.Literals
/-!
# C17 — missing survey sheet and `range` parameter-domain rules, with the text of the diagnosis (`Pyxv.PreRules`)

`PreRules.rangeCell` is a second model of the `range` block of `Controls.validateParams` (which `C17Params` speaks
about): it adds the message texts.  `numbersCheck_agrees` ties the two `float()` loops; the allowed-keys checks
(`PreRules.extras` / `Controls.allowed`) are not tied by a theorem.
-/
namespace Pyxv.C17.Pre
open Pyxv Pyxv.Controls Pyxv.PreRules

/-- **missing survey sheet**: without survey rows and without a survey header row the workbook is refused, whatever
    the other sheets are called; the message starts with the sentence naming `survey`. -/
theorem missing_survey_rejected (lower : Str → Str) (names : List Str) :
    ∃ hint, surveyPrecheck lower false false names = .reject (mustHaveSurvey ++ hint) :=
  ⟨surveyHint lower names, by simp [surveyPrecheck]⟩

example : surveyPrecheck lowerAscii false false ["surveys".toList, "choices".toList, "_survey".toList] =
    .reject ("You must have a sheet named 'survey'. When looking for a sheet named 'survey', the following sheets with similar names were found: 'surveys'.").toList := by
  simp only [toList_lit rfl]
  decide +kernel

/-- the refusal happens *only* in that case: a workbook with survey rows or a survey header row passes this check -/
theorem survey_precheck_pass_iff (lower : Str → Str) (hasRows hasHeader : Bool) (names : List Str) :
    surveyPrecheck lower hasRows hasHeader names = .pass ↔ (hasRows = true ∨ hasHeader = true) := by
  cases hasRows <;> cases hasHeader <;> simp [surveyPrecheck]

example : surveyPrecheck lowerAscii false true [] = .pass := by decide

/-- **the hint names every similar sheet**: when `find_sheet_misspellings` selects any sheet name, the message is the
    first sentence + the hint over exactly the selected names, in workbook order. -/
theorem missing_survey_hint (lower : Str → Str) (names : List Str) (k : Str)
    (hk : k ∈ Warn.misspellCands lower Warn.supported "survey".toList names) :
    surveyPrecheck lower false false names =
      .reject (mustHaveSurvey ++ similarMsg "survey".toList (Warn.misspellCands lower Warn.supported "survey".toList names)) := by
  simp only [surveyPrecheck, Bool.not_false, Bool.and_self, ↓reduceIte, surveyHint, Warn.findSheetMisspellings]
  cases h : Warn.misspellCands lower Warn.supported "survey".toList names with
  | nil => rw [h] at hk; cases hk
  | cons c cs => rfl

example : "surveys".toList ∈ Warn.misspellCands lowerAscii Warn.supported "survey".toList ["surveys".toList] := by
  decide +kernel

/-- **malformed range parameters**: a part without `=` refuses the cell with the "Expecting parameters …" message -/
theorem range_malformed_rejected (raw p : Str) (hm : p ∈ parseParts raw) (h : '=' ∉ p) :
    rangeCell raw = .reject parseMsg := by
  simp only [rangeCell, malformed_params_rejected raw p hm h]

example : rangeCell "start".toList = .reject parseMsg :=
  range_malformed_rejected _ "start".toList (by decide +kernel) (by decide)

theorem mem_insertStr (x y : Str) : ∀ l : List Str, y ∈ insertStr x l ↔ y = x ∨ y ∈ l
  | [] => by simp [insertStr]
  | z :: zs => by
    simp only [insertStr]
    split
    · simp
    · simp only [List.mem_cons, mem_insertStr x y zs]
      constructor
      · rintro (h | h | h) <;> simp [h]
      · rintro (h | h | h) <;> simp [h]

theorem mem_sortStr (y : Str) : ∀ l : List Str, y ∈ sortStr l ↔ y ∈ l
  | [] => by simp [sortStr]
  | x :: xs => by simp only [sortStr, mem_insertStr, mem_sortStr y xs, List.mem_cons]

/-- **unknown range parameter**: a key outside {start, end, step} refuses the cell with the "Accepted parameters
    are …" message over a list that contains that key and only such keys — before any value is looked at. -/
theorem range_unknown_param_named (raw : Str) (ps : Dict) (kv : Str × Str) (hp : parseParams raw = some ps)
    (hm : kv ∈ ps) (hk : rangeAllowed.contains kv.1 = false) :
    ∃ es, rangeCell raw = .reject (extrasMsg es) ∧ kv.1 ∈ es ∧
      ∀ e ∈ es, e ∈ ps.map (·.1) ∧ rangeAllowed.contains e = false := by
  have hin : kv.1 ∈ extras ps := by
    simp only [extras, List.mem_filter, List.mem_map, hk, Bool.not_false, and_true]
    exact ⟨kv, hm, rfl⟩
  simp only [rangeCell, hp]
  cases he : extras ps with
  | nil => rw [he] at hin; cases hin
  | cons e es =>
    refine ⟨sortStr (e :: es), rfl, ?_, ?_⟩
    · rw [mem_sortStr, ← he]; exact hin
    · intro x hx
      rw [mem_sortStr, ← he] at hx
      simp only [extras, List.mem_filter, Bool.not_eq_true'] at hx
      exact hx

example : rangeCell "foo=1 start=2 bar=x".toList =
    .reject "Accepted parameters are 'end, start, step'. The following are invalid parameter(s): 'bar, foo'.".toList := by
  simp only [toList_lit rfl]
  decide +kernel

theorem numbersCheck_reject (pre : Dict) (kv : Str × Str) (post : Dict)
    (hpre : ∀ p ∈ pre, floatLit p.2 = true) (h1 : floatLit kv.2 = false) (h2 : notNumber kv.2 = true) :
    numbersCheck (pre ++ kv :: post) = .reject rangeNumbersMsg := by
  induction pre with
  | nil => simp [numbersCheck, h1, h2]
  | cons p ps ih =>
    have hp : floatLit p.2 = true := hpre p (by simp)
    simp only [List.cons_append, numbersCheck, hp, ↓reduceIte]
    exact ih (fun q hq => hpre q (by simp [hq]))

/-- **range value not a number**: in a cell whose keys are all allowed, the first value surely refused by `float()`
    (`notNumber`) refuses the row with the "must all be numbers" message, whatever follows it. -/
theorem range_not_number_rejected (raw : Str) (pre : Dict) (kv : Str × Str) (post : Dict)
    (hp : parseParams raw = some (pre ++ kv :: post)) (he : extras (pre ++ kv :: post) = [])
    (hpre : ∀ p ∈ pre, floatLit p.2 = true) (h1 : floatLit kv.2 = false) (h2 : notNumber kv.2 = true) :
    rangeCell raw = .reject rangeNumbersMsg := by
  simp only [rangeCell, hp, he, numbersCheck_reject pre kv post hpre h1 h2]

example : rangeCell "start=1 end=q step=y".toList = .reject rangeNumbersMsg :=
  range_not_number_rejected _ [("start".toList, "1".toList)] ("end".toList, "q".toList) [("step".toList, "y".toList)]
    (by decide +kernel) (by decide +kernel) (by decide +kernel) (by decide +kernel) (by decide +kernel)

theorem numbersCheck_pass : ∀ ps : Dict, numbersCheck ps = .pass → ∀ p ∈ ps, floatLit p.2 = true
  | [], _, p, hp => by cases hp
  | kv :: rest, h, p, hp => by
    simp only [numbersCheck] at h
    split at h
    · rename_i hf
      rcases List.mem_cons.mp hp with rfl | hr
      · exact hf
      · exact numbersCheck_pass rest h p hr
    · split at h <;> cases h

/-- converse: a cell that passes has only allowed keys and only plain decimal literals as values -/
theorem range_pass_sound (raw : Str) (h : rangeCell raw = .pass) :
    ∃ ps, parseParams raw = some ps ∧ extras ps = [] ∧ ∀ p ∈ ps, floatLit p.2 = true := by
  cases hp : parseParams raw with
  | none => simp only [rangeCell, hp] at h; cases h
  | some ps =>
    cases he : extras ps with
    | nil => simp only [rangeCell, hp, he] at h; exact ⟨ps, rfl, he, numbersCheck_pass ps h⟩
    | cons e es => simp only [rangeCell, hp, he] at h; cases h

example : rangeCell "start=1.5;end=2;step=0.5".toList = .pass := by decide +kernel

/-- the `float()` loop of `Controls.validateParams` and `numbersCheck` give the same verdict class on every parsed
    cell (the allowed-keys check is not compared) -/
theorem numbersCheck_agrees (ps : Dict) :
    (ps.forM fun kv => needFloat kv.2 "Range parameters must all be numbers") =
      (match numbersCheck ps with
       | .pass => .ok ()
       | .reject _ => .error (.err "Range parameters must all be numbers")
       | .unsupported _ => .error (.unsup "float() literal")) := by
  induction ps with
  | nil => rfl
  | cons kv rest ih =>
    have hc : ((kv :: rest).forM fun kv => needFloat kv.2 "Range parameters must all be numbers") =
        (needFloat kv.2 "Range parameters must all be numbers" >>= fun _ =>
          rest.forM fun kv => needFloat kv.2 "Range parameters must all be numbers") := rfl
    rw [hc, ih]
    simp only [numbersCheck, needFloat]
    by_cases h1 : floatLit kv.2 = true <;> by_cases h2 : notNumber kv.2 = true <;>
      simp [h1, h2, bind, Except.bind]

example : (numbersCheck [("start".toList, "1e5".toList)]) = .unsupported "float() literal" := by decide +kernel

/-- on the sheet the cell is cleaned (`clean_text_values`) first -/
theorem range_sheet_cell (raw : Str) : rangeCellOfSheet raw = rangeCell (Spell.cleanText true raw) := rfl

example : rangeCellOfSheet "end=5. step=1,5  End=10".toList =
    .reject "Accepted parameters are 'end, start, step'. The following are invalid parameter(s): '5 end'.".toList := by
  simp only [toList_lit rfl]
  decide +kernel

end Pyxv.C17.Pre
