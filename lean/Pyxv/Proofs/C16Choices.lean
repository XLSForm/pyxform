import Pyxv.Proofs.C16
import Pyxv.Model.FromJsonChoices
/-!
# C16: the tree theorem joined to the survey-level `choices` object

`fromJsonC` (Model/FromJsonChoices.lean) = `fromJson` + `Survey.__init__`'s reading of `choices`.
`dump_stable_tree_choices`: for every dict the extended builder model accepts, dump → load → dump is identical.
-/
namespace Pyxv.C16
open Pyxv Pyxv.JV Pyxv.ToJson

theorem optionCtor_facts : optionCtor.Nodup ∧ k!"name" ∈ optionCtor ∧
    k!"name" ∉ allDelete .option optionCtor [] [k!"parent"] := by decide

/-- an option as `Option(**d)` builds it (slot tuple `optionCtor`): the shape of every option inside an element built
    by a loader.  `OptOk genOptionSlots` is the shape of an option of a survey built from a workbook (the class's full
    slot tuple). -/
def BuiltOpt (o : Opt) : Prop := ∃ d, optFromJson optionCtor (.obj d) = some o

/-- dump, load, dump of one option as the builder model reads it: the dump of a built option passes `optFromJson`'s
    guard again, and the option rebuilt from it dumps the same -/
theorem option_reload_stable (o : Opt) (h : BuiltOpt o) :
    optFromJson optionCtor (optionToJson o) = some (reloadOption optionCtor (optionDump o)) ∧
    optionDump (reloadOption optionCtor (optionDump o)) = optionDump o := by
  obtain ⟨d, hd⟩ := h
  simp only [optFromJson] at hd
  split at hd
  · next hg =>
    simp only [Bool.and_eq_true, decide_eq_true_eq] at hg
    cases hd
    obtain ⟨hnd, hname⟩ := hg
    let f : Str → J := fun n => (lookup n d).getD .null
    let extra := reloadExtra optionCtor d
    have hslots : (reloadOption optionCtor d) = (optionCtor.map (fun n => (n, f n)), extra) := rfl
    have hen : (extra.map Prod.fst).Nodup :=
      nodup_keys_filter _ hnd
    have hed : ∀ k ∈ extra.map Prod.fst, k ∉ optionCtor := by
      intro k hk
      simp only [extra, reloadExtra, List.mem_map, List.mem_filter] at hk
      obtain ⟨kv, ⟨_, hkv⟩, e⟩ := hk
      subst e
      simpa using hkv
    -- the slots of a built option are the constructor's parameters and nothing else: the constructor reads them all
    have hst := ToJson.option_dump_stable optionCtor optionCtor_facts.1 (fun _ => true) f extra
      (by intro k _ hk; cases hk) hen hed
    have hfil : optionCtor.filter (fun _ => true) = optionCtor := by simp
    rw [hfil] at hst
    rw [hslots]
    refine ⟨?_, hst⟩
    -- the guard on the dumped option
    let del := allDelete .option optionCtor [] [k!"parent"]
    let F := extra.filter fun kv => truthy kv.2
    have hd1 : optionDump (optionCtor.map (fun n => (n, f n)), extra) =
        ownDump del (optionCtor.map fun n => (n, f n)) ++ F := optionDump_map optionCtor f extra hen hed
    have hFkeys : ∀ k ∈ F.map Prod.fst, k ∉ optionCtor := fun k hk => hed k (keys_filter_subset _ _ k hk)
    have hnodup := nodup_keys_optionDump optionCtor optionCtor_facts.1 f extra hen hed
    have hnm : isTruthyAt k!"name" (ownDump del (optionCtor.map fun n => (n, f n)) ++ F) = true := by
      have hv : truthy (f k!"name") = true := by rw [← isTruthyAt_eq]; exact hname
      rw [isTruthyAt_eq, lookup_own_append_kept del optionCtor f F _
        ((lookup_eq_none_iff _ _).2 fun hin => hFkeys _ hin optionCtor_facts.2.1) optionCtor_facts.2.1
        optionCtor_facts.2.2 hv]
      exact hv
    rw [hd1] at hnodup
    simp only [optionToJson, hd1, optFromJson, hnodup, hnm, decide_true, Bool.and_self, if_true]
  · cases hd

theorem optlist_reload_stable (os : List Opt) (h : ∀ o ∈ os, BuiltOpt o) :
    mapOpt (optFromJson optionCtor) (os.map optionToJson) =
      some (os.map fun o => reloadOption optionCtor (optionDump o)) :=
  mapOpt_map _ _ _ os (fun o ho => (option_reload_stable o (h o ho)).1)

theorem choices_reload (ch : List (Str × List Opt)) (h : ∀ c ∈ ch, ∀ o ∈ c.2, BuiltOpt o) :
    mapOpt (listFromJson optionCtor) (ch.map fun c => (c.1, J.arr (c.2.map optionToJson))) =
      some (reloadChoices optionCtor ch) := by
  unfold reloadChoices
  apply mapOpt_map
  intro c hc
  simp only [listFromJson, optlist_reload_stable c.2 (h c hc)]

theorem choicesJson_reload (ch : List (Str × List Opt)) (h : ∀ c ∈ ch, ∀ o ∈ c.2, BuiltOpt o) :
    choicesJson (reloadChoices optionCtor ch) = choicesJson ch :=
  choicesJson_map_congr _ ch fun c hc o ho => (option_reload_stable o (h c hc o ho)).2

theorem built_of_mapOpt (cj : Dict) (ch : List (Str × List Opt))
    (h : mapOpt (listFromJson optionCtor) cj = some ch) : ∀ c ∈ ch, ∀ o ∈ c.2, BuiltOpt o := by
  intro c hc o ho
  obtain ⟨p, _, hp⟩ := mapOpt_mem _ _ _ h c hc
  simp only [listFromJson] at hp
  split at hp
  · next os hos =>
    split at hp
    · next l hl =>
      cases hp
      obtain ⟨x, _, hx⟩ := mapOpt_mem _ _ _ hl o ho
      cases x with
      | obj d => exact ⟨d, hx⟩
      | _ => simp [optFromJson] at hx
    · cases hp
  · cases hp

theorem fromJson_no_choices (cfg : Cfg) (f : Nat) (kvs : Dict) (e : El)
    (h : fromJson cfg f (.obj kvs) = some e) : lookup k!"choices" kvs = none := by
  obtain ⟨_, _, _, hk, h⟩ := fromJson_some h
  cases hk
  obtain ⟨t, _, ⟨_, _, ho, _⟩ | ⟨_, h⟩⟩ := elemBuild_eq_some.mp h
  · exact (noChoices_eq_some.mp ho).1
  · exact (questionFromJson_no_tree cfg t kvs e h).2

/-- a survey dict accepted by `fromJson` gives a survey element without options or choices -/
theorem fromJson_survey_shape (cfg : Cfg) (f : Nat) (kvs : Dict) (e : El)
    (h : fromJson cfg f (.obj kvs) = some e) (ht : lookup k!"type" kvs = some (.str k!"survey")) :
    ∃ kvs' kids, e = .mk .survey (cfg.surveyNames.map fun n => (n, surveyFn kvs' n)) [] [] [] kids none [] ∧
      lookup k!"type" kvs' = some (.str k!"survey") := by
  obtain ⟨_, _, _, hk, h⟩ := fromJson_some h
  cases hk
  obtain ⟨t, hty, hcase⟩ := elemBuild_eq_some.mp h
  cases Option.some.inj (hty.symm.trans ht)
  rcases hcase with ⟨_, _, ho, h⟩ | ⟨hsec, _⟩
  · obtain ⟨hnc, rfl⟩ := noChoices_eq_some.mp ho
    rw [stripChoices_id kvs hnc] at h
    obtain ⟨_, _, kids, _, _, he⟩ := secBuild_eq_some.mp h
    obtain ⟨nm, _, rfl⟩ := secEl_survey.mp he
    refine ⟨_, kids, rfl, ?_⟩
    split
    · exact ht
    · exact lookup_append_some _ _ _ _ ht
  · exact absurd (Or.inl rfl) hsec

/-- the dumped `choices` object is read back option by option -/
theorem ownChoices_ok : OwnOk (ownChoices optionCtor) where
  nil h ht := by
    unfold ownChoices at h
    split at h
    · cases h; rfl
    · simp [ht] at h
    · cases h
  again := by
    intro t kvs m D h hD
    unfold ownChoices at h
    split at h
    · cases h; exact ⟨[], by simp [ownChoices, choicesPart, hD], rfl⟩
    · next cj _ =>
      split at h
      · next hc =>
        have hbuilt := built_of_mapOpt cj m h
        cases m with
        | nil => rw [mapOpt_nil _ _ h] at hc; simp at hc
        | cons c cs =>
          have hl : lookup k!"choices" (D ++ choicesPart (c :: cs)) = some (choicesJson (c :: cs)) := by
            rw [lookup_append_none _ _ _ hD]; simp [choicesPart, lookup]
          refine ⟨reloadChoices optionCtor (c :: cs), ?_, ?_⟩
          · have := choices_reload (c :: cs) hbuilt
            simp only [ownChoices, hl, choicesJson, hc.1, List.map_cons, List.isEmpty_cons, Bool.not_false, and_self,
              if_true] at this ⊢
            exact this
          · simp only [choicesPart, reloadChoices, List.map_cons, List.isEmpty_cons, Bool.false_eq_true, if_false]
            rw [← choicesJson_reload (c :: cs) hbuilt]
            simp [reloadChoices]
      · cases h
    · cases h

theorem questionFromJson_choices (cfg : Cfg) (t : Str) (kvs : Dict) (v : J) (h : lookup k!"choices" kvs = some v) :
    questionFromJson cfg t kvs = none := by
  cases hq : questionFromJson cfg t kvs with
  | none => rfl
  | some e => rw [(questionFromJson_no_tree cfg t kvs e hq).2] at h; cases h

/-- the survey's own choices enter the built element at the end only -/
theorem secBuild_withChoices (cfg : Cfg) (sub : J → Option El) (kvs : Dict) (ch : List (Str × List Opt)) :
    secBuild cfg sub k!"survey" kvs ch = (secBuild cfg sub k!"survey" kvs []).map (withChoices ch) := by
  unfold secBuild
  split
  · rfl
  · cases kidsOf kvs with
    | none => rfl
    | some cs =>
      dsimp only
      cases mapOpt sub cs with
      | none => rfl
      | some kids =>
        simp only [secEl, if_true]
        cases lookup k!"name" kvs <;> rfl

/-- `fromJsonC` on a survey dict with a `choices` object: `fromJson` without the key, then `withChoices`, is the
    section builder with those choices -/
theorem fromJson_stripped_survey (cfg : Cfg) (f : Nat) (kvs : Dict)
    (hl : lookup k!"type" kvs = some (.str k!"survey")) (ch : List (Str × List Opt)) :
    (fromJson cfg (f + 1) (.obj (stripChoices kvs))).map (withChoices ch) =
      secBuild cfg (fromJson cfg f) k!"survey" (stripChoices kvs) ch := by
  have hty : lookup k!"type" (stripChoices kvs) = some (.str k!"survey") :=
    (lookup_stripChoices _ kvs (by decide)).trans hl
  have hnc : noChoices k!"survey" (stripChoices kvs) = some [] :=
    noChoices_eq_some.mpr ⟨lookup_stripChoices_self kvs, rfl⟩
  rw [fromJson_step, elemBuild, hty]
  simp only [true_or, if_true, hnc]
  rw [stripChoices_id _ (lookup_stripChoices_self kvs), secBuild_withChoices cfg _ _ ch]

theorem fromJsonC_step (cfg : Cfg) (ctor : List Str) (f : Nat) (kvs : Dict) :
    fromJsonC cfg ctor (f + 1) (.obj kvs) =
      elemBuild cfg (ownChoices ctor) (fun _ _ => fromJson cfg f) (questionFromJson cfg) kvs := by
  unfold fromJsonC
  cases hc : lookup k!"choices" kvs with
  | none =>
    -- no `choices` key: both ways of reading the survey's own choices find none
    simp only [fromJson_step, elemBuild, noChoices, ownChoices, hasKey, hc, Option.isSome_none, Bool.false_eq_true,
      if_false]
  | some v =>
    -- a `choices` key: accepted only as a non-empty object on a survey (`fromJson_stripped_survey`); in every other
    -- case both sides are `none` (a question with the key is rejected: `questionFromJson_choices`)
    have hq := fun t => questionFromJson_choices cfg t kvs v hc
    have hty : lookup k!"type" (stripChoices kvs) = lookup k!"type" kvs := lookup_stripChoices _ kvs (by decide)
    simp only [elemBuild, ownChoices, hc, hty, hq]
    cases v with
    | obj cj =>
      dsimp only
      cases hl : lookup k!"type" kvs with
      | none => simp
      | some w =>
        cases w with
        | str t =>
          dsimp only
          by_cases hne : cj.isEmpty = true
          · simp [hne]
          · by_cases hs : t = k!"survey"
            · subst hs
              simp only [hne, if_false, true_or, if_true, Bool.not_false, and_self, Bool.false_eq_true]
              cases mapOpt (listFromJson ctor) cj with
              | none => rfl
              | some ch =>
                dsimp only
                rw [← fromJson_stripped_survey cfg f kvs hl ch]
                cases fromJson cfg (f + 1) (.obj (stripChoices kvs)) <;> rfl
            · simp [hne, hs]
        | _ => simp
    | _ =>
      cases hl : lookup k!"type" kvs with
      | none => rfl
      | some w => cases w <;> simp

theorem fromJsonC_zero (cfg : Cfg) (ctor : List Str) (d : J) : fromJsonC cfg ctor 0 d = none := by
  cases d with
  | obj kvs =>
    unfold fromJsonC
    simp only [fromJson]
    cases lookup k!"choices" kvs with
    | none => rfl
    | some v =>
      cases v with
      | obj cj =>
        dsimp only
        split
        · rfl
        · cases lookup k!"type" (stripChoices kvs) with
          | none => rfl
          | some w =>
            cases w with
            | str t =>
              dsimp only
              split
              · cases mapOpt (listFromJson ctor) cj <;> rfl
              · rfl
            | _ => rfl
      | _ => rfl
  | _ => rfl

theorem fromJsonC_some {cfg : Cfg} {ctor : List Str} {f : Nat} {d : J} {e : El} (h : fromJsonC cfg ctor f d = some e) :
    ∃ f' kvs, f = f' + 1 ∧ d = .obj kvs ∧
      elemBuild cfg (ownChoices ctor) (fun _ _ => fromJson cfg f') (questionFromJson cfg) kvs = some e := by
  cases f with
  | zero => rw [fromJsonC_zero] at h; cases h
  | succ f =>
    cases d with
    | obj kvs => exact ⟨f, kvs, rfl, rfl, fromJsonC_step cfg ctor f kvs ▸ h⟩
    | _ => simp [fromJsonC] at h

theorem dump_stable_tree_choices_cfg (cfg : Cfg) (ok : SecOk cfg) (hq : QStable cfg) (f : Nat) (d : J) (e : El)
    (h : fromJsonC cfg optionCtor f d = some e) :
    ∃ e', fromJsonC cfg optionCtor f (toJson e []) = some e' ∧ toJson e' [] = toJson e [] := by
  obtain ⟨f, kvs, rfl, rfl, hs⟩ := fromJsonC_some h
  obtain ⟨D, e', hd, he', heq⟩ :=
    elemBuild_stable cfg ok hq ownChoices_ok (stable_all cfg ok hq f).kids hs [] (by simp)
  exact ⟨e', by rw [hd, fromJsonC_step]; exact he', heq [] (by simp)⟩

/-- for every dict the builder model with survey-level `choices` accepts (as `dump_stable_tree`, plus selects that
    refer to a list and a `choices` object), the dump of the built survey is accepted again and the rebuilt survey
    dumps to the identical dict. -/
theorem dump_stable_tree_choices (f : Nat) (d : J) (e : El) (h : fromJsonC genCfg optionCtor f d = some e) :
    ∃ e', fromJsonC genCfg optionCtor f (toJson e []) = some e' ∧ toJson e' [] = toJson e [] :=
  dump_stable_tree_choices_cfg genCfg genCfg_secOk question_dump_stable f d e h

/-- non-vacuity with the real tables: a survey with a `choices` object (two options, an extra column, one falsy extra
    value) and a `select one` referring to the list by `itemset`; outside `fromJson`'s fragment. -/
example : ∃ e e', fromJson genCfg 4 (.obj [(k!"type", .str k!"survey"), (k!"name", .str k!"data"),
      (k!"children", .arr [.obj [(k!"name", .str k!"q"), (k!"type", .str k!"select one"),
        (k!"itemset", .str k!"l"), (k!"label", .str k!"Q")]]),
      (k!"choices", .obj [(k!"l", .arr [.obj [(k!"name", .str k!"a"), (k!"label", .str k!"A"), (k!"pop", .str k!"1")],
        .obj [(k!"name", .str k!"b"), (k!"label", .str k!"B"), (k!"pop", .str [])]])])]) = none ∧
    fromJsonC genCfg optionCtor 4 (.obj [(k!"type", .str k!"survey"), (k!"name", .str k!"data"),
      (k!"children", .arr [.obj [(k!"name", .str k!"q"), (k!"type", .str k!"select one"),
        (k!"itemset", .str k!"l"), (k!"label", .str k!"Q")]]),
      (k!"choices", .obj [(k!"l", .arr [.obj [(k!"name", .str k!"a"), (k!"label", .str k!"A"), (k!"pop", .str k!"1")],
        .obj [(k!"name", .str k!"b"), (k!"label", .str k!"B"), (k!"pop", .str [])]])])]) = some e ∧
    fromJsonC genCfg optionCtor 4 (toJson e []) = some e' ∧ toJson e' [] = toJson e [] := by
  have h : (fromJson genCfg 4 (.obj [(k!"type", .str k!"survey"), (k!"name", .str k!"data"),
      (k!"children", .arr [.obj [(k!"name", .str k!"q"), (k!"type", .str k!"select one"),
        (k!"itemset", .str k!"l"), (k!"label", .str k!"Q")]]),
      (k!"choices", .obj [(k!"l", .arr [.obj [(k!"name", .str k!"a"), (k!"label", .str k!"A"), (k!"pop", .str k!"1")],
        .obj [(k!"name", .str k!"b"), (k!"label", .str k!"B"), (k!"pop", .str [])]])])])).isNone = true ∧
      (fromJsonC genCfg optionCtor 4 (.obj [(k!"type", .str k!"survey"), (k!"name", .str k!"data"),
      (k!"children", .arr [.obj [(k!"name", .str k!"q"), (k!"type", .str k!"select one"),
        (k!"itemset", .str k!"l"), (k!"label", .str k!"Q")]]),
      (k!"choices", .obj [(k!"l", .arr [.obj [(k!"name", .str k!"a"), (k!"label", .str k!"A"), (k!"pop", .str k!"1")],
        .obj [(k!"name", .str k!"b"), (k!"label", .str k!"B"), (k!"pop", .str [])]])])])).isSome = true := by
    simp only [genCfg, Gen.questionTypes, List.map, toList_lit rfl]
    decide +kernel
  obtain ⟨e, he⟩ := Option.isSome_iff_exists.mp h.2
  obtain ⟨e', h1, h2⟩ := dump_stable_tree_choices 4 _ e he
  exact ⟨e, e', Option.isNone_iff_eq_none.mp h.1, he, h1, h2⟩

/-- the dump of such a survey carries the `choices` object: the falsy extra value is dropped, the truthy one kept -/
example : (fromJsonC genCfg optionCtor 3 (.obj [(k!"type", .str k!"survey"), (k!"name", .str k!"data"),
      (k!"choices", .obj [(k!"l", .arr [.obj [(k!"name", .str k!"a"), (k!"pop", .str k!"1"), (k!"z", .str [])]])])])).map
      (fun e => match toJson e [] with
        | .obj d => (match lookup k!"choices" d with
          | some (.obj [(_, .arr [.obj o])]) => o.map Prod.fst
          | _ => [])
        | _ => []) = some [k!"name", k!"pop"] := by
  simp only [genCfg, Gen.surveyFields, treeKeys, List.filter, List.contains, List.elem, String.reduceBEq,
    Bool.not_false, Bool.not_true, List.map, toList_lit rfl]
  decide +kernel

end Pyxv.C16
