import Pyxv.Proofs.C03
/-! `relative_when_enclosed` for C03, composed from RefsLemmas' facts on `Valid` chain lists and on the string functions. -/
namespace Pyxv.Refs
open Pyxv

/-- If the innermost repeat that encloses the target (`t.take r`) also encloses the referrer, and the reference is
neither `${last-saved#…}` nor at an absolute-by-design `indexed-repeat()` position, the emitted path is relative, with
`current()` exactly when the call site or the instance predicate asks for it. -/
theorem relative_when_enclosed (els : List Chain) (hv : Valid els) (c t : Chain) (hc : c ∈ els) (name : Str)
    (fl : Flags) (hlook : els.filter (named name) = [t])
    (r : Nat) (hrt : r < t.length) (hrc : r < c.length)
    (hrep : Chain.isRep (t.take r) = true)
    (hinner : ∀ j, r < j → j < t.length → Chain.isRep (t.take j) = false)
    (henc : c.take r = t.take r) (hls : fl.lastSaved = false) (hia : fl.indexedArg = false) :
    ∃ k d, refFor els (some c) name fl = .ok (fl.useCurrent || fl.inPredicate) (.rel k d) := by
  have ht : t ∈ els := (mem_of_filter_eq_cons hlook).1
  have gc := hv.good c hc
  have gt := hv.good t ht
  -- neither the document node nor the survey root is a repeat
  have hr2 : 2 ≤ r := by
    match r, hrep with
    | 0, h => simp [Chain.isRep] at h
    | 1, h => rw [hv.rootNotRep t ht] at h; cases h
    | _ + 2, _ => omega
  have hr0 : 0 < r := by omega
  have hclen : c.path.length = c.length := by simp [Chain.path]
  have htlen : t.path.length = t.length := by simp [Chain.path]
  have hpathr : c.path.take r = t.path.take r := by rw [← path_take, ← path_take, henc]
  -- the target's repeat parent sits at depth `r`, the referrer's at depth `r` or deeper
  obtain ⟨j, hrj, hjl, hjrep, hxp⟩ := isParentARepeat_valid hv ht r hr0 hrt hrep
  obtain rfl : r = j := Nat.le_antisymm hrj (Nat.le_of_not_lt fun hlt => by
    have := hinner j hlt hjl; rw [this] at hjrep; cases hjrep)
  obtain ⟨i, hir, hil, -, hcp⟩ := isParentARepeat_valid hv hc r hr0 hrc (henc ▸ hrep)
  have hsw : startsWith (pathStr (c.path.take i) ++ ['/']) (pathStr (t.path.take r) ++ ['/']) = true :=
    (startsWith_pathStr_iff _ _ (take_ne_nil _ _ (by omega) (by omega)) (take_ne_nil _ _ hr0 (by omega)) (gc.take i)
      (gt.take r)).2 (hpathr ▸ List.take_prefix_take_left hir)
  obtain ⟨inc, hss⟩ := ssrp_of_startsWith fl.referenceParent hcp hxp hsw
  have hreach := gst_resolves c.path t.path gc gt r hr0 (by omega) (by omega) hpathr inc
  generalize getStepsAndTarget (pathStr t.path) (pathStr c.path) (pathStr (t.path.take r)) inc = res at hss hreach
  have hres : res.1 ≠ 0 := by have := hreach.steps_pos; omega
  have hrel := related_of_common_repeat c t r hr0 hrc hrt hrep henc
  -- `_relative_path` first compares `xpath.split("/")[2]`, the element right under the survey root: shared, since `2 ≤ r`
  have hidx : c.path[1]? = t.path[1]? := by
    rw [← List.getElem?_take_of_lt (show 1 < r by omega), hpathr, List.getElem?_take_of_lt (by omega)]
  obtain ⟨a, ha⟩ : ∃ a, t.path[1]? = some a := ⟨t.path[1]'(by omega), List.getElem?_eq_getElem (by omega)⟩
  have hsplit : ∀ d : Chain, 0 < d.length → GoodNames d.path → (splitOnChar '/' d.xpath)[2]? = d.path[1]? := by
    intro d h0 gd
    have hne : d.path ≠ [] := fun e => by rw [Chain.path, List.map_eq_nil_iff] at e; simp [e] at h0
    rw [Chain.xpath, split_pathStr _ hne gd, List.getElem?_cons_succ]
  obtain ⟨d, hd⟩ : ∃ d, relativePath (repeatXpaths els) c t name fl.referenceParent = some (res.1, d) :=
    ⟨_, relativePath_eq_some.2 ⟨⟨a, (hsplit t (by omega) gt).trans ha,
      (hsplit c (by omega) gc).trans (hidx ▸ ha)⟩, hrel, res.2, hss, hres, rfl⟩⟩
  refine ⟨res.1, d, ?_⟩
  rw [refFor_eq, hlook]
  simp only [relFor, hls, hia, hd, Bool.not_false, Bool.and_self, ↓reduceIte]

end Pyxv.Refs
