import Pyxv.Proofs.ConvertC10DefaultsText
import Pyxv.Proofs.C10Form
import Pyxv.Proofs.Rows17Lemmas
/-!
# C10 for the end-to-end composition: `validate17` makes the question paths pairwise different

`convertDoc` runs `Rows17.validate17` on the erased tree; `convertDoc_trace_val` keeps that step, `trace_paths_nodup`
turns it (through `C10.paths_nodup`, proved for the C10 slice's own trees) into pairwise different question paths of
the mapped tree, which discharges the hypothesis of `convert_c10_defaults_text_partial`.
-/
namespace Pyxv.ConvertP
open Pyxv Pyxv.Form Pyxv.Rows Pyxv.Xml Pyxv.Asm Pyxv.Convert Pyxv.C01

/-- `convertDoc_trace` with the validation step kept -/
theorem convertDoc_trace_val (wb : Workbook) (doc : Node) (h : convertDoc wb = .ok doc) :
    ∃ f lists rows drows o ditems, Trace wb doc f lists rows drows o ditems ∧
      Rows17.validate17 f.name (withMeta rows [] o.items) = .ok () :=
  let ⟨f, _, rows, drows, o, ditems, T, _, _, hval⟩ := convertDoc_inv wb doc h
  ⟨f, _, rows, drows, o, ditems, T, hval⟩

#print axioms convertDoc_trace_val

/-- what the `Defaults` slice's theorems ask of an accepted tree -/
theorem validate17_parts (root : Str) (kids : List Item) (h : Rows17.validate17 root kids = .ok ()) :
    Rows17.validateEach17 kids = .ok () ∧ Rows17.liftDup root kids = .ok () := by
  obtain ⟨-, hn, hv⟩ := (Rows17.validate17_ok_iff root kids).1 h
  have hs := sibsOK_of_validate root kids hv
  simp only [sibsOK, Bool.and_eq_true, decide_eq_true_eq] at hs
  exact ⟨(Rows17.validateEach17_ok_iff kids).2 ⟨hn, (validateEach_ok_iff kids).2 hs.2⟩,
    (Rows17.liftDup_ok_iff root kids).2 ((dupCheck_ok_iff root kids).2 hs.1)⟩

theorem shape_toDefL_names : ∀ (ds : List DItem),
    (C10.shape (toDefL ds)).map Item.name = (Convert.eraseL ds).map Item.name
  | [] => by simp [toDefL, C10.shape, Convert.eraseL]
  | .q d p :: rest => by
    simp [toDefL, toDef, toQ, C10.shape, Convert.eraseL, Convert.erase, Item.name, shape_toDefL_names rest]
  | .sec .rep n b p ks :: rest | .sec .group n b p ks :: rest | .sec .loop n b p ks :: rest => by
    simp [toDefL, toDef, C10.shape, Convert.eraseL, Convert.erase, Item.name, shape_toDefL_names rest]

theorem firstDup_congr : ∀ (l l' : List Item) (seen : List Str), l.map Item.name = l'.map Item.name →
    firstDup seen l = firstDup seen l'
  | [], [], _, _ => rfl
  | [], _ :: _, _, h => by simp at h
  | _ :: _, [], _, h => by simp at h
  | a :: as, b :: bs, seen, h => by
    simp only [List.map_cons, List.cons.injEq] at h
    simp only [firstDup, h.1]
    split
    · rfl
    · exact firstDup_congr as bs _ h.2

theorem liftDup_congr (parent : Str) (l l' : List Item) (h : l.map Item.name = l'.map Item.name) :
    Rows17.liftDup parent l = Rows17.liftDup parent l' := by
  unfold Rows17.liftDup dupCheck
  rw [firstDup_congr l l' [] h]

/-- the `Defaults` view has no loops (`.loop ↦ .grp`), so the control type of the shape is not the item's -/
theorem shape_cons_sec (ct : Ctl) (n : Str) (b : Bool) (p : Pay) (ks rest : List DItem) :
    ∃ ct', C10.shape (toDefL (.sec ct n b p ks :: rest)) =
      Item.sec ct' n false (C10.shape (toDefL ks)) :: C10.shape (toDefL rest) := by
  cases ct
  · exact ⟨.group, by simp only [toDefL, toDef, C10.shape]⟩
  · exact ⟨.rep, by simp only [toDefL, toDef, C10.shape]⟩
  · exact ⟨.group, by simp only [toDefL, toDef, C10.shape]⟩

theorem shape_toDefL_ne (k : DItem) (ks : List DItem) : C10.shape (toDefL (k :: ks)) ≠ [] :=
  fun h => by simpa [toDefL] using C10.shape_eq_nil _ h

open Pyxv.Rows17 in
/-- `validateEach17` looks at names and nesting only, not at what `C10.shape ∘ toDefL` and `eraseL` fill differently
    (control type, bind flag, question data) -/
theorem validateEach17_shape : ∀ (ds : List DItem),
    validateEach17 (C10.shape (toDefL ds)) = validateEach17 (Convert.eraseL ds)
  | [] => by simp [toDefL, C10.shape, Convert.eraseL]
  | .q d p :: rest => by
    simp only [toDefL, toDef, C10.shape, Convert.eraseL, Convert.erase, validateEach17, validateItem17]
    exact validateEach17_shape rest
  | .sec ct n b p [] :: rest => by
    obtain ⟨ct', hs⟩ := shape_cons_sec ct n b p [] rest
    have h0 : C10.shape (toDefL []) = [] := by simp only [toDefL, C10.shape]
    have he : Convert.eraseL (.sec ct n b p [] :: rest) = Item.sec ct n b [] :: Convert.eraseL rest := by
      simp only [Convert.eraseL, Convert.erase]
    rw [hs, h0, he]
    simp only [validateEach17, validateItem17]
  | .sec ct n b p (k :: ks) :: rest => by
    have ih1 := validateEach17_shape (k :: ks)
    have ih2 := validateEach17_shape rest
    have hl : liftDup n (C10.shape (toDefL (k :: ks))) = liftDup n (Convert.eraseL (k :: ks)) :=
      liftDup_congr _ _ _ (shape_toDefL_names _)
    have e1 : Convert.eraseL (k :: ks) ≠ [] := by simp [Convert.eraseL]
    obtain ⟨ct', hs⟩ := shape_cons_sec ct n b p (k :: ks) rest
    have he : Convert.eraseL (.sec ct n b p (k :: ks) :: rest) =
        Item.sec ct n b (Convert.eraseL (k :: ks)) :: Convert.eraseL rest := by
      rw [Convert.eraseL, Convert.erase]
    rw [hs, he]
    simp only [validateEach17]
    rw [validateItem17_sec _ _ _ _ (shape_toDefL_ne k ks), validateItem17_sec _ _ _ _ e1, ih1, ih2, hl]

theorem toDefL_append (a b : List DItem) : toDefL (a ++ b) = toDefL a ++ toDefL b :=
  map_append_of_eqns rfl (fun _ _ => rfl) a b

theorem dWithMeta_prefix (root : Str) (rows : List Cells) (ds : List DItem) :
    ∃ tail, dWithMeta root rows ds = ds ++ tail := by
  unfold dWithMeta
  simp only []
  split
  · exact ⟨[], by simp⟩
  · exact ⟨_, rfl⟩

/-- **the question paths of a converted workbook are pairwise different** (from the `validate17` step) -/
theorem trace_paths_nodup {wb : Workbook} {doc : Node} {f : Fields} {lists : List (Str × List Choices.Choice)}
    {rows : List Cells} {drows : List ((Nat × RowK) × Pay)} {o : FormOut} {ditems : List DItem}
    (T : Trace wb doc f lists rows drows o ditems)
    (hval : Rows17.validate17 f.name (withMeta rows [] o.items) = .ok ()) :
    ((Defaults.qwp [f.name] (toDefL ditems)).map (·.1)).Nodup := by
  rw [← trace_erase_all T] at hval
  obtain ⟨h1, h2⟩ := validate17_parts _ _ hval
  rw [← validateEach17_shape] at h1
  rw [← liftDup_congr _ _ _ (shape_toDefL_names _)] at h2
  have hn := C10.paths_nodup (toDefL (dWithMeta f.name rows ditems)) [f.name] none h1
    (C10.names_nodup_of_dupCheck _ _ h2)
  have hq : ((Defaults.qwp [f.name] (toDefL (dWithMeta f.name rows ditems))).map (·.1)).Nodup := by
    rw [← Defaults.qwn_forget _ _ none, List.map_map]
    exact hn
  obtain ⟨tail, ht⟩ := dWithMeta_prefix f.name rows ditems
  rw [ht, toDefL_append, Defaults.qwp_append, List.map_append] at hq
  exact (List.nodup_append.1 hq).1

#print axioms trace_paths_nodup

theorem trace_c10_defaults {wb doc f lists rows drows o ditems} (T : Trace wb doc f lists rows drows o ditems)
    (hval : Rows17.validate17 f.name (withMeta rows [] o.items) = .ok ()) :
    ∀ x ∈ Defaults.qwp [f.name] (toDefL ditems),
      (lookupPath x.1 (defaultsOfL [f.name] ditems)).getD [] = Defaults.instText dynQ x.2 :=
  fun x hx => lookup_instText _ _ (trace_paths_nodup T hval) x hx

/-- **C10, instance text of the converted document** (full).  The children of the primary instance root are
    `instNodes defs [root] nts`, which gives every childless node at path `p` — instance and `jr:template` copies alike
    — the text `lookupPath p defs` (`instNode_leaf`); the question paths of the mapped tree are pairwise different, and
    at the path of every question that text (absent = empty) is `Defaults.instText dynQ`: the stored default iff the
    lexer classifies it static.  Existential closure of `trace_paths_nodup` / `trace_c10_defaults`, where `ditems` is the
    run's tree and `defs = defaultsOfL [root] ditems`; this statement says neither (its last two conjuncts hold of
    `ditems := []` and any `defs`). -/
theorem convert_c10_defaults (wb : Workbook) (doc : Node) (h : convertDoc wb = .ok doc) :
    ∃ (root : Str) (ditems : List DItem) (defs : List (List Str × Str)) (nts : List NT) (rt : Node),
      primaryRoot doc = some rt ∧ kidsOf rt = instNodes defs [root] nts ∧ ntOfL (kidsOf rt) = nts ∧
      ((Defaults.qwp [root] (toDefL ditems)).map (·.1)).Nodup ∧
      ∀ x ∈ Defaults.qwp [root] (toDefL ditems),
        (lookupPath x.1 defs).getD [] = Defaults.instText dynQ x.2 := by
  obtain ⟨f, lists, rows, drows, o, ditems, T, hval⟩ := convertDoc_trace_val wb doc h
  obtain ⟨rt, h1, h2, h3⟩ := trace_instance T
  exact ⟨f.name, ditems, _, _, rt, h1, h2, h3, trace_paths_nodup T hval, trace_c10_defaults T hval⟩

#print axioms convert_c10_defaults

-- the theorem applied to the example workbook
example : ∃ doc, convertDoc exWb = .ok doc ∧ ∃ root ditems defs nts rt,
    primaryRoot doc = some rt ∧ kidsOf rt = instNodes defs [root] nts ∧ ntOfL (kidsOf rt) = nts ∧
    ((Defaults.qwp [root] (toDefL ditems)).map (·.1)).Nodup ∧
    ∀ x ∈ Defaults.qwp [root] (toDefL ditems),
      (lookupPath x.1 defs).getD [] = Defaults.instText dynQ x.2 := by
  obtain ⟨doc, hd, -, -⟩ := ex_doc
  exact ⟨doc, hd, convert_c10_defaults exWb doc hd⟩

end Pyxv.ConvertP
