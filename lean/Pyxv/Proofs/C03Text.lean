import Pyxv.Model.RefsText
import Pyxv.Proofs.C03
import Pyxv.Proofs.ScanLemmas
/-!
# C03: no `${` survives the substitution; every reference is found
-/
namespace Pyxv.Refs
open Pyxv Pyxv.Scan

def tok : Str := ['$', '{']

theorem isInfix_tok_cons (c : Char) (t : Str) :
    isInfix tok (c :: t) = ((c == '$' && t.head? == some '{') || isInfix tok t) := by
  cases t with
  | nil => simp [isInfix, startsWith, tok]
  | cons x xs => simp [isInfix, startsWith, tok]

theorem isInfix_tok_append (v out : Str) (hv : '$' ∉ v) : isInfix tok (v ++ out) = isInfix tok out := by
  induction v with
  | nil => rfl
  | cons a v ih =>
    have ha : a ≠ '$' := fun e => hv (by simp [e])
    rw [List.cons_append, isInfix_tok_cons]
    have : (a == '$') = false := by simp [ha]
    simp only [this, Bool.false_and, Bool.false_or]
    exact ih fun m => hv (by simp [m])

/-- replacement texts as `_var_repl_function` builds them: they begin with a blank and contain no `$` -/
def GoodRepl (repl : Str → Str → Bool → Str → Option Str) : Prop :=
  ∀ a b ls n v, repl a b ls n = some v → '$' ∉ v ∧ v.head? = some ' '

/-- If every `${` of the cell opens a reference and the substitution succeeds, the result contains no `${`.  (The second
conjunct is what the induction carries.) -/
theorem no_ref_survives (repl : Str → Str → Bool → Str → Option Str) (hr : GoodRepl repl) :
    ∀ (fuel : Nat) (s out : Str), refsClosed fuel s = true → substRefs repl fuel s = some out →
      isInfix tok out = false ∧ (out.head? = some '{' → s.head? = some '{') := by
  intro fuel
  induction fuel with
  | zero => intro s out _ h; cases h
  | succ fuel ih =>
    intro s out hc h
    cases s with
    | nil => cases h; exact ⟨rfl, nofun⟩
    | cons c r =>
      rw [refsClosed] at hc
      rcases substRefs_cons_some h with ⟨ls, name, rest, v, out', hcond, hm, hv, ho, rfl⟩ | ⟨hm, out', ho, rfl⟩
      · -- a replacement begins with a blank and holds no `$`
        rw [if_pos hcond, hm] at hc
        obtain ⟨hd, hh⟩ := hr _ _ ls name v hv
        refine ⟨by rw [isInfix_tok_append _ out' hd]; exact (ih rest out' hc ho).1, fun hhead => ?_⟩
        rw [List.head?_append, hh] at hhead
        exact absurd (Option.some.inj hhead) (by decide)
      · -- a copied `$` is not followed by `{`: not in the text (every `${` opens a reference), so not in the result
        have hcond : ¬ (c = '$' ∧ r.head? = some '{') := fun hcond => by rw [if_pos hcond, hm hcond] at hc; cases hc
        rw [if_neg hcond] at hc
        have ih' := ih r out' hc ho
        refine ⟨?_, by intro hh; simpa using hh⟩
        rw [isInfix_tok_cons, ih'.1, Bool.or_false, Bool.and_eq_false_iff, beq_eq_false_iff_ne, beq_eq_false_iff_ne]
        by_cases hcd : c = '$'
        · exact .inr fun e => hcond ⟨hcd, ih'.2 (by simpa using e)⟩
        · exact .inl hcd

theorem Out.text_eq_some {o : Out} {v : Str} (h : o.text = some v) :
    ∃ cur e, o = .ok cur e ∧ v = ' ' :: (if cur then "current()/".toList else []) ++ e.render ++ [' '] := by
  cases o with
  | ok cur e => exact ⟨cur, e, rfl, (Option.some.inj h).symm⟩
  | unknown n => cases h
  | ambiguous n => cases h

theorem refFor_goodRepl (els : List Chain) (ctx : Option Chain) (fl : Flags) (name : Str) (ls : Bool) (v : Str)
    (h : (refFor els ctx name { fl with lastSaved := ls }).text = some v) : v.head? = some ' ' := by
  obtain ⟨_, _, -, rfl⟩ := Out.text_eq_some h
  rfl

theorem matchRef_plain (name post : Str) (h1 : '}' ∉ name) (h2 : '\n' ∉ name)
    (hls : startsWith (name ++ '}' :: post) Chan.lastSavedTag = false) :
    Chan.matchRef (name ++ '}' :: post) = some (false, name, post) := by
  rw [startsWith_sep '}' post name _ (by decide)] at hls
  rw [matchRef_body name post fun c hc => ⟨fun e => h1 (e ▸ hc), fun e => h2 (e ▸ hc)⟩]
  simp [splitLs, hls]

theorem matchRef_lastSaved (name post : Str) (h1 : '}' ∉ name) (h2 : '\n' ∉ name) :
    Chan.matchRef (Chan.lastSavedTag ++ name ++ '}' :: post) = some (true, name, post) := by
  have htag : ∀ c ∈ Chan.lastSavedTag, c ≠ '}' ∧ c ≠ '\n' := by decide
  rw [matchRef_body _ post fun c hc => (List.mem_append.1 hc).elim (htag c)
    fun hc => ⟨fun e => h1 (e ▸ hc), fun e => h2 (e ▸ hc)⟩]
  simp [splitLs, startsWith_append_self]

/-- Text without `$`, then a plain `${name}` (`hls`: not the `last-saved#` form): the scan copies the text, replaces the
reference by what `repl` gives for `name` and goes on behind the `}`.  The step for `${last-saved#name}`
(`matchRef_lastSaved`) is not stated. -/
theorem ref_found (repl : Str → Str → Bool → Str → Option Str) (pre name post : Str) (fuel : Nat)
    (hpre : '$' ∉ pre) (h1 : '}' ∉ name) (h2 : '\n' ∉ name)
    (hls : startsWith (name ++ '}' :: post) Chan.lastSavedTag = false) :
    substRefs repl (pre.length + fuel + 1) (pre ++ '$' :: '{' :: (name ++ '}' :: post)) =
      (match repl ('$' :: '{' :: (name ++ '}' :: post)) post false name, substRefs repl fuel post with
       | some v, some out => some (pre ++ (v ++ out))
       | _, _ => none) ∧
    findRefs (pre.length + fuel + 1) (pre ++ '$' :: '{' :: (name ++ '}' :: post)) = (false, name) :: findRefs fuel post := by
  have hm := matchRef_plain name post h1 h2 hls
  induction pre with
  | nil =>
    simp only [List.length_nil, Nat.zero_add, List.nil_append, substRefs_open, hm]
    exact ⟨by cases repl _ post false name <;> cases substRefs repl fuel post <;> rfl,
      by rw [findRefs, if_pos ⟨rfl, rfl⟩, List.tail_cons, hm]⟩
  | cons c r ih =>
    have hc : c ≠ '$' := fun e => hpre (by simp [e])
    obtain ⟨ih1, ih2⟩ := ih (fun m => hpre (by simp [m]))
    rw [show (c :: r).length + fuel + 1 = (r.length + fuel + 1) + 1 by simp; omega, List.cons_append,
      substRefs_lit _ (fun _ e => absurd e hc), ih1, findRefs, if_neg (fun h => hc h.1), ih2]
    exact ⟨by cases repl _ post false name <;> cases substRefs repl fuel post <;> rfl, rfl⟩

example : refsClosed 100 "${a} + ${last-saved#b} $ {x".toList = true := by rw [String.toList_ofList]; decide +kernel
example : findRefs 100 "${a} + ${last-saved#b} $ {x".toList = [(false, "a".toList), (true, "b".toList)] := by
  simp only [toList_lit rfl]
  decide +kernel
example : substRefs (fun _ _ ls n => some (' ' :: (if ls then "LS:".toList else []) ++ n ++ [' '])) 100
    "${a} + ${last-saved#b}".toList = some " a  +  LS:b ".toList := by
  simp only [toList_lit rfl]
  decide +kernel
example : refsClosed 100 "${a = 1".toList = false := by rw [String.toList_ofList]; decide +kernel
example : insertXpaths exEls (some exC) {} "${t} + ${t2}".toList = some " ../../../abcde_r2/t  +  /data/t2 ".toList := by
  simp only [toList_lit rfl]
  decide +kernel

end Pyxv.Refs
