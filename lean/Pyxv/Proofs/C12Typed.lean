import Pyxv.Model.BackendsTyped
import Pyxv.Proofs.C12
/-!
# C12 — typed cells of both spreadsheet backends (boolean, number, date/time, error)

Theorems about `Pyxv.Backends.Typed` (`xlsx_clean_cell`/`xlsx_value_to_str` and
`xls_clean_cell`/`xls_value_to_unicode`, branch by branch) for all cell values.
-/
namespace Pyxv.Backends.Typed
open Pyxv Pyxv.Backends

theorem xlsCellText_text (s : Str) : xlsCellText (.text s) =
    if allSpace (strip s) then .ok none else .ok (some (replaceNbsp (strip s))) := by
  show (if allSpace (strip s) then _ else _) = _
  split <;> rfl

theorem xlsCellText_tuple (y mo d h mi s : Nat) : xlsCellText (.date (.tuple y mo d h mi s)) =
    .ok (some (if (y, mo, d) = (0, 0, 0) then isoTime h mi s 0 else isoDateTime y mo d h mi s 0)) := by
  show Except.map some (if (y, mo, d) = (0, 0, 0) then _ else _) = _
  split <;> rfl

/-- xlsx: a boolean cell reads as TRUE / FALSE. -/
theorem xlsx_bool (b : Bool) : xlsxCellText (.bool b) = some (if b then "TRUE".toList else "FALSE".toList) := by
  cases b <;> rfl
example : xlsxCellText (.bool false) = some "FALSE".toList := xlsx_bool false

/-- xls: a BOOLEAN cell reads as TRUE iff its value is non-zero — `0` is not mistaken for an empty cell. -/
theorem xls_bool (v : Nat) : xlsCellText (.bool v) = .ok (some (if v ≠ 0 then "TRUE".toList else "FALSE".toList)) := rfl
example : xlsCellText (.bool 0) = .ok (some "FALSE".toList) := xls_bool 0

/-- booleans: both backends read the same text. -/
theorem bool_container_independent (b : Bool) (fr : Int → Str) :
    xlsCellText (toXls fr (.bool b)) = .ok (xlsxCellText (toXlsx (.bool b))) := by
  cases b <;> rfl
example : xlsCellText (toXls (fun _ => []) (.bool true)) = .ok (some "TRUE".toList) := by
  rw [bool_container_independent]; rfl

/-- xlsx: an integral float reads as the integer's text, whatever `str(float)` would be. -/
theorem xlsx_integralFloat (n : Int) (r : Str) : xlsxCellText (.float (some n) r) = some (intText n) := rfl
example : xlsxCellText (.float (some 3) "3.0".toList) = some "3".toList := by rw [xlsx_integralFloat]; decide_chars

/-- xls: an integral NUMBER reads as the integer's text, whatever `str(float)` would be. -/
theorem xls_integralNumber (n : Int) (r : Str) : xlsCellText (.number (some n) r) = .ok (some (intText n)) := rfl
example : xlsCellText (.number (some (-7)) "-7.0".toList) = .ok (some "-7".toList) := by rw [xls_integralNumber]; decide_chars

/-- xls: a non-integral NUMBER reads as `str(float)` (the parameter), untouched. -/
theorem xls_decimal (r : Str) : xlsCellText (.number none r) = .ok (some r) := rfl
example : xlsCellText (.number none "1.5".toList) = .ok (some "1.5".toList) := xls_decimal _

theorem replaceNbsp_of_not_mem (r : Str) (h : nbsp ∉ r) : replaceNbsp r = r :=
  Backends.replaceNbsp_of_not_mem r h
example : replaceNbsp "1.5".toList = "1.5".toList := replaceNbsp_of_not_mem _ (by decide)

/-- xlsx: a non-integral float whose `str(float)` is free of U+00A0 — every real one — reads as `str(float)`. -/
theorem xlsx_decimal (r : Str) (h : nbsp ∉ r) : xlsxCellText (.float none r) = some r := by
  show some (replaceNbsp r) = some r
  rw [replaceNbsp_of_not_mem r h]
example : xlsxCellText (.float none "0.1".toList) = some "0.1".toList := xlsx_decimal _ (by decide)

/-! ## the shared kinds: the per-backend models refine `cellText` -/

/-- side condition on the `str(float)` parameter: no U+00A0 (true of every Python float repr) -/
def ReprClean : Cell → Prop
  | .float none r => nbsp ∉ r
  | _ => True

instance : (c : Cell) → Decidable (ReprClean c)
  | .float none r => inferInstanceAs (Decidable (nbsp ∉ r))
  | .float (some _) _ => isTrue trivial
  | .none => isTrue trivial | .text _ => isTrue trivial | .int _ => isTrue trivial | .bool _ => isTrue trivial

/-- `xlsx_clean_cell` on openpyxl's value of a shared-kind cell is `cellText`. -/
theorem xlsx_refines_cellText (c : Cell) (h : ReprClean c) : xlsxCellText (toXlsx c) = cellText c := by
  cases c with
  | none => rfl
  | text s => rfl
  | int n => rfl
  | bool b => cases b <;> rfl
  | float i r =>
    cases i with
    | some n => rfl
    | none => exact (xlsx_decimal r h).trans (cellText_decimal r).symm

/-- `xls_clean_cell` on xlrd's cell of a shared-kind cell is `cellText`, for any `str(float)`. -/
theorem xls_refines_cellText (fr : Int → Str) (c : Cell) : xlsCellText (toXls fr c) = .ok (cellText c) := by
  cases c with
  | none => rfl
  | text s =>
    show (if allSpace (strip s) then _ else _) = Except.ok (if allSpace (strip s) then _ else _)
    split <;> rfl
  | int n => rfl
  | bool b => cases b <;> rfl
  | float i r => cases i <;> rfl

/-- container independence for every shared cell kind: xlrd's and openpyxl's rendering of the same cell read the same. -/
theorem typed_container_independent (fr : Int → Str) (c : Cell) (h : ReprClean c) :
    xlsCellText (toXls fr c) = .ok (xlsxCellText (toXlsx c)) := by
  rw [xls_refines_cellText, xlsx_refines_cellText c h]
example : xlsCellText (toXls (fun _ => "2.0".toList) (.int 2)) = .ok (xlsxCellText (toXlsx (.int 2))) :=
  typed_container_independent _ _ trivial
example : xlsxCellText (toXlsx (.text [' ', 'a', nbsp, 'b', ' '])) = some ['a', ' ', 'b'] := by decide +kernel

/-- xls, "must be time only": a DATE cell whose tuple starts (0,0,0) reads as `HH:MM:SS`. -/
theorem xls_timeOnly (h mi s : Nat) :
    xlsCellText (.date (.tuple 0 0 0 h mi s)) = .ok (some (isoTime h mi s 0)) := rfl
example : xlsCellText (.date (.tuple 0 0 0 13 5 9)) = .ok (some "13:05:09".toList) := by decide_chars

/-- xls: any other DATE cell reads as `YYYY-MM-DD HH:MM:SS`. -/
theorem xls_datetime (y mo d h mi s : Nat) (hd : (y, mo, d) ≠ (0, 0, 0)) :
    xlsCellText (.date (.tuple y mo d h mi s)) = .ok (some (isoDateTime y mo d h mi s 0)) := by
  rw [xlsCellText_tuple, if_neg hd]
example : xlsCellText (.date (.tuple 2024 2 29 0 0 0)) = .ok (some "2024-02-29 00:00:00".toList) := by decide_chars

/-- xls: the only cells that fail are DATE cells on which `xldate_as_tuple` raised — `XLDateAmbiguous`
becomes the PyXFormError, any other date error escapes; every other cell of every kind is read. -/
theorem xls_error_iff (v : XlsVal) (e : XlsErr) :
    xlsCellText v = .error e ↔
      (v = .date .ambiguous ∧ e = .dateAmbiguous) ∨ (v = .date .invalid ∧ e = .dateInvalid) := by
  constructor
  · intro h
    cases v with
    | text s =>
      rw [xlsCellText_text] at h
      split at h <;> cases h
    | number i r => cases i <;> cases h
    | date t =>
      cases t with
      | ambiguous => cases h; exact .inl ⟨rfl, rfl⟩
      | invalid => cases h; exact .inr ⟨rfl, rfl⟩
      | tuple y mo d h' mi s =>
        rw [xlsCellText_tuple] at h
        cases h
    | _ => cases h
  · rintro (⟨rfl, rfl⟩ | ⟨rfl, rfl⟩) <;> rfl
example : xlsCellText (.date .ambiguous) = .error .dateAmbiguous := (xls_error_iff _ _).2 (.inl ⟨rfl, rfl⟩)

/-- date/time container independence: a DATE cell of xlrd and the `datetime.time` / `datetime.datetime`
(whole seconds) openpyxl delivers for the same moment read the same text. -/
theorem datetime_container_independent (y mo d h mi s : Nat) :
    xlsCellText (.date (.tuple y mo d h mi s)) =
      .ok (xlsxCellText (if (y, mo, d) = (0, 0, 0) then .time h mi s 0 else .datetime y mo d h mi s 0)) := by
  by_cases hd : (y, mo, d) = (0, 0, 0)
  · rw [if_pos hd]
    obtain ⟨rfl, rfl, rfl⟩ : y = 0 ∧ mo = 0 ∧ d = 0 := by simpa using hd
    rfl
  · rw [if_neg hd, xls_datetime _ _ _ _ _ _ hd]; rfl
example : xlsCellText (.date (.tuple 1999 12 31 23 59 58)) = .ok (xlsxCellText (.datetime 1999 12 31 23 59 58 0)) :=
  datetime_container_independent ..

/-- the text of a datetime has the fixed shape `dddd-dd-dd dd:dd:dd` (19 characters) when the microsecond
is zero, 26 otherwise -/
theorem isoDateTime_length (y mo d h mi s us : Nat) :
    (isoDateTime y mo d h mi s us).length = if us = 0 then 19 else 26 := by
  by_cases hu : us = 0 <;> simp [isoDateTime, isoDate, isoTime, d2, d4, d6, hu]
theorem isoTime_length (h mi s us : Nat) : (isoTime h mi s us).length = if us = 0 then 8 else 15 := by
  by_cases hu : us = 0 <;> simp [isoTime, d2, d6, hu]
example : (isoDateTime 2024 1 2 3 4 5 0).length = 19 := by decide +kernel
example : isoDateTime 2024 1 2 3 4 5 678 = "2024-01-02 03:04:05.000678".toList := by decide_chars
example : (isoTime 3 4 5 6).length = 15 := by decide +kernel

/-- xlsx: a date / time cell is never read as blank. -/
theorem xlsx_datetime_some (y mo d h mi s us : Nat) :
    xlsxCellText (.datetime y mo d h mi s us) = some (isoDateTime y mo d h mi s us) ∧
    xlsxCellText (.time h mi s us) = some (isoTime h mi s us) := ⟨rfl, rfl⟩
example : xlsxCellText (.time 7 8 9 0) = some "07:08:09".toList := by decide_chars

/-- xls: an ERROR cell reads as the decimal spelling of its error code (never blank, never raises). -/
theorem xls_errorCell (code : Nat) : xlsCellText (.error code) = .ok (some (replaceNbsp (intText code))) := rfl
example : xlsCellText (.error 7) = .ok (some "7".toList) := by decide_chars

/-- xlsx: an error cell arrives as its text (`#DIV/0!` …) and reads as that text, like any string.
So the two backends do NOT agree on error cells (xls: the code `7`, xlsx: `#DIV/0!`). -/
theorem xlsx_errorCell_is_text (s : Str) : xlsxCellText (.str s) = cellText (.text s) := rfl
example : xlsxCellText (.str "#DIV/0!".toList) = some "#DIV/0!".toList ∧
    xlsCellText (.error 7) ≠ .ok (xlsxCellText (.str "#DIV/0!".toList)) := by decide

/-- xlsx: any other object (`datetime.date`, `timedelta`, …) reads as `str(value)` with U+00A0 → space. -/
theorem xlsx_other (r : Str) : xlsxCellText (.other r) = some (replaceNbsp r) := rfl
example : xlsxCellText (.other "2024-01-02".toList) = some "2024-01-02".toList := by decide_chars

/-- a non-text, non-empty value is never read as blank (xlsx) -/
theorem xlsx_typed_some (v : XlsxVal) (h1 : v ≠ .none) (h2 : ∀ s, v ≠ .str s) : (xlsxCellText v).isSome = true := by
  cases v with
  | none => exact absurd rfl h1
  | str s => exact absurd rfl (h2 s)
  | bool b => cases b <;> rfl
  | float i r => cases i <;> rfl
  | _ => rfl
example : (xlsxCellText (.int 0)).isSome = true := xlsx_typed_some _ (by decide) (by intro s; exact fun h => by cases h)

end Pyxv.Backends.Typed
