import Pyxv.Proofs.C07Sheets
import Pyxv.Proofs.Literals
/-!
# Effective text of the translatable slots, any survey tree

For an element `f` of a survey whose xpaths are pairwise distinct (pyxform validates sibling uniqueness), the value
the final translation table holds for a language under one of `f`'s ids and a content type is the text the
corresponding slot of `f` has for that language: choice ids are never element ids, other elements have other xpaths,
the other slots of `f` have another display element or content type, and padding never overwrites.  The `effective_*_rows`
theorems read the slot from the sheet through C08's `specRead`.  The file ends by reopening `Pyxv.C07Rows` for
`effective_label` (audited under that name).
-/
namespace Pyxv.C07Text
open Pyxv Pyxv.Headers Pyxv.C08 Pyxv.Itext Pyxv.C07Rows Pyxv.C07Sheets

/-- at most one text per language -/
def Functional (ps : List (Str × Str)) : Prop := ∀ a ∈ ps, ∀ b ∈ ps, a.1 = b.1 → a.2 = b.2

theorem mem_choiceEntries {dl : Str} {lists : List CList} {e : Ent} :
    e ∈ choiceEntries dl lists ↔
      ∃ l ∈ lists, requiresItext l = true ∧ ∃ j o, l.options[j]? = some o ∧ e ∈ optEntries dl (choiceId l.name j) o := by
  simp only [choiceEntries, List.mem_flatMap, List.mem_ite_nil_right, mem_optsEntries, Nat.zero_add]

/-- whoever writes under an id of element `f` is `f` itself -/
theorem same_elem {x : Survey} (hx : ((flats x).map (·.xpath)).Nodup) {f : Flat} (hf : f ∈ flats x)
    {d : String} (hd : d ∈ displays) {e : Ent} (he : e ∈ C07.ents x) (hp : e.path = path f.xpath d) :
    e ∈ elemEntries x.defaultLanguage f ++ mediaEntries x.defaultLanguage f := by
  rcases C07.mem_ents.mp he with he | ⟨f', hf', hin⟩
  · obtain ⟨l, _, _, i, _, _, hin⟩ := mem_choiceEntries.mp he
    exact absurd ((path_optEntries hin).symm.trans hp) (choiceId_ne_path l.name i f.xpath hd)
  · obtain ⟨d', hd', hp'⟩ := own_display hin
    have hxp := (path_inj hd' hd (hp'.symm.trans hp)).1
    rw [← eq_of_map_nodup _ hx (List.mem_filter.mp hf').1 hf hxp]
    exact hin

/-- what lets a label's text reach the table: one text per language, and no media type called `long` -/
structure SlotOk (f : Flat) (pairs : List (Str × Str)) : Prop where
  functional : Functional pairs
  mediaNotLong : ∀ m, f.d.media = some m → "long".toList ∉ m.map (·.1)

theorem functional_single (a : Str × Str) : Functional [a] := by
  intro u hu v hv _
  simp only [List.mem_singleton] at hu hv
  rw [hu, hv]

/-- `f` files `(l, t)` in the slot `(d, form)`; if the slot's value has one text per language and nothing else of `f`
is filed under that id and content type (`hone`), the final table holds `t` -/
theorem value_of_own {x : Survey} (hx : ((flats x).map (·.xpath)).Nodup) {f : Flat} (hf : f ∈ flats x)
    (hv : visited f = true) {d : String} (hd : d ∈ displays) {form : Str} {v : Txt}
    (hone : ∀ e' ∈ elemEntries x.defaultLanguage f ++ mediaEntries x.defaultLanguage f, e'.path = path f.xpath d →
      e'.form = form → (e'.lang, e'.text) ∈ langsOf x.defaultLanguage v)
    (hfun : Functional (langsOf x.defaultLanguage v)) {l t : Str}
    (hin : (⟨l, path f.xpath d, form, t⟩ : Ent) ∈
      elemEntries x.defaultLanguage f ++ mediaEntries x.defaultLanguage f) :
    valueAt (table x) l (path f.xpath d) form = some t :=
  valueAt_pad x.lists _ _ _ _ _ <|
    valueAt_setup_agree (C07.mem_ents_of_elem hf hv hin) fun e' he' ⟨hlang, hpath, hform⟩ =>
      hfun _ (hone e' (same_elem hx hf hd he' hpath.symm) hpath.symm hform.symm) _ (hone _ hin rfl rfl) hlang.symm

/-- the six text slots at once: the final table holds, under the slot's id and content type, the text the slot has for
the language — provided no media type of the element goes by the slot's content type when the slot is the label -/
theorem value_text {x : Survey} (hx : ((flats x).map (·.xpath)).Nodup) {f : Flat} (hf : f ∈ flats x)
    (hv : visited f = true) {d form : String} {v : Txt} (hs : (d, form, v) ∈ textSlots f.d)
    (hmedia : d = "label" → ∀ kv ∈ f.d.media.getD [], kv.1 ≠ form.toList)
    (hfun : Functional (langsOf x.defaultLanguage v)) {l t : Str} (hlt : (l, t) ∈ langsOf x.defaultLanguage v) :
    valueAt (table x) l (path f.xpath d) form.toList = some t := by
  have hd : d ∈ displays := textSlot_display hs
  refine value_of_own hx hf hv hd (fun e' he' hp hform => ?_) hfun (mem_own.mpr (.inl ⟨_, hs, rfl, rfl, hlt⟩))
  -- another slot of `f` under this id and content type is this slot (`textSlot_unique`) or a media type of that name
  rcases mem_own.mp he' with ⟨s', hs', hp', hf', hl'⟩ | ⟨kv, hkv, hp', hf', _⟩
  · cases textSlot_unique hs hs' (path_inj (textSlot_display hs') hd (hp'.symm.trans hp)).2
      (String.toList_injective (hf'.symm.trans hform))
    exact hl'
  · exact absurd (hf'.symm.trans hform) (hmedia (path_inj hd (by decide) (hp.symm.trans hp')).2 kv hkv)

theorem value_label {x : Survey} (hx : ((flats x).map (·.xpath)).Nodup) {f : Flat} (hf : f ∈ flats x)
    (hv : visited f = true) {pairs : List (Str × Str)} (hl : f.d.label = .dict pairs) (hok : SlotOk f pairs)
    {l t : Str} (hlt : (l, t) ∈ pairs) :
    valueAt (table x) l (path f.xpath "label") "long".toList = some t :=
  value_text hx hf hv (d := "label") (form := "long") (v := .dict pairs) (by simp [textSlots, hl, filedIf])
    (fun _ kv hkv e => by
      cases hm : f.d.media with
      | none => simp [hm] at hkv
      | some m => exact hok.mediaNotLong m hm (List.mem_map.mpr ⟨kv, by simpa [hm] using hkv, e⟩))
    hok.functional hlt

theorem value_hint {x : Survey} (hx : ((flats x).map (·.xpath)).Nodup) {f : Flat} (hf : f ∈ flats x)
    (hv : visited f = true) {pairs : List (Str × Str)} (hl : f.d.hint = .dict pairs) (hfun : Functional pairs)
    {l t : Str} (hlt : (l, t) ∈ pairs) :
    valueAt (table x) l (path f.xpath "hint") "long".toList = some t :=
  value_text hx hf hv (d := "hint") (form := "long") (v := .dict pairs) (by simp [textSlots, hl, filedIf]) (Not.elim (by decide))
    hfun hlt

theorem value_guidance {x : Survey} (hx : ((flats x).map (·.xpath)).Nodup) {f : Flat} (hf : f ∈ flats x)
    (hv : visited f = true) {pairs : List (Str × Str)} (hl : f.d.guidance = .dict pairs) (hfun : Functional pairs)
    {l t : Str} (hlt : (l, t) ∈ pairs) :
    valueAt (table x) l (path f.xpath "hint") "guidance".toList = some t :=
  value_text hx hf hv (d := "hint") (form := "guidance") (v := .dict pairs) (by simp [textSlots, hl, filedIf])
    (Not.elim (by decide)) hfun hlt

theorem msg_ne_label {k : String} (hk : k ∈ ["jr:constraintMsg", "jr:requiredMsg", "jr:noAppErrorString"]) : k ≠ "label" := by
  rintro rfl; exact absurd hk (by decide)

theorem value_msg {x : Survey} (hx : ((flats x).map (·.xpath)).Nodup) {f : Flat} (hf : f ∈ flats x)
    (hv : visited f = true) {k : String} (hk : k ∈ ["jr:constraintMsg", "jr:requiredMsg", "jr:noAppErrorString"])
    {pairs : List (Str × Str)} (hm : msgOf f.d k = .dict pairs) (hfun : Functional pairs)
    {l t : Str} (hlt : (l, t) ∈ pairs) :
    valueAt (table x) l (path f.xpath k) "long".toList = some t := by
  have hfm : filedMsg f.d k = .dict pairs := by simp [filedMsg, hm, msgUsesItext]
  exact value_text hx hf hv (msgSlot_mem hk) (msg_ne_label hk).elim (by rw [hfm]; exact hfun) (by rw [hfm]; exact hlt)

/-- media (any key other than `long`) are filed under the label id with the media type as content type -/
theorem value_media {x : Survey} (hx : ((flats x).map (·.xpath)).Nodup) {f : Flat} (hf : f ∈ flats x)
    (hv : visited f = true) {m : Media} (hm : f.d.media = some m) (hnd : (m.map (·.1)).Nodup)
    {k : Str} {v : Txt} (hkv : (k, v) ∈ m) (hk : k ≠ "long".toList)
    (hfun : Functional (langsOf x.defaultLanguage v)) {l t : Str} (hlt : (l, t) ∈ langsOf x.defaultLanguage v) :
    valueAt (table x) l (path f.xpath "label") k = some t := by
  have hmm : f.d.media.getD [] = m := by rw [hm]; rfl
  refine value_of_own hx hf hv (v := v) (by decide) (fun e' he' hp hform => ?_) hfun
    (mem_own.mpr (.inr ⟨(k, v), hmm ▸ hkv, rfl, rfl, hlt⟩))
  rcases mem_own.mp he' with ⟨s', hs', hp', hf', _⟩ | ⟨kv, hkvm, _, hfk, hlang⟩
  · -- the only text slot under the label id has content type `long`
    have := textSlot_label_long hs' (path_inj (textSlot_display hs') (by decide) (hp'.symm.trans hp)).2
    exact absurd (hform.symm.trans (hf'.trans (this ▸ rfl))) hk
  · -- the keys of the media dict are distinct: the entry with key `k` is `(k, v)`
    rw [hmm] at hkvm
    have hk1 : kv.1 = k := hfk.symm.trans hform
    rw [← AList.value_unique hnd (by rw [← hk1]; exact hkvm) hkv]
    exact hlang

/-- a plain hint next to a guidance hint is filed under the default language -/
theorem value_hint_plain {x : Survey} (hx : ((flats x).map (·.xpath)).Nodup) {f : Flat} (hf : f ∈ flats x)
    (hv : visited f = true) {s : Str} (hl : f.d.hint = .str s) (hs : s ≠ []) (hg : f.d.guidance.truthy = true) :
    valueAt (table x) x.defaultLanguage (path f.xpath "hint") "long".toList = some s := by
  have hne : (!s.isEmpty) = true := by cases s with | nil => exact absurd rfl hs | cons a b => rfl
  exact value_text hx hf hv (d := "hint") (form := "long") (v := .str s) (by simp [textSlots, hl, filedIf, hne, hg])
    (Not.elim (by decide)) (functional_single _) (List.mem_singleton.mpr rfl)

theorem value_guidance_plain {x : Survey} (hx : ((flats x).map (·.xpath)).Nodup) {f : Flat} (hf : f ∈ flats x)
    (hv : visited f = true) {s : Str} (hl : f.d.guidance = .str s) (hs : s ≠ []) :
    valueAt (table x) x.defaultLanguage (path f.xpath "hint") "guidance".toList = some s := by
  have hne : (!s.isEmpty) = true := by cases s with | nil => exact absurd rfl hs | cons a b => rfl
  exact value_text hx hf hv (d := "hint") (form := "guidance") (v := .str s) (by simp [textSlots, hl, filedIf, hne])
    (Not.elim (by decide)) (functional_single _) (List.mem_singleton.mpr rfl)

/-- a plain constraint / required message with a `${reference}` is filed under the default language -/
theorem value_msg_plain {x : Survey} (hx : ((flats x).map (·.xpath)).Nodup) {f : Flat} (hf : f ∈ flats x)
    (hv : visited f = true) {k : String} (hk : k ∈ ["jr:constraintMsg", "jr:requiredMsg"])
    {s : Str} (hm : msgOf f.d k = .str s) (hu : msgUsesItext k.toList (.str s) = true) :
    valueAt (table x) x.defaultLanguage (path f.xpath k) "long".toList = some s := by
  have hk3 := List.mem_append_left ["jr:noAppErrorString"] hk
  have hfm : filedMsg f.d k = .str s := by simp [filedMsg, hm, hu]
  exact value_text hx hf hv (msgSlot_mem hk3) (msg_ne_label hk3).elim (by rw [hfm]; exact functional_single _)
    (by rw [hfm]; exact List.mem_singleton.mpr rfl)

/-- whoever writes under the id of a choice is that choice -/
theorem same_opt {x : Survey} (hn : (x.lists.map (·.name)).Nodup) {l : CList} (hl : l ∈ x.lists) {i : Nat} {o : Opt}
    (hi : l.options[i]? = some o) {e : Ent} (he : e ∈ C07.ents x) (hp : e.path = choiceId l.name i) :
    e ∈ optEntries x.defaultLanguage (choiceId l.name i) o := by
  rcases C07.mem_ents.mp he with he | ⟨f', _, hin⟩
  · obtain ⟨l', hl', _, j, o', hj, hin⟩ := mem_choiceEntries.mp he
    obtain ⟨hname, hji⟩ := choiceId_inj ((path_optEntries hin).symm.trans hp)
    cases eq_of_map_nodup _ hn hl' hl hname
    subst hji
    rw [hi] at hj
    cases hj
    exact hin
  · obtain ⟨d, hd, hpd⟩ := own_display hin
    exact (choiceId_ne_path l.name i f'.xpath hd (hp.symm.trans hpd)).elim

/-- `value_of_own` for the `i`-th choice of a list that requires itext -/
theorem value_of_opt {x : Survey} (hn : (x.lists.map (·.name)).Nodup) {l : CList} (hl : l ∈ x.lists)
    (hr : requiresItext l = true) {i : Nat} {o : Opt} (hi : l.options[i]? = some o) {form : Str} {v : Txt}
    (hinv : ∀ e' ∈ optEntries x.defaultLanguage (choiceId l.name i) o, e'.form = form →
      (e'.lang, e'.text) ∈ langsOf x.defaultLanguage v)
    (hfun : Functional (langsOf x.defaultLanguage v)) {lang t : Str}
    (hin : (⟨lang, choiceId l.name i, form, t⟩ : Ent) ∈ optEntries x.defaultLanguage (choiceId l.name i) o) :
    valueAt (table x) lang (choiceId l.name i) form = some t :=
  valueAt_pad x.lists _ _ _ _ _ <|
    valueAt_setup_agree (C07.mem_ents_of_choice (mem_choiceEntries.mpr ⟨l, hl, hr, i, o, hi, hin⟩))
      fun e' he' ⟨hlang, hpath, hform⟩ =>
        hfun _ (hinv e' (same_opt hn hl hi he' hpath.symm) hform.symm) _ (hinv _ hin rfl) hlang.symm

/-- the text shown for a choice in a language is the text of that choice's label for that language -/
theorem value_choice_label {x : Survey} (hn : (x.lists.map (·.name)).Nodup) {l : CList} (hl : l ∈ x.lists)
    (hr : requiresItext l = true) {i : Nat} {o : Opt} (hi : l.options[i]? = some o)
    {pairs : List (Str × Str)} (hlab : o.label = .dict pairs) (hfun : Functional pairs)
    (hlong : ∀ m, o.media = some m → "long".toList ∉ m.map (·.1))
    {lang t : Str} (hlt : (lang, t) ∈ pairs) :
    valueAt (table x) lang (choiceId l.name i) "long".toList = some t := by
  have htruthy : o.label.truthy = true := by
    rw [hlab]; cases pairs with
    | nil => cases hlt
    | cons a b => rfl
  have hlabel : (if o.label.truthy then o.label else .none) = o.label := by rw [htruthy]; rfl
  refine value_of_opt hn hl hr hi (v := o.label) (fun e' hin hform => ?_) (hlab ▸ hfun) ?_
  · rw [optEntries_eq, hlabel, List.mem_append] at hin
    rcases hin with hin | hin
    · exact (mem_entsOf.mp hin).2.2
    · -- a media entry has the media type as content type, and none is called `long`
      obtain ⟨kv, hkv, _, hfk, _⟩ := mem_mediaEnts.mp hin
      cases hmo : o.media with
      | none => simp [hmo] at hkv
      | some m => exact absurd (List.mem_map.mpr ⟨kv, by simpa [hmo] using hkv, hfk.symm.trans hform⟩) (hlong m hmo)
  · rw [optEntries_eq, hlabel, hlab]
    exact List.mem_append_left _ (List.mem_map.mpr ⟨(lang, t), hlt, rfl⟩)

def pairsOf (M : Kvs) : List (Str × Str) := M.keys.map fun k => (k, strOf (M.get k))

theorem txtOfV_dict {v : V} {M : Kvs} (h : v = .dict M) : txtOfV v = .dict (pairsOf M) := by rw [h]; rfl

theorem functional_pairsOf (M : Kvs) : Functional (pairsOf M) := by
  intro a ha b hb hab
  simp only [pairsOf, List.mem_map] at ha hb
  obtain ⟨k, _, rfl⟩ := ha
  obtain ⟨k', _, rfl⟩ := hb
  simp only at hab
  subst hab
  rfl

theorem readLang_langsOf {dl : Str} {v : V} {l t : Str} (h : readLang dl v l = some t) :
    (l, t) ∈ langsOf dl (txtOfV v) ∧ Functional (langsOf dl (txtOfV v)) := by
  cases v with
  | none => simp [readLang] at h
  | str u =>
    simp only [readLang] at h
    split at h
    · next hl => cases h; subst hl; exact ⟨by simp [txtOfV, langsOf], functional_single _⟩
    · cases h
  | dict m =>
    have hg : m.get l = .str t := by
      simp only [readLang] at h
      split at h
      · next t' ht' => cases h; exact ht'
      · cases h
    refine ⟨?_, functional_pairsOf m⟩
    show (l, t) ∈ pairsOf m
    exact List.mem_map.mpr ⟨l, mem_keys_of_get_ne (by rw [hg]; intro h; cases h), by rw [hg]; rfl⟩

theorem slot_of_row {dl : Str} {hk : List (Str × List Str)} {row : List (Str × Str)} {out M : Kvs} {col : Str}
    (hrow : RowOk dl hk textCols row) (hcol : col ∈ textCols) (hout : processRow dl hk row = .ok out)
    (hv : out.get col = .dict M) {l t : Str} (hspec : specRead dl (colCells hk col row) l = some t) :
    (l, t) ∈ pairsOf M := by
  have hc := processRow_col hrow.headers hrow.noClash hout (hrow.oneLevel _ hcol)
  have hread := column_reading dl (colCells hk col row)
    (colCells_texts hk _ row hrow.nonEmpty) (hrow.distinct _ hcol) l
  rw [← hc, hv, hspec] at hread
  exact (readLang_langsOf hread).1

theorem mediaOfV_notLong {v : V} (h : ∀ M', v = .dict M' → "long".toList ∉ M'.keys) {m : Media}
    (hm : mediaOfV v = some m) : "long".toList ∉ m.map (·.1) := by
  cases v with
  | none | str _ => cases hm
  | dict M' =>
    simp only [mediaOfV, Option.some.injEq] at hm
    subst hm
    simpa [List.map_map, Function.comp_def] using h M' rfl

/-- Effective text from the sheets (C08 ∘ C07, text columns, any nesting): for an element `f` built from the grouped row of
`row`, and each of the columns `label`, `hint`, `guidance_hint` that ends up translated (a dict): if C08's reading of the
column's cells (`specRead`) gives `t` for language `l`, then `t` is what the final table holds for `l` under the element's label
id / hint id (content type `long`, resp. `guidance`).  `hlong`: no media column is called `long`; the guidance clause asks that
`f` kept the column's value, since `rowElemK` gives a group or repeat no guidance hint. -/
theorem effective_text_rows {x : Survey} (hx : ((flats x).map (·.xpath)).Nodup) {f : Flat} (hf : f ∈ flats x)
    {dl : Str} {hk : List (Str × List Str)} {kind : Kind} {n : Str} {row : List (Str × Str)} {out : Kvs}
    (hd : f.d = rowElemK kind n out) (hrow : RowOkG dl hk row) (hout : processRow dl hk row = .ok out)
    (hlong : ∀ M', out.get "media".toList = .dict M' → "long".toList ∉ M'.keys) {l t : Str} :
    (∀ M, out.get "label".toList = .dict M → specRead dl (colCells hk "label".toList row) l = some t →
      valueAt (table x) l (path f.xpath "label") "long".toList = some t) ∧
    (∀ M, out.get "hint".toList = .dict M → specRead dl (colCells hk "hint".toList row) l = some t →
      valueAt (table x) l (path f.xpath "hint") "long".toList = some t) ∧
    (∀ M, f.d.guidance = txtOfV (out.get "guidance_hint".toList) → out.get "guidance_hint".toList = .dict M →
      specRead dl (colCells hk "guidance_hint".toList row) l = some t →
      valueAt (table x) l (path f.xpath "hint") "guidance".toList = some t) := by
  have hvis : visited f = true := by rw [visited, hd]; cases kind <;> rfl
  refine ⟨?_, ?_, ?_⟩
  · intro M hv hspec
    have hmem := slot_of_row hrow.text (by simp [textCols]) hout hv hspec
    have hl : f.d.label = .dict (pairsOf M) := by rw [hd]; exact txtOfV_dict hv
    refine value_label hx hf hvis hl ⟨functional_pairsOf M, fun m hm => ?_⟩ hmem
    rw [hd] at hm
    exact mediaOfV_notLong hlong hm
  · intro M hv hspec
    have hmem := slot_of_row hrow.text (by simp [textCols]) hout hv hspec
    have hl : f.d.hint = .dict (pairsOf M) := by rw [hd]; exact txtOfV_dict hv
    exact value_hint hx hf hvis hl (functional_pairsOf M) hmem
  · intro M hg hv hspec
    have hmem := slot_of_row hrow.text (by simp [textCols]) hout hv hspec
    have hl : f.d.guidance = .dict (pairsOf M) := hg.trans (txtOfV_dict hv)
    exact value_guidance hx hf hvis hl (functional_pairsOf M) hmem

theorem group_slot_of_row {dl : Str} {hk : List (Str × List Str)} {row : List (Str × Str)} {out : Kvs} {g k : Str}
    (hrow : RowOkG dl hk row) (hg : g ∈ groupCols) (hout : processRow dl hk row = .ok out) {l t : Str}
    (hspec : specRead dl (subCells hk g k row) l = some t) :
    ∃ M, out.get g = .dict M ∧ M.keys.Nodup ∧ k ∈ M.keys ∧
      (l, t) ∈ langsOf dl (txtOfV (M.get k)) ∧ Functional (langsOf dl (txtOfV (M.get k))) := by
  obtain ⟨hinv, _⟩ := (goodOut_of_processRow hrow hout).2 g hg
  have hread := group_column_reading dl hk g k row (hrow.groupShape g hg)
    (subCells_texts hk g k row hrow.text.nonEmpty) (hrow.groupDistinct g hg k) l
  rw [← processRow_get hrow.text.headers hrow.text.noClash hout g, hspec] at hread
  cases hv : out.get g with
  | none => rw [hv] at hread; simp [getK, readLang] at hread
  | str s => rw [hv] at hinv; exact absurd hinv (by simp [GroupInv])
  | dict M =>
    rw [hv] at hread hinv
    simp only [getK] at hread
    obtain ⟨h1, h2⟩ := readLang_langsOf hread
    have hne : M.get k ≠ .none := by
      intro e; rw [e] at hread; simp [readLang] at hread
    exact ⟨M, rfl, hinv.1, mem_keys_of_get_ne hne, h1, h2⟩

/-- Effective media and message texts from the sheets: if C08's reading of the cells of `media::<k>[::language]` gives `t`
for language `l`, the final table holds `t` for `l` under `f`'s label id with content type `k`; if the cells of a translated
bind-message column `bind::<key>::language` read `t`, the table holds `t` under `f`'s message id. -/
theorem effective_group_rows {x : Survey} (hx : ((flats x).map (·.xpath)).Nodup) {f : Flat} (hf : f ∈ flats x)
    {hk : List (Str × List Str)} {kind : Kind} {n : Str} {row : List (Str × Str)} {out : Kvs}
    (hd : f.d = rowElemK kind n out) (hrow : RowOkG x.defaultLanguage hk row)
    (hout : processRow x.defaultLanguage hk row = .ok out) {l t : Str} :
    (∀ k, k ≠ "long".toList → specRead x.defaultLanguage (subCells hk "media".toList k row) l = some t →
      valueAt (table x) l (path f.xpath "label") k = some t) ∧
    (∀ (key : String), key ∈ ["jr:constraintMsg", "jr:requiredMsg", "jr:noAppErrorString"] →
      (∀ B, out.get "bind".toList = .dict B → ∃ Mk, B.get key.toList = .dict Mk) →
      specRead x.defaultLanguage (subCells hk "bind".toList key.toList row) l = some t →
      valueAt (table x) l (path f.xpath key) "long".toList = some t) := by
  have hvis : visited f = true := by rw [visited, hd]; cases kind <;> rfl
  constructor
  · intro k hkl hspec
    obtain ⟨M, hv, hnd, hkm, hlt, hfun⟩ := group_slot_of_row hrow (by simp [groupCols]) hout hspec
    have hm : f.d.media = some (M.keys.map fun a => (a, txtOfV (M.get a))) := by
      rw [hd]; show mediaOfV (out.get "media".toList) = _; rw [hv]; rfl
    refine value_media hx hf hvis hm ?_ (List.mem_map.mpr ⟨k, hkm, rfl⟩) hkl hfun hlt
    simpa [List.map_map, Function.comp_def] using hnd
  · intro key hkey hdict hspec
    obtain ⟨B, hv, hndB, hkb, hlt, hfun⟩ := group_slot_of_row hrow (g := "bind".toList) (by simp [groupCols]) hout hspec
    obtain ⟨Mk, hMk⟩ := hdict B hv
    have hmsgkey : msgKeys.contains key.toList = true := by
      simp only [List.mem_cons, List.mem_nil_iff, or_false] at hkey
      rcases hkey with rfl | rfl | rfl <;> decide
    have hm : msgOf f.d key = txtOfV (B.get key.toList) := by
      rw [hd]
      show (lookup key.toList (msgsOfV (out.get "bind".toList))).getD .none = _
      rw [hv]
      -- the keys of the bind dict are distinct, so the entry with this key is the one found
      rw [lookup_of_mem (nodup_keys_msgsOfV hndB) (List.mem_map.mpr ⟨_, List.mem_filter.mpr ⟨hkb, hmsgkey⟩, rfl⟩)]
      rfl
    rw [hMk] at hm hlt hfun
    exact value_msg hx hf hvis hkey (pairs := pairsOf Mk) hm (functional_pairsOf Mk) hlt

/-- Effective choice label from the choices sheet: if the label column of the `i`-th row of list `name` is translated and
C08's reading of its cells gives `t` for language `l`, the final table holds `t` for `l` under `name-i`. -/
theorem effective_choice_rows {dl : Str} {trees : List RowTree} {ls : List (Str × List Kvs)}
    (hn : (ls.map (·.1)).Nodup) {name : Str} {outs : List Kvs} (hl : (name, outs) ∈ ls) {i : Nat} {o : Kvs}
    (hi : outs[i]? = some o) (hreq : requiresItext (listOfG name outs) = true)
    {hk : List (Str × List Str)} {row : List (Str × Str)} (hrow : RowOkG dl hk row)
    (hout : processRow dl hk row = .ok o) {M : Kvs} (hv : o.get "label".toList = .dict M)
    (hlong : ∀ M', o.get "media".toList = .dict M' → "long".toList ∉ M'.keys) {l t : Str}
    (hspec : specRead dl (colCells hk "label".toList row) l = some t) :
    valueAt (table (treeSurvey dl trees ls)) l (choiceId name i) "long".toList = some t := by
  have hmem := slot_of_row hrow.text (by simp [textCols]) hout hv hspec
  have hnames : ((treeSurvey dl trees ls).lists.map (·.name)).Nodup := by
    simpa [treeSurvey, listOfG, List.map_map, Function.comp_def] using hn
  have hlm : listOfG name outs ∈ (treeSurvey dl trees ls).lists :=
    List.mem_map.mpr ⟨(name, outs), hl, rfl⟩
  have hopt : (listOfG name outs).options[i]? = some (optOf o) := by
    simp [listOfG, List.getElem?_map, hi]
  have hlab : (optOf o).label = .dict (pairsOf M) := txtOfV_dict hv
  exact value_choice_label hnames hlm hreq hopt hlab (functional_pairsOf M)
    (fun m hm => mediaOfV_notLong hlong hm) hmem

/-- non-vacuity of `effective_group_rows` and `effective_choice_rows` on the same example: the group's French image,
the English constraint message of `a`, the French label of the first choice of `yn` -/
example :
    (match groupTrees "default".toList hkG treesG, groupLists "default".toList hkG listsG with
     | .ok gt, .ok gl =>
       let x := treeSurvey "default".toList gt gl
       specRead "default".toList (subCells hkG "media".toList "image".toList
         [("label::fr".toList, "Gf".toList), ("image::fr".toList, "g.png".toList)]) "fr".toList == some "g.png".toList &&
       valueAt (table x) "fr".toList (path "/data/g".toList "label") "image".toList == some "g.png".toList &&
       valueAt (table x) "en".toList (path "/data/g/a".toList "jr:constraintMsg") "long".toList == some "positive".toList &&
       valueAt (table x) "fr".toList (choiceId "yn".toList 0) "long".toList == some "Oui".toList &&
       valueAt (table x) "fr".toList (choiceId "yn".toList 1) "long".toList == some dashStr &&
       decide ((gl.map (·.1)).Nodup) && gl.all (fun l => requiresItext (listOfG l.1 l.2))
     | _, _ => false) = true := by
  simp only [hkG, treesG, listsG, toList_lit rfl]
  decide +kernel

/-- non-vacuity of the plain-string value theorems: the plain guidance hint and the `${}` required message of `a` in
the nested example, and the plain hint next to a translated guidance hint of `C07.ex1` -/
example :
    (match groupTrees "default".toList hkG treesG, groupLists "default".toList hkG listsG with
     | .ok gt, .ok gl =>
       let x := treeSurvey "default".toList gt gl
       valueAt (table x) "default".toList (path "/data/g/a".toList "hint") "guidance".toList == some "gd".toList &&
       valueAt (table x) "default".toList (path "/data/g/a".toList "jr:requiredMsg") "long".toList
         == some "need ${b}".toList
     | _, _ => false) = true ∧
    valueAt (table (C07.ex1 (C07.tr [("en", "B")]))) "default".toList (path "/data/a".toList "hint") "long".toList
      = some "h".toList := by
  simp only [hkG, treesG, listsG, toList_lit rfl]
  decide +kernel

/-- non-vacuity of `effective_text_rows` on the nested example of `C07Sheets` (question `a` inside group `g`, with
media and bind-message columns around): xpaths are distinct, the row of `a` is `RowOkG`, its label and hint columns
are dicts, no media column is called `long`; the spec reads `Qfr` / `Q` / `h` and the final table holds exactly that -/
example :
    (match groupTrees "default".toList hkG treesG, groupLists "default".toList hkG listsG with
     | .ok gt, .ok gl =>
       let x := treeSurvey "default".toList gt gl
       let rowA : List (Str × Str) :=
         [("label::fr".toList, "Qfr".toList), ("label".toList, "Q".toList), ("hint::en".toList, "h".toList),
          ("guidance_hint".toList, "gd".toList), ("constraint".toList, ". > 0".toList),
          ("constraint_message::en".toList, "positive".toList), ("required_message".toList, "need ${b}".toList)]
       decide (((flats x).map (·.xpath)).Nodup) && rowOkGB "default".toList hkG rowA &&
       (flats x).any (fun f => f.xpath == "/data/g/a".toList) &&
       specRead "default".toList (colCells hkG "label".toList rowA) "fr".toList == some "Qfr".toList &&
       specRead "default".toList (colCells hkG "hint".toList rowA) "en".toList == some "h".toList &&
       valueAt (table x) "fr".toList (path "/data/g/a".toList "label") "long".toList == some "Qfr".toList &&
       valueAt (table x) "default".toList (path "/data/g/a".toList "label") "long".toList == some "Q".toList &&
       valueAt (table x) "en".toList (path "/data/g/a".toList "hint") "long".toList == some "h".toList
     | _, _ => false) = true := by
  simp only [hkG, treesG, listsG, toList_lit rfl]
  decide +kernel

end Pyxv.C07Text

namespace Pyxv.C07Rows
open Pyxv Pyxv.Headers Pyxv.C08 Pyxv.Itext

/-- `value_label` for the flat form `sheetSurvey`: distinct question names give distinct xpaths, the rows carry no
media -/
theorem effective_label (dl : Str) (qs : List (Str × Kvs)) (ls : List (Str × List Kvs))
    (hn : (qs.map (·.1)).Nodup) {n : Str} {out m : Kvs} {l : Str}
    (hq : (n, out) ∈ qs) (hv : out.get "label".toList = .dict m) (hl : l ∈ m.keys) :
    valueAt (table (sheetSurvey dl qs ls)) l (path ("/data".toList ++ '/' :: n) "label") "long".toList
      = some (strOf (m.get l)) := by
  have hf : (⟨"/data".toList ++ '/' :: n, rowElem n out, false⟩ : Itext.Flat) ∈ flats (sheetSurvey dl qs ls) := by
    rw [flats_sheet]; exact List.mem_map.mpr ⟨(n, out), hq, rfl⟩
  have hx : ((flats (sheetSurvey dl qs ls)).map (·.xpath)).Nodup := by
    rw [flats_sheet, List.map_map]
    refine List.pairwise_map.mpr ((List.pairwise_map.mp hn).imp fun {a b} h e => h ?_)
    exact (List.cons.inj (List.append_cancel_left (as := "/data".toList) e)).2
  have hlab : (rowElem n out).label = .dict (C07Text.pairsOf m) := C07Text.txtOfV_dict hv
  exact C07Text.value_label hx hf rfl hlab ⟨C07Text.functional_pairsOf m, fun _ h => by cases h⟩
    (List.mem_map.mpr ⟨l, hl, rfl⟩)

end Pyxv.C07Rows

