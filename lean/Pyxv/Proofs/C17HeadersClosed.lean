import Pyxv.Proofs.C17Headers
import Pyxv.Proofs.BaseLemmas
/-!
# C17: alias clash and missing required column, closed forms

`alias_clash_rejected` and `missing_required_rejected` take the state left by the header loop as a hypothesis.  Here
an invariant of the loop (`headerLoop_inv`, `headerLoop_tokens`) characterises that state, which gives both statements
on header rows alone.  The closed forms conclude *some* error: an earlier header may be refused first.
-/
namespace Pyxv.C17.Hdr
open Pyxv Pyxv.Headers Pyxv.HeaderRules

/-- invariant of the header loop after the headers `S`: keys of `header_key` and names in `tokens_key` are headers
seen so far, and the tokens of every header seen so far are on record in `tokens_key` -/
def Inv (ud : Bool) (al : List (Str × List Str)) (cols : List Str) (hk : List (Str × List Str))
    (tk : List (List Str × Str)) (S : List Str) : Prop :=
  (∀ k, lookup k hk ≠ none → k ∈ S) ∧ (∀ p ∈ tk, p.2 ∈ S) ∧
  (∀ h ∈ S, ∀ nh toks, processHeader h ud al cols = .ok (nh, toks) → ∃ p ∈ tk, p.1 = toks)

theorem lookup_append_single {β} (k h : Str) (v : β) (l : List (Str × β)) :
    lookup k (l ++ [(h, v)]) = match lookup k l with | some x => some x | none => if k = h then some v else none :=
  by rw [_root_.Pyxv.lookup_append_single]; cases lookup k l <;> rfl

/-- the record after `h` took the tokens `toks`: the entry `(toks, h)` is on it, every entry is that one or an old
one, and the tokens of every old entry are still on it -/
def Recorded (tk tk' : List (List Str × Str)) (toks : List Str) (h : Str) : Prop :=
  (toks, h) ∈ tk' ∧ (∀ p ∈ tk', p = (toks, h) ∨ p ∈ tk) ∧ ∀ p ∈ tk, ∃ p' ∈ tk', p'.1 = p.1

theorem recorded_rename {tk : List (List Str × Str)} {toks : List Str} (h : Str) {q : List Str × Str}
    (hq : q ∈ tk) (hqt : q.1 = toks) : Recorded tk (tk.map fun p => if p.1 = toks then (toks, h) else p) toks h := by
  refine ⟨List.mem_map.mpr ⟨q, hq, by simp [hqt]⟩, fun p hp => ?_, fun p hp => ?_⟩
  · obtain ⟨p0, hp0, rfl⟩ := List.mem_map.mp hp
    by_cases hc : p0.1 = toks <;> simp [hc, hp0]
  · by_cases hc : p.1 = toks
    · exact ⟨(toks, h), List.mem_map.mpr ⟨p, hp, by simp [hc]⟩, hc.symm⟩
    · exact ⟨p, List.mem_map.mpr ⟨p, hp, by simp [hc]⟩, rfl⟩

theorem recorded_append (tk : List (List Str × Str)) (toks : List Str) (h : Str) :
    Recorded tk (tk ++ [(toks, h)]) toks h :=
  ⟨by simp, fun p hp => by simpa [or_comm] using hp, fun p hp => ⟨p, List.mem_append_left _ hp, rfl⟩⟩

theorem headerLoop_cons_ok (ud : Bool) (al : List (Str × List Str)) (cols : List Str) (h : Str) (hs : List Str)
    (hk : List (Str × List Str)) (tk : List (List Str × Str)) (r : List (Str × List Str) × List (List Str × Str))
    (hrun : headerLoop ud al cols (h :: hs) hk tk = .ok r) :
    (lookup h hk ≠ none ∧ headerLoop ud al cols hs hk tk = .ok r) ∨
    (lookup h hk = none ∧ ∃ nh toks tk', processHeader h ud al cols = .ok (nh, toks) ∧ Recorded tk tk' toks h ∧
      headerLoop ud al cols hs (hk ++ [(h, toks)]) tk' = .ok r) := by
  rw [headerLoop.eq_def] at hrun
  simp only at hrun
  split at hrun
  · rename_i v hv
    exact Or.inl ⟨by rw [hv]; simp, hrun⟩
  · rename_i hnone
    split at hrun
    · cases hrun
    · rename_i nh toks hp
      refine Or.inr ⟨hnone, nh, toks, ?_⟩
      split at hrun
      · rename_i o hfo
        split at hrun
        · cases hrun
        · obtain ⟨q, hq, _⟩ := Option.map_eq_some_iff.mp hfo
          exact ⟨_, hp, recorded_rename h (List.mem_of_find?_eq_some hq) (by simpa using List.find?_some hq), hrun⟩
      · exact ⟨_, hp, recorded_append tk toks h, hrun⟩

theorem headerLoop_inv (ud : Bool) (al : List (Str × List Str)) (cols : List Str) (hs : List Str) :
    ∀ (hk : List (Str × List Str)) (tk : List (List Str × Str)) (S : List Str) hk' tk',
      headerLoop ud al cols hs hk tk = .ok (hk', tk') → Inv ud al cols hk tk S → Inv ud al cols hk' tk' (S ++ hs) := by
  induction hs with
  | nil =>
    intro hk tk S hk' tk' h hI
    simp only [headerLoop] at h
    injection h with h; injection h with h1 h2
    subst h1; subst h2
    simpa using hI
  | cons h hs ih =>
    intro hk tk S hk' tk' hrun ⟨hA, hB, hC⟩
    rw [show S ++ h :: hs = (S ++ [h]) ++ hs by simp]
    rcases headerLoop_cons_ok ud al cols h hs hk tk _ hrun with
      ⟨hv, hrun⟩ | ⟨_, nh, toks, tk1, hp, ⟨hin, hold, hkeep⟩, hrun⟩
    · -- header seen before: state unchanged
      refine ih hk tk (S ++ [h]) hk' tk' hrun
        ⟨fun k hk0 => List.mem_append_left _ (hA k hk0), fun p hp => List.mem_append_left _ (hB p hp), ?_⟩
      intro x hx nh toks hpx
      rcases List.mem_append.mp hx with hx | hx
      · exact hC x hx nh toks hpx
      · obtain rfl : x = h := by simpa using hx
        exact hC x (hA x hv) nh toks hpx
    · -- `h` recorded, by renaming the entry of its tokens or by a new entry: `Recorded` covers both
      refine ih _ _ (S ++ [h]) hk' tk' hrun ⟨fun k hk0 => ?_, fun p hp' => ?_, fun x hx nh' toks' hpx => ?_⟩
      · rw [lookup_append_single] at hk0
        cases hl : lookup k hk with
        | some x => exact List.mem_append_left _ (hA k (by rw [hl]; simp))
        | none =>
          rw [hl] at hk0
          by_cases hkh : k = h
          · subst hkh; simp
          · simp [hkh] at hk0
      · rcases hold p hp' with rfl | hp0
        · simp
        · exact List.mem_append_left _ (hB p hp0)
      · rcases List.mem_append.mp hx with hx | hx
        · obtain ⟨p, hpm, hpt⟩ := hC x hx nh' toks' hpx
          obtain ⟨p', hp', e⟩ := hkeep p hpm
          exact ⟨p', hp', e.trans hpt⟩
        · obtain rfl : x = h := by simpa using hx
          rw [hp] at hpx
          injection hpx with hpx; injection hpx with _ ht
          exact ⟨_, hin, ht⟩

/-- **alias clash rejected (closed form)**: in any header row `pre ++ h1 :: mid ++ h2 :: post` whose headers before
`h2` are non-empty and different from `h2`, if `h1` and `h2` have the same tokens and `h2` is not the canonical
spelling of its column (`new_header ≠ h2`), the sheet is never accepted -/
theorem alias_clash_never_accepted (pre mid post : List Str) (h1 h2 : Str) (rows : List (List (Str × Str)))
    (al : List (Str × List Str)) (cols req : List Str) (dk : Str) (isSurvey : Bool) (nh1 nh2 : Option Str) (toks : List Str)
    (hp1 : processHeader h1 ((pre ++ h1 :: mid ++ h2 :: post).any fun x => isInfix "::".toList x) al cols = .ok (nh1, toks))
    (hp2 : processHeader h2 ((pre ++ h1 :: mid ++ h2 :: post).any fun x => isInfix "::".toList x) al cols = .ok (nh2, toks))
    (hc : nh2 ≠ some h2) (hnew : h2 ∉ pre ++ h1 :: mid) (hne : ∀ x ∈ pre ++ h1 :: mid, x ≠ []) :
    ∃ e, dealiasAndGroupHeaders (pre ++ h1 :: mid ++ h2 :: post) rows al cols req dk isSurvey = .error e := by
  generalize hud : ((pre ++ h1 :: mid ++ h2 :: post).any fun x => isInfix "::".toList x) = ud at hp1 hp2
  unfold dealiasAndGroupHeaders
  simp only [hud]
  rw [headerLoop_append]
  cases hrun : headerLoop ud al cols (pre ++ h1 :: mid) [] [] with
  | error e => exact ⟨e, rfl⟩
  | ok st =>
    obtain ⟨hk, tk⟩ := st
    have hI0 : Inv ud al cols [] [] [] := by
      refine ⟨?_, ?_, ?_⟩
      · intro k hk0; simp [lookup] at hk0
      · intro p hp; cases hp
      · intro h hh; cases hh
    have hI := headerLoop_inv ud al cols (pre ++ h1 :: mid) [] [] [] hk tk hrun hI0
    simp only [List.nil_append] at hI
    obtain ⟨hA, hB, hC⟩ := hI
    obtain ⟨p, hpm, hpt⟩ := hC h1 (by simp) nh1 toks hp1
    have hl : lookup h2 hk = none := by
      cases hl : lookup h2 hk with
      | none => rfl
      | some v => exact absurd (hA h2 (by rw [hl]; simp)) hnew
    obtain ⟨q, hq⟩ := Option.isSome_iff_exists.mp
      (List.find?_isSome.mpr ⟨p, hpm, decide_eq_true hpt⟩ : (tk.find? fun p => p.1 = toks).isSome = true)
    obtain ⟨qt, qo⟩ := q
    have hqo : qo ≠ [] := hne qo (hB _ (List.mem_of_find?_eq_some hq))
    simp only
    rw [alias_clash_step ud al cols h2 post hk tk nh2 toks qt qo hl hp2 hq hqo hc]
    exact ⟨_, rfl⟩

/-- every token tuple on record after the header loop comes from one of the headers (or was there before) -/
theorem headerLoop_tokens (P : List Str → Prop) (ud : Bool) (al : List (Str × List Str)) (cols : List Str) (hs : List Str) :
    ∀ (hk : List (Str × List Str)) (tk : List (List Str × Str)) hk' tk',
      headerLoop ud al cols hs hk tk = .ok (hk', tk') → (∀ p ∈ tk, P p.1) →
      (∀ h ∈ hs, ∀ nh toks, processHeader h ud al cols = .ok (nh, toks) → P toks) → ∀ p ∈ tk', P p.1 := by
  induction hs with
  | nil =>
    intro hk tk hk' tk' h hI _
    simp only [headerLoop] at h
    injection h with h; injection h with h1 h2
    subst h2; exact hI
  | cons h hs ih =>
    intro hk tk hk' tk' hrun hI hH
    have hH' : ∀ x ∈ hs, ∀ nh toks, processHeader x ud al cols = .ok (nh, toks) → P toks :=
      fun x hx => hH x (List.mem_cons_of_mem _ hx)
    rcases headerLoop_cons_ok ud al cols h hs hk tk _ hrun with ⟨_, hrun⟩ | ⟨_, nh, toks, tk1, hp, ⟨_, hold, _⟩, hrun⟩
    · exact ih hk tk hk' tk' hrun hI hH'
    · refine ih _ _ hk' tk' hrun (fun p hp' => ?_) hH'
      rcases hold p hp' with rfl | hp0
      · exact hH h (by simp) nh toks hp
      · exact hI p hp0

theorem mapRows_nonempty (dk : Str) (hk : List (Str × List Str)) (rows : List (List (Str × Str))) (data : List Kvs)
    (h : mapRows dk hk rows = .ok data) (hr : rows ≠ []) : data ≠ [] := by
  cases rows with
  | nil => exact absurd rfl hr
  | cons r rs =>
    simp only [mapRows] at h
    split at h
    · cases h
    · split at h
      · cases h
      · injection h with h; subst h; simp

/-- **missing required column rejected (closed form)**: a sheet with rows (or the survey sheet) none of whose headers
has the required column `r` as its first token after dealiasing is never accepted -/
theorem missing_required_never_accepted (header : List Str) (rows : List (List (Str × Str))) (al : List (Str × List Str))
    (cols req : List Str) (dk : Str) (isSurvey : Bool) (r : Str) (hr : r ∈ req)
    (hno : ∀ h ∈ header, ∀ nh toks,
      processHeader h (header.any fun x => isInfix "::".toList x) al cols = .ok (nh, toks) → toks.head? ≠ some r)
    (hdata : rows ≠ [] ∨ isSurvey = true) :
    ∃ e, dealiasAndGroupHeaders header rows al cols req dk isSurvey = .error e := by
  cases hl : headerLoop (header.any fun x => isInfix "::".toList x) al cols header [] [] with
  | error e => exact ⟨e, by unfold dealiasAndGroupHeaders; simp only [hl]⟩
  | ok st =>
    obtain ⟨hk, tk⟩ := st
    cases hm : mapRows dk hk rows with
    | error e => exact ⟨e, by unfold dealiasAndGroupHeaders; simp only [hl, hm]⟩
    | ok data =>
      have hno' : ∀ p ∈ tk, p.1.head? ≠ some r :=
        headerLoop_tokens (fun t => t.head? ≠ some r) _ al cols header [] [] hk tk hl (by intro p hp; cases hp) hno
      have hd : data ≠ [] ∨ isSurvey = true := by
        rcases hdata with h | h
        · exact Or.inl (mapRows_nonempty dk hk rows data hm h)
        · exact Or.inr h
      obtain ⟨missing, _, hmiss⟩ := missing_required_rejected header rows al cols req dk isSurvey hk tk data r hl hm hr hno' hd
      exact ⟨_, hmiss⟩

-- the hypotheses hold for `name` … `value` on the choices sheet, with something in between
example : (match processHeader "name".toList false listAliases listColumns, processHeader "value".toList false listAliases listColumns with
    | .ok (_, t1), .ok (nh2, t2) => t1 == t2 && nh2 != some "value".toList
    | _, _ => false) = true := by decide +kernel
example : isDup "name" "value"
    (dealiasAndGroupHeaders (L ["list_name", "name", "label", "value", "x"]) [] listAliases listColumns (L ["name"]) "default".toList false) = true := by
  decide +kernel
-- no header of `name, label` has first token `type` on the survey sheet
example : (L ["name", "label"]).all (fun h => match processHeader h false surveyAliases surveyColumns with
    | .ok (_, toks) => toks.head? != some "type".toList | _ => true) = true := by decide +kernel

end Pyxv.C17.Hdr
