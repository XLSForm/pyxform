import Pyxv.Model.Base
import Pyxv.Proofs.ListLemmas
/-!
# Python dicts as association lists

Every slice of the model has its own `d.get(k)`, `d[k] = v`, `d[k] = f(d.get(k))`, `d.update(e)`
(`Asm.dictSet`, `Binds.dictSet`, `Controls.dset`, `Settings.aset`, `Itext.upd`, …).  Here is one copy over any
key type with decidable equality, with its theory; each slice proves one equation `X.dictSet d k v = AList.set k v d`
and rewrites with it.  `upd` is the general write, `set` the constant one; a dict filled in a loop is an `update`;
`write` is the `any` / `map` / `++` spelling of `set`.
-/
namespace Pyxv.AList
universe u v w
variable {κ : Type u} {β : Type v} [DecidableEq κ]

/-- `d.get(k)` -/
def get (k : κ) : List (κ × β) → Option β
  | [] => none
  | (k', v) :: r => if k = k' then some v else get k r

/-- `d[k] = f(d.get(k))`: an existing key keeps its place, a new one goes to the end -/
def upd (k : κ) (f : Option β → β) : List (κ × β) → List (κ × β)
  | [] => [(k, f none)]
  | (k', v) :: r => if k = k' then (k', f (some v)) :: r else (k', v) :: upd k f r

/-- `d[k] = v` -/
def set (k : κ) (v : β) (l : List (κ × β)) : List (κ × β) := upd k (fun _ => v) l

/-- `d.update(e)`: the writes of `e` in order -/
def update (d e : List (κ × β)) : List (κ × β) := e.foldl (fun acc kv => set kv.1 kv.2 acc) d

/-! ### `get` -/

@[simp] theorem get_nil (k : κ) : get k ([] : List (κ × β)) = none := rfl

theorem get_cons (k k' : κ) (v : β) (r : List (κ × β)) :
    get k ((k', v) :: r) = if k = k' then some v else get k r := rfl

@[simp] theorem get_cons_self (k : κ) (v : β) (r : List (κ × β)) : get k ((k, v) :: r) = some v := by
  simp [get]

theorem get_cons_ne {k k' : κ} (h : k ≠ k') (v : β) (r : List (κ × β)) : get k ((k', v) :: r) = get k r := by
  simp [get, h]

/-- a slice's own `d.get(k)`, written with these two equations, is `get k`; for a definition by structural recursion
both hold by `rfl`, and `g` is found by unification (as for `eq_flatMap_of_eqns`) -/
theorem get_of_eqns {g : List (κ × β) → Option β} {k : κ} (hnil : g [] = none)
    (hcons : ∀ k' v r, g ((k', v) :: r) = if k = k' then some v else g r) : ∀ l, g l = get k l
  | [] => hnil
  | (k', v) :: r => by rw [hcons, get_cons, get_of_eqns hnil hcons r]

theorem get_eq_none_iff {k : κ} {l : List (κ × β)} : get k l = none ↔ k ∉ l.map (·.1) := by
  induction l with
  | nil => simp
  | cons p r ih =>
    obtain ⟨k', v⟩ := p
    by_cases h : k = k' <;> simp [get, h, ih]

theorem get_isSome_iff {k : κ} {l : List (κ × β)} : (get k l).isSome = true ↔ k ∈ l.map (·.1) :=
  Option.isSome_iff_ne_none.trans ((not_congr get_eq_none_iff).trans Decidable.not_not)

theorem exists_get_of_mem_keys {k : κ} {l : List (κ × β)} (h : k ∈ l.map (·.1)) : ∃ v, get k l = some v :=
  Option.isSome_iff_exists.1 (get_isSome_iff.2 h)

theorem mem_of_get {k : κ} {v : β} : ∀ {l : List (κ × β)}, get k l = some v → (k, v) ∈ l
  | (k', v') :: r, h => by
    rw [get_cons] at h
    split at h
    · next e => cases h; exact e ▸ List.mem_cons_self
    · exact List.mem_cons_of_mem _ (mem_of_get h)

theorem get_of_mem {k : κ} {v : β} {l : List (κ × β)} (hn : (l.map (·.1)).Nodup) (h : (k, v) ∈ l) :
    get k l = some v := by
  induction l with
  | nil => cases h
  | cons p r ih =>
    obtain ⟨k', v'⟩ := p
    rw [List.map_cons, List.nodup_cons] at hn
    rcases List.mem_cons.1 h with e | h
    · cases e; simp
    · have hk : k ∈ r.map (·.1) := List.mem_map.2 ⟨(k, v), h, rfl⟩
      rw [get_cons_ne (fun e : k = k' => hn.1 (e ▸ hk)), ih hn.2 h]

omit [DecidableEq κ] in
theorem value_unique {l : List (κ × β)} (hn : (l.map (·.1)).Nodup) {k : κ} {a b : β} (ha : (k, a) ∈ l) (hb : (k, b) ∈ l) :
    a = b :=
  (Prod.mk.inj (eq_of_map_nodup (·.1) hn ha hb rfl)).2

theorem get_append (k : κ) (a b : List (κ × β)) : get k (a ++ b) = (get k a).or (get k b) := by
  induction a with
  | nil => simp
  | cons p r ih =>
    obtain ⟨k', v⟩ := p
    by_cases h : k = k' <;> simp [get, h, ih]

/-- for the dict writes the model spells "if `k` is a key then `d.map fun p => if p.1 = k then (k, v) else p` else append"
(`write`, `Asm.setAttr`, `Refs.dictInsert`): the `map` branch -/
theorem get_map_entry {γ : Type w} (F : κ × β → κ × γ) (hF : ∀ p, (F p).1 = p.1) (a : κ) (l : List (κ × β)) :
    get a (l.map F) = (get a l).map fun v => (F (a, v)).2 := by
  induction l with
  | nil => rfl
  | cons p r ih =>
    obtain ⟨k', v⟩ := p
    have e : F (k', v) = (k', (F (k', v)).2) := Prod.ext (hF _) rfl
    rw [List.map_cons, e, get_cons, get_cons, ih]
    by_cases h : a = k'
    · subst h; simp
    · simp [h]

theorem get_map {γ : Type w} (g : κ → β → γ) (k : κ) (l : List (κ × β)) :
    get k (l.map fun p => (p.1, g p.1 p.2)) = (get k l).map (g k) :=
  get_map_entry (fun p => (p.1, g p.1 p.2)) (fun _ => rfl) k l

omit [DecidableEq κ] in
theorem keys_map_entry (F : κ × β → κ × β) (hF : ∀ p, (F p).1 = p.1) (l : List (κ × β)) :
    (l.map F).map (·.1) = l.map (·.1) := by
  rw [List.map_map]; exact List.map_congr_left fun p _ => hF p

theorem get_filter (q : κ → Bool) (k : κ) (l : List (κ × β)) :
    get k (l.filter fun p => q p.1) = if q k = true then get k l else none := by
  induction l with
  | nil => simp
  | cons p r ih =>
    obtain ⟨k', v⟩ := p
    rw [List.filter_cons]
    by_cases h : k = k'
    · subst h; by_cases hq : q k = true <;> simp [hq, ih]
    · by_cases hq : q k' = true <;> simp [get, h, hq, ih]

theorem get_perm {l l' : List (κ × β)} (hp : l.Perm l') (hn : (l.map (·.1)).Nodup) (k : κ) :
    get k l = get k l' := by
  have hn' : (l'.map (·.1)).Nodup := (hp.map _).nodup_iff.1 hn
  cases h : get k l with
  | some v => exact (get_of_mem hn' (hp.subset (mem_of_get h))).symm
  | none =>
    rw [get_eq_none_iff] at h
    exact (get_eq_none_iff.2 fun hm => h ((hp.map _).mem_iff.2 hm)).symm

theorem get_reverse {l : List (κ × β)} (hn : (l.map (·.1)).Nodup) (k : κ) : get k l.reverse = get k l :=
  (get_perm (List.reverse_perm l).symm hn k).symm

/-- the Boolean "is `k` a key" of the model's `keysNodup` functions -/
theorem any_fst_eq {k : κ} {l : List (κ × β)} : (l.any fun kv => decide (kv.1 = k)) = true ↔ k ∈ l.map (·.1) := by
  simp only [List.any_eq_true, decide_eq_true_eq, List.mem_map]

/-! ### `upd`, `set` -/

@[simp] theorem set_nil (k : κ) (v : β) : set k v [] = [(k, v)] := rfl

theorem set_cons (k k' : κ) (v v' : β) (r : List (κ × β)) :
    set k v ((k', v') :: r) = if k = k' then (k', v) :: r else (k', v') :: set k v r := rfl

/-- as `get_of_eqns`, for a slice's own `d[k] = v` -/
theorem set_of_eqns {s : List (κ × β) → List (κ × β)} {k : κ} {v : β} (hnil : s [] = [(k, v)])
    (hcons : ∀ k' v' r, s ((k', v') :: r) = if k = k' then (k', v) :: r else (k', v') :: s r) : ∀ l, s l = set k v l
  | [] => hnil
  | (k', v') :: r => by rw [hcons, set_cons, set_of_eqns hnil hcons r]

theorem get_upd (a k : κ) (f : Option β → β) (l : List (κ × β)) :
    get a (upd k f l) = if a = k then some (f (get k l)) else get a l := by
  induction l with
  | nil => by_cases h : a = k <;> simp [upd, get, h]
  | cons p r ih =>
    obtain ⟨k', v⟩ := p
    rw [upd]
    by_cases hk : k = k'
    · subst hk; by_cases h : a = k <;> simp [get, h]
    · by_cases h : a = k
      · subst h; simp [get, hk, ih]
      · simp [get, hk, h, ih]

theorem get_set (a k : κ) (v : β) (l : List (κ × β)) : get a (set k v l) = if a = k then some v else get a l :=
  get_upd a k _ l

theorem upd_append_of_not_mem {k : κ} (f : Option β → β) {l : List (κ × β)} (r : List (κ × β))
    (h : k ∉ l.map (·.1)) : upd k f (l ++ r) = l ++ upd k f r := by
  induction l with
  | nil => rfl
  | cons p l ih =>
    obtain ⟨k', v'⟩ := p
    simp only [List.map_cons, List.mem_cons, not_or] at h
    simp [upd, h.1, ih h.2]

theorem upd_of_not_mem {k : κ} (f : Option β → β) {l : List (κ × β)} (h : k ∉ l.map (·.1)) :
    upd k f l = l ++ [(k, f none)] := by
  simpa [upd] using upd_append_of_not_mem f [] h

theorem set_of_not_mem {k : κ} (v : β) {l : List (κ × β)} (h : k ∉ l.map (·.1)) : set k v l = l ++ [(k, v)] :=
  upd_of_not_mem _ h

theorem upd_append_cons {k : κ} (f : Option β → β) (v : β) {l : List (κ × β)} (r : List (κ × β))
    (h : k ∉ l.map (·.1)) : upd k f (l ++ (k, v) :: r) = l ++ (k, f (some v)) :: r := by
  rw [upd_append_of_not_mem f _ h, upd, if_pos rfl]

theorem keys_upd (k : κ) (f : Option β → β) (l : List (κ × β)) :
    (upd k f l).map (·.1) = if k ∈ l.map (·.1) then l.map (·.1) else l.map (·.1) ++ [k] := by
  by_cases h : k ∈ l.map (·.1)
  · rw [if_pos h]
    induction l with
    | nil => simp at h
    | cons p r ih =>
      obtain ⟨k', v⟩ := p
      by_cases hk : k = k'
      · simp [upd, hk]
      · simp [upd, hk, ih (by simpa [hk] using h)]
  · rw [if_neg h, upd_of_not_mem f h]; simp

theorem keys_upd_of_mem {k : κ} (f : Option β → β) {l : List (κ × β)} (h : k ∈ l.map (·.1)) :
    (upd k f l).map (·.1) = l.map (·.1) := by
  rw [keys_upd, if_pos h]

theorem mem_keys_upd {a k : κ} {f : Option β → β} {l : List (κ × β)} :
    a ∈ (upd k f l).map (·.1) ↔ a ∈ l.map (·.1) ∨ a = k := by
  rw [keys_upd]
  split
  · next h => exact ⟨.inl, fun h' => h'.elim id (· ▸ h)⟩
  · simp

theorem nodup_upd {k : κ} {f : Option β → β} {l : List (κ × β)} (h : (l.map (·.1)).Nodup) :
    ((upd k f l).map (·.1)).Nodup := by
  rw [keys_upd]
  split
  · exact h
  · next hk => exact List.nodup_append.2 ⟨h, by simp, fun a ha b hb e =>
      hk (List.mem_singleton.1 hb ▸ e ▸ ha)⟩

theorem mem_upd {k : κ} {f : Option β → β} {kv : κ × β} : ∀ {l : List (κ × β)},
    kv ∈ upd k f l → kv = (k, f (get k l)) ∨ kv ∈ l
  | [], h => .inl (by simpa [upd] using h)
  | (k', v') :: r, h => by
    rw [upd] at h
    by_cases hk : k = k'
    · subst hk
      rw [if_pos rfl, List.mem_cons] at h
      exact h.imp (by simp) (List.mem_cons_of_mem _)
    · rw [if_neg hk, List.mem_cons] at h
      rcases h with h | h
      · exact .inr (h ▸ List.mem_cons_self)
      · exact (mem_upd h).imp (by simp [get, hk]) (List.mem_cons_of_mem _)

theorem forall_mem_upd {P : κ × β → Prop} {k : κ} {f : Option β → β} {l : List (κ × β)}
    (hl : ∀ kv ∈ l, P kv) (hk : P (k, f (get k l))) : ∀ kv ∈ upd k f l, P kv :=
  fun _ h => (mem_upd h).elim (· ▸ hk) (hl _)

theorem mem_keys_set {a k : κ} {v : β} {l : List (κ × β)} : a ∈ (set k v l).map (·.1) ↔ a ∈ l.map (·.1) ∨ a = k :=
  mem_keys_upd

theorem keys_set_of_mem {k : κ} (v : β) {l : List (κ × β)} (h : k ∈ l.map (·.1)) : (set k v l).map (·.1) = l.map (·.1) :=
  keys_upd_of_mem _ h

theorem nodup_set {k : κ} {v : β} {l : List (κ × β)} (h : (l.map (·.1)).Nodup) : ((set k v l).map (·.1)).Nodup :=
  nodup_upd h

theorem mem_set {k : κ} {v : β} {kv : κ × β} {l : List (κ × β)} (h : kv ∈ set k v l) : kv = (k, v) ∨ kv ∈ l :=
  mem_upd h

theorem forall_mem_set {P : κ × β → Prop} {k : κ} {v : β} {l : List (κ × β)} (hl : ∀ kv ∈ l, P kv) (hk : P (k, v)) :
    ∀ kv ∈ set k v l, P kv :=
  forall_mem_upd hl hk

/-! ### `write`: `d[k] = v` spelt with `any` / `map` / `++` -/

/-- `Entities.dictSet`, `dictSetS`, `setCell` write this way: every entry for `k` is rewritten, a new key goes to the
end.  On a dict (distinct keys) it is `set`. -/
def write (d : List (κ × β)) (k : κ) (v : β) : List (κ × β) :=
  if d.any (fun p => p.1 = k) then d.map (fun p => if p.1 = k then (k, v) else p) else d ++ [(k, v)]

/-- the rewriting of `write` keeps every key: the hypothesis of `get_map_entry`, `keys_map_entry` -/
theorem write_entry_fst (k : κ) (v : β) (p : κ × β) : (if p.1 = k then (k, v) else p).1 = p.1 := by
  split
  · next e => exact e.symm
  · rfl

theorem get_write (a k : κ) (v : β) (d : List (κ × β)) : get a (write d k v) = if a = k then some v else get a d := by
  unfold write
  split
  · next h =>
    rw [get_map_entry _ (write_entry_fst k v)]
    by_cases ha : a = k
    · obtain ⟨w, hw⟩ := exists_get_of_mem_keys (any_fst_eq.1 h)
      rw [ha, hw, Option.map_some, if_pos rfl, if_pos rfl]
    · cases get a d <;> simp [ha]
  · next h =>
    rw [get_append, get_cons]
    by_cases ha : a = k
    · rw [ha, get_eq_none_iff.2 fun hm => h (any_fst_eq.2 hm), Option.none_or, if_pos rfl, if_pos rfl]
    · cases get a d <;> simp [ha]

theorem keys_write (k : κ) (v : β) (d : List (κ × β)) :
    (write d k v).map (·.1) = if k ∈ d.map (·.1) then d.map (·.1) else d.map (·.1) ++ [k] := by
  unfold write
  by_cases h : k ∈ d.map (·.1)
  · rw [if_pos (any_fst_eq.2 h), if_pos h]
    exact keys_map_entry _ (write_entry_fst k v) d
  · rw [if_neg (fun hc => h (any_fst_eq.1 hc)), if_neg h, List.map_append]
    rfl

theorem mem_keys_write {a k : κ} {v : β} {d : List (κ × β)} :
    a ∈ (write d k v).map (·.1) ↔ a ∈ d.map (·.1) ∨ a = k := by
  rw [keys_write, ← keys_upd k (fun _ => v)]; exact mem_keys_set

theorem write_eq_set {d : List (κ × β)} (hn : (d.map (·.1)).Nodup) (k : κ) (v : β) : write d k v = set k v d := by
  induction d with
  | nil => rfl
  | cons p r ih =>
    obtain ⟨k', v'⟩ := p
    rw [List.map_cons, List.nodup_cons] at hn
    by_cases hk : k' = k
    · -- the entry is the head; no other entry has the key
      subst hk
      have hr : r.map (fun p => if p.1 = k' then (k', v) else p) = r :=
        (List.map_congr_left fun p hp =>
          if_neg fun (e : p.1 = k') => hn.1 (e ▸ List.mem_map_of_mem (f := (·.1)) hp)).trans (List.map_id' r)
      simp [write, set_cons, hr]
    · have := ih hn.2
      unfold write at this ⊢
      rw [set_cons, if_neg (Ne.symm hk), ← this]
      by_cases ha : r.any (fun p => decide (p.1 = k)) = true <;> simp [hk, ha]

theorem upd_upd (k : κ) (f g : Option β → β) : ∀ l : List (κ × β),
    upd k f (upd k g l) = upd k (fun o => f (some (g o))) l
  | [] => by simp [upd]
  | (k', v) :: r => by by_cases hk : k = k' <;> simp [upd, hk, upd_upd k f g r]

theorem set_set (k : κ) (v v' : β) (l : List (κ × β)) : set k v (set k v' l) = set k v l :=
  upd_upd k _ _ l

/-- writes to different keys commute unless both keys are new: two new keys are appended in the order of the writes.
One key present is enough; the hypothesis asks it of `k1`. -/
theorem upd_comm {k1 k2 : κ} (hne : k1 ≠ k2) (f g : Option β → β) : ∀ {l : List (κ × β)},
    k1 ∈ l.map (·.1) → upd k1 f (upd k2 g l) = upd k2 g (upd k1 f l)
  | (k, v) :: r, h => by
    by_cases h1 : k1 = k
    · subst h1; simp [upd, Ne.symm hne]
    · by_cases h2 : k2 = k
      · subst h2; simp [upd, h1]
      · simp [upd, h1, h2, upd_comm hne f g (l := r) (by simpa [h1] using h)]

theorem upd_congr {k : κ} {f g : Option β → β} : ∀ {l : List (κ × β)},
    f (get k l) = g (get k l) → upd k f l = upd k g l
  | [], h => by simpa [upd] using h
  | (k', v) :: r, h => by
    by_cases hk : k = k'
    · subst hk; simp [upd, show f (some v) = g (some v) by simpa using h]
    · simp [upd, hk, upd_congr (l := r) (by simpa [get, hk] using h)]

theorem upd_eq_self {k : κ} {f : Option β → β} {v : β} : ∀ {l : List (κ × β)},
    get k l = some v → f (some v) = v → upd k f l = l
  | (k', v') :: r, h, hf => by
    by_cases hk : k = k'
    · subst hk; simp [upd, show v' = v by simpa using h, hf]
    · simp [upd, hk, upd_eq_self (l := r) (by simpa [get, hk] using h) hf]

theorem map_upd {γ : Type w} (g : β → γ) (k : κ) (f : Option β → β) (f' : Option γ → γ)
    (hf : ∀ o, g (f o) = f' (o.map g)) : ∀ l : List (κ × β),
    (upd k f l).map (fun p => (p.1, g p.2)) = upd k f' (l.map fun p => (p.1, g p.2))
  | [] => by simp [upd, hf]
  | (k', v) :: r => by by_cases hk : k = k' <;> simp [upd, hk, hf, map_upd g k f f' hf r]

theorem map_fst_upd {κ' : Type w} [DecidableEq κ'] (j : κ → κ') (hj : ∀ a b, j a = j b → a = b) (k : κ)
    (f : Option β → β) : ∀ l : List (κ × β),
    (upd k f l).map (fun p => (j p.1, p.2)) = upd (j k) f (l.map fun p => (j p.1, p.2))
  | [] => rfl
  | (k', v) :: r => by
    by_cases hk : k = k'
    · simp [upd, hk]
    · have hj' : ¬ j k = j k' := fun e => hk (hj k k' e)
      simp [upd, hk, hj', map_fst_upd j hj k f r]

/-! ### `update` -/

@[simp] theorem update_nil (d : List (κ × β)) : update d [] = d := rfl

theorem update_cons (d : List (κ × β)) (kv : κ × β) (e : List (κ × β)) :
    update d (kv :: e) = update (set kv.1 kv.2 d) e := rfl

theorem foldl_set {α : Type w} (key : α → κ) (val : α → β) (xs : List α) (d : List (κ × β)) :
    xs.foldl (fun acc x => set (key x) (val x) acc) d = update d (xs.map fun x => (key x, val x)) := by
  rw [update, List.foldl_map]

theorem foldl_set? {α : Type w} (w : α → Option (κ × β)) (xs : List α) (d : List (κ × β)) :
    xs.foldl (fun acc x => match w x with | some kv => set kv.1 kv.2 acc | none => acc) d = update d (xs.filterMap w) := by
  induction xs generalizing d with
  | nil => rfl
  | cons x xs ih =>
    rw [List.foldl_cons, ih, List.filterMap_cons]
    cases w x <;> rfl

/-- the last write to a key wins; keys not written keep their value -/
theorem get_update (k : κ) (d e : List (κ × β)) : get k (update d e) = (get k e.reverse).or (get k d) := by
  induction e generalizing d with
  | nil => simp
  | cons p e ih =>
    rw [update_cons, ih, List.reverse_cons, get_append, get_set, get_cons]
    cases get k e.reverse <;> by_cases h : k = p.1 <;> simp [h]

theorem get_update_of_nodup {d e : List (κ × β)} (hn : (e.map (·.1)).Nodup) (k : κ) :
    get k (update d e) = (get k e).or (get k d) := by
  rw [get_update, get_reverse hn]

theorem mem_keys_update {a : κ} {d e : List (κ × β)} :
    a ∈ (update d e).map (·.1) ↔ a ∈ d.map (·.1) ∨ a ∈ e.map (·.1) := by
  induction e generalizing d with
  | nil => simp
  | cons p e ih => rw [update_cons, ih, mem_keys_set, List.map_cons, List.mem_cons, or_assoc]

theorem nodup_update {d : List (κ × β)} (e : List (κ × β)) (h : (d.map (·.1)).Nodup) :
    ((update d e).map (·.1)).Nodup := by
  induction e generalizing d with
  | nil => exact h
  | cons p e ih => exact ih (nodup_set h)

theorem forall_mem_update {P : κ × β → Prop} {d e : List (κ × β)} (hd : ∀ kv ∈ d, P kv) (he : ∀ kv ∈ e, P kv) :
    ∀ kv ∈ update d e, P kv := by
  induction e generalizing d with
  | nil => exact hd
  | cons p e ih =>
    exact ih (forall_mem_upd hd (he p List.mem_cons_self)) fun kv h => he kv (List.mem_cons_of_mem _ h)

omit [DecidableEq κ] in
/-- the step of the folds that append entries with fresh keys (`update`, `JV.dedupM`, `ToJson.restoreExtra`) -/
theorem fresh_snoc {k : κ} {rest : List κ} {acc : List (κ × β)} (v : β) (hk : k ∉ rest)
    (hd : ∀ k' ∈ k :: rest, k' ∉ acc.map (·.1)) : ∀ k' ∈ rest, k' ∉ (acc ++ [(k, v)]).map (·.1) := by
  intro k' hk'
  simp only [List.map_append, List.map_cons, List.map_nil, List.mem_append, List.mem_singleton, not_or]
  exact ⟨hd k' (List.mem_cons_of_mem _ hk'), fun e => hk (e ▸ hk')⟩

theorem update_eq_append {d e : List (κ × β)} (hn : (e.map (·.1)).Nodup) (hd : ∀ k ∈ e.map (·.1), k ∉ d.map (·.1)) :
    update d e = d ++ e := by
  induction e generalizing d with
  | nil => simp
  | cons p e ih =>
    rw [List.map_cons, List.nodup_cons] at hn
    rw [update_cons, set_of_not_mem _ (hd p.1 (by simp)), ih hn.2 (fresh_snoc p.2 hn.1 hd), List.append_assoc]; rfl

theorem get_update_perm {e e' : List (κ × β)} (hp : e'.Perm e) (hn : (e.map (·.1)).Nodup) (d : List (κ × β)) (k : κ) :
    get k (update d e') = get k (update d e) := by
  rw [get_update_of_nodup hn, get_update_of_nodup ((hp.map _).nodup_iff.2 hn), get_perm hp ((hp.map _).nodup_iff.2 hn)]

end Pyxv.AList

/-! ### string keys: `Pyxv.lookup` is `get`

The slices with `Str` keys read with `Pyxv.lookup`; the facts about reading, restated for it. -/
namespace Pyxv
universe v w
variable {β : Type v}

theorem lookup_eq_get (k : Str) : ∀ l : List (Str × β), lookup k l = AList.get k l :=
  AList.get_of_eqns rfl fun _ _ _ => rfl

theorem lookup_cons_self (k : Str) (v : β) (r : List (Str × β)) : lookup k ((k, v) :: r) = some v := by
  rw [lookup, if_pos rfl]

theorem lookup_cons_ne {k k1 : Str} (v1 : β) (r : List (Str × β)) (h : k ≠ k1) :
    lookup k ((k1, v1) :: r) = lookup k r := by
  rw [lookup, if_neg h]

theorem lookup_append (k : Str) (a b : List (Str × β)) : lookup k (a ++ b) = (lookup k a).or (lookup k b) := by
  simp only [lookup_eq_get, AList.get_append]

theorem lookup_append_single (k k' : Str) (v : β) (d : List (Str × β)) :
    lookup k (d ++ [(k', v)]) = (lookup k d).or (if k = k' then some v else none) := by
  rw [lookup_append, lookup, lookup]

theorem lookup_mem {k : Str} {l : List (Str × β)} {v : β} (h : lookup k l = some v) : (k, v) ∈ l :=
  AList.mem_of_get (lookup_eq_get k l ▸ h)

theorem lookup_eq_none_iff (k : Str) (d : List (Str × β)) : lookup k d = none ↔ k ∉ d.map (·.1) := by
  rw [lookup_eq_get, AList.get_eq_none_iff]

theorem lookup_isSome_iff {k : Str} {l : List (Str × β)} : (lookup k l).isSome = true ↔ k ∈ l.map (·.1) := by
  rw [lookup_eq_get, AList.get_isSome_iff]

theorem exists_lookup_of_mem_keys {k : Str} {l : List (Str × β)} (h : k ∈ l.map (·.1)) : ∃ v, lookup k l = some v :=
  lookup_eq_get k l ▸ AList.exists_get_of_mem_keys h

theorem lookup_of_mem {k : Str} {v : β} {l : List (Str × β)} (hn : (l.map (·.1)).Nodup) (h : (k, v) ∈ l) :
    lookup k l = some v := by
  rw [lookup_eq_get, AList.get_of_mem hn h]

theorem lookup_map {γ : Type w} (g : Str → β → γ) (k : Str) (l : List (Str × β)) :
    lookup k (l.map fun p => (p.1, g p.1 p.2)) = (lookup k l).map (g k) := by
  simp only [lookup_eq_get, AList.get_map]

theorem lookup_map_values {γ : Type w} (f : β → γ) (k : Str) (l : List (Str × β)) :
    lookup k (l.map fun p => (p.1, f p.2)) = (lookup k l).map f :=
  lookup_map (fun _ => f) k l

theorem lookup_map_entry (F : Str × β → Str × β) (hF : ∀ p, (F p).1 = p.1) (a : Str) (l : List (Str × β)) :
    lookup a (l.map F) = (lookup a l).map fun v => (F (a, v)).2 := by
  rw [lookup_eq_get, lookup_eq_get, AList.get_map_entry F hF]

theorem lookup_filter (q : Str → Bool) (k : Str) (l : List (Str × β)) :
    lookup k (l.filter fun p => q p.1) = if q k = true then lookup k l else none := by
  simp only [lookup_eq_get, AList.get_filter]

theorem lookup_filter_ne {k d : Str} (hk : k ≠ d) (r : List (Str × β)) :
    lookup k (r.filter fun kv => kv.1 ≠ d) = lookup k r := by
  rw [lookup_filter (fun a => decide (a ≠ d)), if_pos (decide_eq_true hk)]

theorem lookup_filter_self (k : Str) (r : List (Str × β)) :
    lookup k (r.filter fun kv => kv.1 ≠ k) = none := by
  rw [lookup_filter (fun a => decide (a ≠ k)), if_neg (by simp)]

theorem filter_ne_of_lookup_none {k : Str} {r : List (Str × β)} (h : lookup k r = none) :
    r.filter (fun kv => kv.1 ≠ k) = r :=
  List.filter_eq_self.mpr fun kv hm => decide_eq_true fun e => (lookup_eq_none_iff k r).1 h (List.mem_map.mpr ⟨kv, hm, e⟩)

theorem lookup_upd (a k : Str) (f : Option β → β) (l : List (Str × β)) :
    lookup a (AList.upd k f l) = if a = k then some (f (lookup k l)) else lookup a l := by
  simp only [lookup_eq_get, AList.get_upd]

theorem upd_eq_self_of_lookup {k : Str} {f : Option β → β} {v : β} {l : List (Str × β)} (h : lookup k l = some v)
    (hf : f (some v) = v) : AList.upd k f l = l :=
  AList.upd_eq_self (lookup_eq_get k l ▸ h) hf

theorem upd_congr_of_lookup {k : Str} {f g : Option β → β} {l : List (Str × β)} (h : f (lookup k l) = g (lookup k l)) :
    AList.upd k f l = AList.upd k g l :=
  AList.upd_congr (lookup_eq_get k l ▸ h)

theorem lookup_set (a k : Str) (v : β) (l : List (Str × β)) :
    lookup a (AList.set k v l) = if a = k then some v else lookup a l := lookup_upd a k _ l

theorem lookup_update_of_nodup {d e : List (Str × β)} (hn : (e.map (·.1)).Nodup) (k : Str) :
    lookup k (AList.update d e) = (lookup k e).or (lookup k d) := by
  simp only [lookup_eq_get, AList.get_update_of_nodup hn]

theorem lookup_update_perm {e e' : List (Str × β)} (hp : e'.Perm e) (hn : (e.map (·.1)).Nodup) (d : List (Str × β))
    (k : Str) : lookup k (AList.update d e') = lookup k (AList.update d e) := by
  simp only [lookup_eq_get, AList.get_update_perm hp hn]

end Pyxv
