import Pyxv.Proofs.SettingsLemmas
import Pyxv.Proofs.Literals
/-!
# C11 — settings reach the form header verbatim

The setting → location table the theorems speak of is `Spec.want`, with its defaults, in Model/SettingsSpec.lean.

Two steps carry every header statement.  `surveyOf_root2`: the `Survey` object built from the root dict is, slot by slot,
`specSurvey` of the lookup function — this is where the dicts end.  `hdr_read`: on such an object `xml_instance` /
`xml_model` / `get_nsmap` give each location the table's value; the root attributes need the guard `LocalsDistinct`, under
which minidom's `setAttribute` is a dict assignment.  The second half follows the settings sheet through `dealias`.
-/
namespace Pyxv.C11
open Pyxv Pyxv.Settings

/-- the lookup function of a settings dict -/
abbrev sig (st : Dict) : Spec.Sigma := fun k => aget k st

theorem header2_ok {st : Dict} {ss : List (Str × Option Str)} {a : Args} {h : Header} (hh : header2 st ss a = .ok h) :
    h = headerOf2 st ss a ∧ h.xmlOk = true := by
  unfold header2 at hh
  iterate 4 (split at hh; · cases hh)
  split at hh
  · cases hh
  · rename_i hx
    cases hh
    exact ⟨rfl, by simpa using hx⟩

theorem header_ok {st : Dict} {a : Args} {h : Header} (hh : header st a = .ok h) :
    h = headerOf st a ∧ h.xmlOk = true :=
  header2_ok (ss := []) hh

/-- an accepted header passes `validate_xml_document`: XML names with declared prefixes, legal namespace
    declarations, XML characters only -/
theorem header_ok_xml {st : Dict} {a : Args} {h : Header} (hh : header st a = .ok h) : h.xmlOk = true :=
  (header_ok hh).2

theorem optMatchId {α : Type} (o : Option α) : (match o with | some x => some x | none => none) = o := by
  cases o <;> rfl

theorem subList_read (σ : Spec.Sigma) (k : Str) :
    (match subList (Spec.opt (σ (S "submission_url"))) (Spec.opt (σ (S "public_key"))) (Spec.opt (σ (S "auto_send")))
        (Spec.opt (σ (S "auto_delete"))) with
      | some l => aget k l
      | none => none) = Spec.subAttr σ k := by
  unfold Spec.subAttr
  generalize Spec.opt (σ (S "submission_url")) = u, Spec.opt (σ (S "public_key")) = p,
    Spec.opt (σ (S "auto_send")) = s, Spec.opt (σ (S "auto_delete")) = d
  by_cases hc : (u.isSome || p.isSome || s.isSome || d.isSome) = true
  · simp only [subList, hc, if_true, aget_setOpt]
    cases u with
    | none => simp only [aget_nil, Option.isSome_none, Bool.false_eq_true, and_false, if_false]
    | some x => simp only [aget_aset, aget_nil, Option.isSome_some, and_true]
  · simp only [subList, hc]
    simp only [Bool.or_eq_true, not_or, Bool.not_eq_true, Option.isSome_eq_false_iff, Option.isNone_iff_eq_none] at hc
    obtain ⟨⟨⟨h1, h2⟩, h3⟩, h4⟩ := hc
    subst h1 h2 h3 h4
    simp

theorem submission_present (sv : Survey) :
    (submissionOf sv).isSome
      = (sv.submissionUrl.isSome || sv.publicKey.isSome || sv.autoSend.isSome || sv.autoDelete.isSome) := by
  unfold submissionOf subList
  split <;> simp_all

theorem nsmap_read (σ : Spec.Sigma) (q : Str) : aget q (nsmapOfNs (Spec.opt (σ (S "namespaces")))) = Spec.ns σ q := by
  unfold Spec.ns
  cases Spec.opt (σ (S "namespaces")) with
  | none => simp only [nsmapOfNs]; cases aget q nsmapBase <;> rfl
  | some s =>
    have hnd : (keys (nsExtra s)).Nodup := nodup_aupdate (by simp [keys])
    simp only [nsmapOfNs, aget_aupdate, agetLast_eq_aget hnd]
    unfold nsExtra
    rw [aget_aupdate]
    have := agetLast_filter_key (β := Str) (fun k => (aget k nsmapBase).isNone) q
      ((nsList s).map fun kv => (S "xmlns:" ++ kv.1, dropQuotes kv.2))
    rw [this]
    unfold Spec.declared
    cases hb : aget q nsmapBase with
    | some v => simp
    | none =>
      simp
      cases agetLast q (List.map (fun kv => (S "xmlns:" ++ kv.1, dropQuotes kv.2)) (nsList s)) <;> rfl

theorem rootList_read (σ : Spec.Sigma) (a : Args) (k : Str) :
    aget k (rootList aset (Spec.attrs σ) (Spec.idString σ a) (Spec.opt (σ (S "instance_xmlns")))
      (Spec.txt (σ (S "version"))) (Spec.opt (σ (S "prefix"))) (Spec.opt (σ (S "delimiter")))) = Spec.rootAttr σ a k := by
  have hfold : List.foldl (fun acc kv => aset kv.1 kv.2 acc) [] (Spec.attrs σ) = aupdate [] (Spec.attrs σ) := rfl
  unfold rootList Spec.rootAttr
  simp only [hfold]
  rw [aget_setOpt, aget_setOpt]
  cases Spec.txt (σ (S "version")) with
  | nil =>
    simp only [List.isEmpty_nil, if_true, aget_setOpt, aget_aset, aget_aupdate, aget_nil,
      Bool.true_eq_false, and_false, if_false]
    cases agetLast k (Spec.attrs σ) <;> rfl
  | cons c cs =>
    simp only [List.isEmpty_cons, Bool.false_eq_true, if_false, aget_setOpt, aget_aset, aget_aupdate, aget_nil,
      and_true]
    cases agetLast k (Spec.attrs σ) <;> rfl

/-! ### minidom's `setAttribute` is a dict assignment when local names are pairwise distinct -/

/-- no two names of the list differ only by a prefix -/
def LocalsDistinct (ks : List Str) : Prop := ∀ x ∈ ks, ∀ y ∈ ks, localName x = localName y → x = y

theorem domSet_eq_aset {k v : Str} {l : List (Str × Str)}
    (h : ∀ p ∈ l, localName p.1 = localName k → p.1 = k) : domSet k v l = aset k v l := by
  unfold domSet
  by_cases hs : (aget k l).isSome = true
  · simp [hs]
  · have hnone : aget k l = none := Option.not_isSome_iff_eq_none.mp hs
    have hf : l.filter (fun p => localName p.1 != localName k) = l := by
      apply List.filter_eq_self.mpr
      intro p hp
      by_cases hl : localName p.1 = localName k
      · have hpk : p.1 = k := h p hp hl
        have : k ∈ keys l := by
          rw [← hpk]; exact List.mem_map.mpr ⟨p, hp, rfl⟩
        have := aget_isSome_of_mem this
        simp [hnone] at this
      · simpa using hl
    simp only [hs, Bool.false_eq_true, if_false, hf]
    exact (aset_of_aget_none hnone).symm

/-- invariant of the assignments of `rootList`: both stores hold the same list, all of whose names belong to `K` -/
structure Agree (K : List Str) (a b : List (Str × Str)) : Prop where
  eq : a = b
  inv : ∀ p ∈ b, p.1 ∈ K

theorem Agree.nil (K : List Str) : Agree K [] [] := ⟨rfl, by simp⟩

theorem Agree.set {K : List Str} (hK : LocalsDistinct K) {a b : List (Str × Str)} (h : Agree K a b)
    {k : Str} (v : Str) (hk : k ∈ K) : Agree K (domSet k v a) (aset k v b) := by
  refine ⟨?_, fun p hp => AList.forall_mem_set (P := fun p => p.1 ∈ K) h.inv hk p (aset_eq k v b ▸ hp)⟩
  rw [h.eq]
  exact domSet_eq_aset fun p hp hl => hK _ (h.inv p hp) _ hk hl

theorem Agree.setOpt {K : List Str} (hK : LocalsDistinct K) {a b : List (Str × Str)} (h : Agree K a b)
    (k : String) (v : Option Str) (hk : k.toList ∈ K) :
    Agree K (Settings.setOpt domSet k v a) (Settings.setOpt aset k v b) := by
  cases v with
  | none => exact h
  | some x => exact h.set hK x hk

theorem Agree.fold {K : List Str} (hK : LocalsDistinct K) (ops : List (Str × Str))
    {a b : List (Str × Str)} (h : Agree K a b) (hops : ∀ p ∈ ops, p.1 ∈ K) :
    Agree K (ops.foldl (fun acc kv => domSet kv.1 kv.2 acc) a) (ops.foldl (fun acc kv => aset kv.1 kv.2 acc) b) := by
  induction ops generalizing a b with
  | nil => exact h
  | cons p r ih =>
    exact ih (h.set hK p.2 (hops p (by simp))) (fun q hq => hops q (by simp [hq]))

theorem Agree.ite {K : List Str} {c : Prop} [Decidable c] {a b a' b' : List (Str × Str)}
    (h : Agree K a b) (h' : Agree K a' b') : Agree K (if c then a else a') (if c then b else b') := by
  split <;> assumption

/-- the names the primary instance root can carry (`Spec.rootAttrKeys σ` for `attrs = Spec.attrs σ`, by unfolding) -/
def rootNames (attrs : List (Str × Str)) : List Str :=
  [S "id", S "xmlns", S "version", S "odk:prefix", S "odk:delimiter"] ++ attrs.map (·.1)

/-- when no two of the root's attribute names differ only by a prefix, minidom's `setAttribute` builds what a plain
    ordered dict would hold -/
theorem rootList_domSet_eq_aset (attrs : List (Str × Str)) (id : Str) (x : Option Str) (ver : Str)
    (p d : Option Str) (hK : LocalsDistinct (rootNames attrs)) :
    rootList domSet attrs id x ver p d = rootList aset attrs id x ver p d := by
  have h1 := Agree.fold hK attrs (Agree.nil (rootNames attrs))
    (fun q hq => by simp only [rootNames]; exact List.mem_append_right _ (List.mem_map.mpr ⟨q, hq, rfl⟩))
  have h2 := h1.set hK id (k := S "id") (List.mem_append_left _ (by decide))
  have h3 := h2.setOpt hK "xmlns" x (List.mem_append_left _ (by decide))
  have h4 := Agree.ite (c := ver.isEmpty = true) h3
    (h3.set hK ver (k := S "version") (List.mem_append_left _ (by decide)))
  have h5 := h4.setOpt hK "odk:prefix" p (List.mem_append_left _ (by decide))
  have h6 := h5.setOpt hK "odk:delimiter" d (List.mem_append_left _ (by decide))
  exact h6.eq

/-! ### settings rows of the survey sheet: which settings they can reach -/

/-- the settings aliases target only `title`, `id_string` and `prefix` (current alias table) -/
theorem survey_row_targets :
    (Pyxv.Gen.aliasSettingsHeader.all fun p => ["title", "id_string", "prefix"].contains p.2) = true := by decide

def rowTargets : List Str := [S "title", S "id_string", S "prefix"]

theorem surveyAssigns_targets (ss : List (Str × Option Str)) : ∀ p ∈ surveyAssigns ss, p.1 ∈ rowTargets := by
  intro p hp
  obtain ⟨q, _, hq⟩ := List.mem_filterMap.mp hp
  unfold surveyRowSetting at hq
  split at hq
  · rename_i c cs hal
    cases hq
    have hm := aget_mem hal
    obtain ⟨e, he, hee⟩ := List.mem_map.mp hm
    have ht := List.all_eq_true.mp survey_row_targets e he
    have h2 : e.2.toList = c :: cs := by
      have := congrArg Prod.snd hee
      simpa using this
    show c :: cs ∈ rowTargets
    rw [← h2]
    simp only [List.contains_cons, List.contains_nil, Bool.or_false, Bool.or_eq_true, beq_iff_eq] at ht
    rcases ht with h | h | h <;> rw [h] <;> decide
  · cases hq

theorem assigns_none (ss : List (Str × Option Str)) {k : Str} (hk : k ∉ rowTargets) :
    agetLast k (surveyAssigns ss) = none :=
  agetLast_none_of_no_key fun p hp (e : p.1 = k) => hk (e ▸ surveyAssigns_targets ss p hp)

theorem overlay_other (σ : Spec.Sigma) (a : Args) (ss : List (Str × Option Str)) {k : Str} (hk : k ∉ rowTargets) :
    Spec.overlay σ a (surveyAssigns ss) k = σ k := by
  unfold Spec.overlay
  have hne : k ≠ S "title" := fun e => hk (by rw [e]; simp [rowTargets])
  simp [assigns_none ss hk, hne]

/-! ### the Survey object built from the root dict is the one the table prescribes -/

/-- the Survey object the table prescribes for the settings `σ` -/
def specSurvey (σ : Spec.Sigma) (a : Args) : Survey :=
  { name := Spec.rootName σ a, title := Spec.title σ a, idString := Spec.idString σ a,
    version := Spec.txt (σ (S "version")), style := Spec.opt (σ (S "style")),
    autoDelete := Spec.opt (σ (S "auto_delete")), autoSend := Spec.opt (σ (S "auto_send")),
    instanceXmlns := Spec.opt (σ (S "instance_xmlns")), namespaces := Spec.opt (σ (S "namespaces")),
    publicKey := Spec.opt (σ (S "public_key")), submissionUrl := Spec.opt (σ (S "submission_url")),
    delimiter := Spec.opt (σ (S "delimiter")), pfx := Spec.opt (σ (S "prefix")),
    attrib := match σ (S "attribute") with | some (.d (p :: ps)) => some (p :: ps) | _ => none }

theorem specSurvey_attrib (σ : Spec.Sigma) (a : Args) : (specSurvey σ a).attrib.getD [] = Spec.attrs σ := by
  unfold specSurvey Spec.attrs
  cases σ (S "attribute") with
  | none => rfl
  | some x =>
    cases x with
    | s v => rfl
    | d kv => cases kv <;> rfl

theorem rootAttrs_spec (σ : Spec.Sigma) (a : Args) (k : Str) :
    aget k (rootAttrsWith aset (specSurvey σ a)) = Spec.rootAttr σ a k := by
  unfold rootAttrsWith
  rw [specSurvey_attrib]
  exact rootList_read σ a k

theorem title_overlay_nil (σ : Spec.Sigma) (a : Args) : Spec.title (Spec.overlay σ a (surveyAssigns [])) a = Spec.title σ a := by
  unfold Spec.title Spec.overlay
  cases σ (S "title") <;> rfl

/-- a slot that no settings row of the survey sheet targets keeps the value of the settings sheet -/
theorem jsonRoot2_other {st : Dict} (a : Args) (ss : List (Str × Option Str)) {k : Str}
    (hk : agetLast k (surveyAssigns ss) = none) : aget k (jsonRoot2 st a ss) = aget k (jsonRoot st a) := by
  rw [jsonRoot2, aget_aupdate, hk]

theorem toList_not_mem {k : String} {L : List String} (hk : k ∉ L) : k.toList ∉ L.map String.toList := fun h => by
  obtain ⟨k', hk', e⟩ := List.mem_map.mp h
  exact hk (String.toList_injective e ▸ hk')

/-- the Survey object after the row loop differs from the one of the settings sheet in the three
    targeted slots only -/
theorem surveyOf2_eq {st : Dict} (a : Args) (ss : List (Str × Option Str)) :
    surveyOf (jsonRoot2 st a ss) =
      { surveyOf (jsonRoot st a) with
        title := (surveyOf (jsonRoot2 st a ss)).title, idString := (surveyOf (jsonRoot2 st a ss)).idString,
        pfx := (surveyOf (jsonRoot2 st a ss)).pfx } := by
  have h (k : String) (hk : k ∉ ["title", "id_string", "prefix"]) :
      aget k.toList (jsonRoot2 st a ss) = aget k.toList (jsonRoot st a) :=
    jsonRoot2_other a ss (assigns_none ss (toList_not_mem hk))
  simp (disch := decide) only [surveyOf, slotStr, slotOpt, slotDict, h]

section Root
variable {st : Dict} (hn : (keys st).Nodup) (a : Args) (ss : List (Str × Option Str))
include hn

theorem aget_root2 {k : Str} (hk : k ≠ S "title") :
    aget k (jsonRoot2 st a ss) = match Spec.overlay (sig st) a (surveyAssigns ss) k with
      | some x => some x
      | none => aget k (defaults st a) := by
  rw [jsonRoot2, aget_aupdate, aget_jsonRoot hn]
  unfold Spec.overlay
  cases agetLast k (surveyAssigns ss) with
  | some x => rfl
  | none => simp only [hk, if_false]; rfl

/-- `k` is a `String`, not a character list, so that `decide` closes the side condition -/
theorem aget_root2_plain (k : String)
    (hk : k ∉ ["type", "name", "title", "id_string", "sms_keyword", "default_language", "children"]) :
    aget k.toList (jsonRoot2 st a ss) = Spec.overlay (sig st) a (surveyAssigns ss) k.toList := by
  have hk' : k.toList ∉ keys (defaults st a) := toList_not_mem hk
  have ht : k.toList ≠ S "title" := fun e => hk' (by rw [e]; simp [keys, defaults])
  rw [aget_root2 hn a ss ht, aget_none_of_not_mem hk']
  cases Spec.overlay (sig st) a (surveyAssigns ss) k.toList <;> rfl

theorem txt_title : Spec.txt (aget (S "title") (jsonRoot2 st a ss)) = Spec.title (Spec.overlay (sig st) a (surveyAssigns ss)) a := by
  rw [txt_jsonRoot2 hn a ss (S "title") rfl]
  unfold Spec.title Spec.overlay Spec.idString
  cases agetLast (S "title") (surveyAssigns ss) with
  | some x => rfl
  | none =>
    cases h1 : aget (S "title") st <;> cases h2 : aget (S "id_string") st <;>
      simp [sig, h1, h2, Spec.txt, defaultFormName_eq]

theorem txt_name : Spec.txt (aget (S "name") (jsonRoot2 st a ss)) = Spec.rootName (Spec.overlay (sig st) a (surveyAssigns ss)) a := by
  rw [txt_jsonRoot2 hn a ss (S "name") rfl]
  unfold Spec.rootName Spec.overlay
  cases agetLast (S "name") (surveyAssigns ss) with
  | some x => rfl
  | none =>
    rw [if_neg (by decide)]
    cases h1 : aget (S "name") st <;> simp [sig, h1, Spec.txt, defaultFormName_eq]

theorem txt_id : Spec.txt (aget (S "id_string") (jsonRoot2 st a ss)) = Spec.idString (Spec.overlay (sig st) a (surveyAssigns ss)) a := by
  rw [txt_jsonRoot2 hn a ss (S "id_string") rfl]
  unfold Spec.idString Spec.overlay
  cases agetLast (S "id_string") (surveyAssigns ss) with
  | some x => rfl
  | none =>
    rw [if_neg (by decide)]
    cases h1 : aget (S "id_string") st <;> simp [sig, h1, Spec.txt, defaultFormName_eq]

theorem surveyOf_root2 : surveyOf (jsonRoot2 st a ss) = specSurvey (Spec.overlay (sig st) a (surveyAssigns ss)) a := by
  unfold surveyOf specSurvey
  simp only [slotStr_eq, slotOpt_eq, slotDict, txt_title hn, txt_name hn, txt_id hn]
  simp (disch := decide) only [aget_root2_plain hn a ss]
  rfl

theorem surveyOf_root : surveyOf (jsonRoot st a) = specSurvey (sig st) a := by
  refine (surveyOf_root2 hn a []).trans ?_
  unfold specSurvey
  rw [title_overlay_nil]
  rfl

/-- with settings rows on the survey sheet the title is the name cell of the last title row; without one it is what
    the settings sheet gives (default: the settings sheet's id, not a survey-sheet id) -/
theorem survey_rows_title :
    (surveyOf (jsonRoot2 st a ss)).title = Spec.title (Spec.overlay (sig st) a (surveyAssigns ss)) a :=
  congrArg Survey.title (surveyOf_root2 hn a ss)

/-- likewise for the id (`form_id` / `set_form_id` rows) -/
theorem survey_rows_id :
    (surveyOf (jsonRoot2 st a ss)).idString = Spec.idString (Spec.overlay (sig st) a (surveyAssigns ss)) a :=
  congrArg Survey.idString (surveyOf_root2 hn a ss)

/-- likewise for `odk:prefix` (`prefix` rows) -/
theorem survey_rows_prefix :
    (surveyOf (jsonRoot2 st a ss)).pfx = Spec.opt (Spec.overlay (sig st) a (surveyAssigns ss) (S "prefix")) :=
  congrArg Survey.pfx (surveyOf_root2 hn a ss)

end Root

/-- the header as a function of the Survey object and the two settings the meta block reads -/
def hdr (sv : Survey) (omitId : Bool) (iname : Option Str) : Header :=
  { title := sv.title, rootName := sv.name, rootAttrs := rootAttrsOf sv, submission := submissionOf sv,
    bodyClass := sv.style, nsmap := nsmapOf sv, instanceID := !omitId, instanceName := iname }

theorem hdr_read (σ : Spec.Sigma) (a : Args) (L : Loc)
    (hK : ∀ k, L = .rootAttr k → LocalsDistinct (Spec.rootAttrKeys σ)) :
    (hdr (specSurvey σ a) (Spec.omitId σ) (Spec.instanceName σ)).read L = Spec.want σ a L := by
  cases L with
  | rootAttr k =>
    show aget k (rootList domSet _ _ _ _ _ _) = _
    rw [rootList_domSet_eq_aset _ _ _ _ _ _ (by rw [specSurvey_attrib]; exact hK k rfl)]
    exact rootAttrs_spec σ a k
  | hasSubmission =>
    show (if (submissionOf _).isSome then some [] else none) = _
    rw [submission_present]; rfl
  | subAttr k => exact subList_read σ k
  | ns q => exact nsmap_read σ q
  | instanceID =>
    show (if (!Spec.omitId σ) = true then some [] else none) = if Spec.omitId σ = true then none else some []
    cases Spec.omitId σ <;> rfl
  | _ => rfl

theorem headerOf2_read {st : Dict} {a : Args} (hn : (keys st).Nodup) (ss : List (Str × Option Str)) (L : Loc)
    (hK : ∀ k, L = .rootAttr k → LocalsDistinct (Spec.rootAttrKeys (sig st))) :
    (headerOf2 st ss a).read L = Spec.want (Spec.overlay (sig st) a (surveyAssigns ss)) a L := by
  -- the meta block and the `attribute::` columns are out of the survey sheet's reach
  have ho : omits st = Spec.omitId (Spec.overlay (sig st) a (surveyAssigns ss)) := by
    rw [Spec.omitId, overlay_other _ a ss (by decide)]; rfl
  have hi : instanceNameOf st = Spec.instanceName (Spec.overlay (sig st) a (surveyAssigns ss)) := by
    rw [Spec.instanceName, overlay_other _ a ss (by decide)]; rfl
  have hat : Spec.rootAttrKeys (Spec.overlay (sig st) a (surveyAssigns ss)) = Spec.rootAttrKeys (sig st) := by
    unfold Spec.rootAttrKeys Spec.attrs; rw [overlay_other _ a ss (by decide)]
  show (hdr (surveyOf (jsonRoot2 st a ss)) (omits st) (instanceNameOf st)).read L = _
  rw [surveyOf_root2 hn, ho, hi]
  exact hdr_read _ a L (hat ▸ hK)

theorem headerOf_read_all {st : Dict} {a : Args} (hn : (keys st).Nodup) (L : Loc)
    (hK : ∀ k, L = .rootAttr k → LocalsDistinct (Spec.rootAttrKeys (sig st))) :
    (headerOf st a).read L = Spec.want (sig st) a L := by
  show (hdr (surveyOf (jsonRoot st a)) (Spec.omitId (sig st)) (Spec.instanceName (sig st))).read L = _
  rw [surveyOf_root hn]
  exact hdr_read _ a L hK

theorem headerOf_read {st : Dict} {a : Args} (hn : (keys st).Nodup) (L : Loc) (hL : ∀ k, L ≠ .rootAttr k) :
    (headerOf st a).read L = Spec.want (sig st) a L :=
  headerOf_read_all hn L fun k e => absurd e (hL k)

theorem root_attrs2 {st : Dict} (hn : (keys st).Nodup) (a : Args) (ss : List (Str × Option Str)) (k : Str)
    (hK : LocalsDistinct (Spec.rootAttrKeys (sig st))) :
    aget k (rootAttrsOf (surveyOf (jsonRoot2 st a ss))) =
      Spec.rootAttr (Spec.overlay (sig st) a (surveyAssigns ss)) a k :=
  headerOf2_read hn ss (.rootAttr k) fun _ _ => hK

/-- The root-attribute clause of the table, for a plain ordered dict as attribute store (`rootAttrsWith aset`): every
    attribute of the primary instance root carries the table's value (own settings win over an `attribute::` column of
    the same name).  The real store, minidom's `setAttribute`, also evicts every attribute with the same *local* name
    (`jr:x` vs `x`): `root_attrs` is the guarded statement for it, `root_attrs_gap` the counterexample (known finding
    `C11-attribute-same-local-name-evicted` on the implementation). -/
theorem root_attrs_dict {st : Dict} (hn : (keys st).Nodup) (a : Args) (k : Str) :
    aget k (rootAttrsWith aset (surveyOf (jsonRoot st a))) = Spec.rootAttr (sig st) a k := by
  rw [surveyOf_root hn a]
  exact rootAttrs_spec _ a k

/-- the gap of `root_attrs_dict`, exhibited on the model: `attribute::jr:x` and `attribute::x`
    → the header has lost `jr:x`, although the table prescribes it -/
theorem root_attrs_gap :
    let st : Dict := [(S "attribute", .d [(S "jr:x", S "1"), (S "x", S "2")])]
    aget (S "jr:x") (headerOf st {}).rootAttrs = none ∧ Spec.rootAttr (sig st) {} (S "jr:x") = some (S "1") := by
  decide +kernel

/-- For the real attribute store: when no two attribute names prescribed for the primary instance root differ only by a
    prefix, every attribute minidom ends up with carries the table's value.  The guard is the complement of the open
    finding's input shape. -/
theorem root_attrs {st : Dict} (hn : (keys st).Nodup) (a : Args) (k : Str)
    (hK : LocalsDistinct (Spec.rootAttrKeys (sig st))) :
    aget k (rootAttrsOf (surveyOf (jsonRoot st a))) = Spec.rootAttr (sig st) a k :=
  headerOf_read_all hn (.rootAttr k) fun _ _ => hK

/-- whenever the settings are accepted, every header location other than the root attributes (title, root element name,
    `<submission>` presence and attributes, body class, every `xmlns…` declaration, instanceID presence, instanceName
    calculate) holds exactly the value the setting → location table `Spec.want` prescribes. -/
theorem settings_header {st : Dict} {a : Args} {h : Header} (hn : (keys st).Nodup)
    (hh : header st a = .ok h) (L : Loc) (hL : ∀ k, L ≠ .rootAttr k) :
    h.read L = Spec.want (sig st) a L := by
  rw [(header_ok hh).1]
  exact headerOf_read hn L hL

/-- a location's value is a function of its own settings only (spec level) -/
theorem want_congr {σ σ' : Spec.Sigma} (a : Args) (L : Loc)
    (h : ∀ k ∈ Spec.deps L, σ k.toList = σ' k.toList) : Spec.want σ a L = Spec.want σ' a L := by
  cases L <;> simp only [Spec.deps, List.mem_cons, List.mem_nil_iff, or_false, forall_eq_or_imp, forall_eq] at h
  case title => simp only [Spec.want, Spec.title, Spec.idString, S, h.1, h.2]
  case rootName => simp only [Spec.want, Spec.rootName, S, h]
  case rootAttr k =>
    obtain ⟨h1, h2, h3, h4, h5, h6⟩ := h
    simp only [Spec.want, Spec.rootAttr, Spec.idString, Spec.attrs, S, h1, h2, h3, h4, h5, h6]
  case hasSubmission =>
    obtain ⟨h1, h2, h3, h4⟩ := h
    simp only [Spec.want, Spec.hasSubmission, S, h1, h2, h3, h4]
    rfl
  case subAttr k =>
    obtain ⟨h1, h2, h3, h4⟩ := h
    simp only [Spec.want, Spec.subAttr, S, h1, h2, h3, h4]
  case bodyClass => simp only [Spec.want, S, h]
  case ns q => simp only [Spec.want, Spec.ns, S, h]
  case instanceID => simp only [Spec.want, Spec.omitId, S, h]; rfl
  case instanceName => simp only [Spec.want, Spec.instanceName, S, h]

/-- Noninterference: two accepted settings dicts that agree on the settings a header location is tied to (`Spec.deps`)
    give that location the same content, whatever all the other settings are. -/
theorem no_leak {st st' : Dict} {a : Args} {h h' : Header} (hn : (keys st).Nodup) (hn' : (keys st').Nodup)
    (hh : header st a = .ok h) (hh' : header st' a = .ok h') (L : Loc) (hL : ∀ k, L ≠ .rootAttr k)
    (hd : ∀ k ∈ Spec.deps L, aget k.toList st = aget k.toList st') : h.read L = h'.read L := by
  rw [settings_header hn hh L hL, settings_header hn' hh' L hL]
  exact want_congr a L hd

/-- noninterference for the root attributes, dict level (see `root_attrs_dict` for the gap) -/
theorem no_leak_root_attrs_dict {st st' : Dict} (a : Args) (hn : (keys st).Nodup) (hn' : (keys st').Nodup)
    (k : Str) (hd : ∀ s ∈ Spec.deps (.rootAttr k), aget s.toList st = aget s.toList st') :
    aget k (rootAttrsWith aset (surveyOf (jsonRoot st a))) = aget k (rootAttrsWith aset (surveyOf (jsonRoot st' a))) := by
  rw [root_attrs_dict hn, root_attrs_dict hn']
  exact want_congr a (.rootAttr k) hd

/-- under the local-name guard the statement of `settings_header` holds at every location, root attributes included -/
theorem settings_header_all {st : Dict} {a : Args} {h : Header} (hn : (keys st).Nodup)
    (hh : header st a = .ok h) (hK : LocalsDistinct (Spec.rootAttrKeys (sig st))) (L : Loc) :
    h.read L = Spec.want (sig st) a L := by
  rw [(header_ok hh).1]
  exact headerOf_read_all hn L fun _ _ => hK

/-- noninterference at every location, root attributes included, under the local-name guard -/
theorem no_leak_all {st st' : Dict} {a : Args} {h h' : Header} (hn : (keys st).Nodup) (hn' : (keys st').Nodup)
    (hh : header st a = .ok h) (hh' : header st' a = .ok h')
    (hK : LocalsDistinct (Spec.rootAttrKeys (sig st))) (hK' : LocalsDistinct (Spec.rootAttrKeys (sig st')))
    (L : Loc) (hd : ∀ k ∈ Spec.deps L, aget k.toList st = aget k.toList st') : h.read L = h'.read L := by
  rw [settings_header_all hn hh hK L, settings_header_all hn' hh' hK' L]
  exact want_congr a L hd

theorem want_args_congr (σ : Spec.Sigma) {a a' : Args} (L : Loc)
    (hf : L = .rootName → a.formName = a'.formName)
    (hb : L = .title ∨ L = .rootAttr (S "id") → a.fallback = a'.fallback) :
    Spec.want σ a L = Spec.want σ a' L := by
  cases L with
  | title => simp only [Spec.want, Spec.title, Spec.idString, hb (.inl rfl)]
  | rootName => simp only [Spec.want, Spec.rootName, hf rfl]
  | rootAttr k =>
    by_cases hk : k = S "id"
    · simp only [Spec.want, Spec.rootAttr, Spec.idString, hb (.inr (hk ▸ rfl))]
    · simp only [Spec.want, Spec.rootAttr, hk, if_false]
  | _ => rfl

/-- the `form_name` argument reaches the root element name and nothing else -/
theorem form_name_only_root_name (σ : Spec.Sigma) (a : Args) (x : Option Str) (L : Loc) (hL : L ≠ .rootName) :
    Spec.want σ { a with formName := x } L = Spec.want σ a L :=
  want_args_congr σ L (fun e => absurd e hL) fun _ => rfl

/-- the `default_language` argument reaches no header location -/
theorem default_language_nowhere (σ : Spec.Sigma) (a : Args) (x : Option Str) (L : Loc) :
    Spec.want σ { a with defaultLanguage := x } L = Spec.want σ a L :=
  want_args_congr σ L (fun _ => rfl) fun _ => rfl

/-- the file-name fallback reaches only the title and the `id` attribute (as defaults) -/
theorem fallback_only_title_and_id (σ : Spec.Sigma) (a : Args) (x : Option Str) (L : Loc)
    (h1 : L ≠ .title) (h2 : L ≠ .rootAttr (S "id")) :
    Spec.want σ { a with fallback := x } L = Spec.want σ a L :=
  want_args_congr σ L (fun _ => rfl) fun h => (h.elim h1 h2).elim

/-- the model raises one of the documented settings errors exactly when the table says so (encryption needs
    instanceID; id `None`; root name not an XML name); the remaining rejection, `xmlInvalid`, is `header_ok_xml`'s -/
theorem header_rejects {st : Dict} (hn : (keys st).Nodup) (a : Args) (e : Err) (hne : e ≠ .xmlInvalid) :
    header st a = .error (.err e) ↔ Spec.rejects (sig st) a = some e := by
  have ho : omits st = Spec.omitId (sig st) := rfl
  unfold header Spec.rejects
  rw [surveyOf_root hn a, ho]
  -- the slots of `specSurvey` are the table's own terms (by definition): both sides test the same three conditions
  show (if _ then _ else if (Spec.idString (sig st) a == S "None") = true then _ else
    if (!Pyxv.Rows.isXmlTag (Spec.rootName (sig st) a)) = true then _ else _) = _ ↔ _
  show _ ↔ (if (Spec.omitId (sig st) && truthy (aget (S "public_key") st)) = true then _ else _) = _
  by_cases h1 : (Spec.omitId (sig st) && truthy (aget (S "public_key") st)) = true
  · simp only [h1, if_true]
    constructor <;> intro h <;> cases h <;> rfl
  · simp only [h1]
    by_cases h2 : Spec.idString (sig st) a = S "None"
    · simp only [h2, beq_self_eq_true, if_true]
      constructor <;> intro h <;> cases h <;> rfl
    · have h2' : (Spec.idString (sig st) a == S "None") = false := by
        simpa using h2
      simp only [h2', Bool.false_eq_true, if_false, h2]
      cases Pyxv.Rows.isXmlTag (Spec.rootName (sig st) a) with
      | true =>
        simp only [Bool.not_true, Bool.false_eq_true, if_false]
        constructor
        · intro h
          split at h
          · cases h
          · split at h
            · cases h; exact absurd rfl hne
            · cases h
        · intro h; cases h
      | false =>
        simp only [Bool.not_false, if_true]
        constructor <;> intro h <;> cases h <;> rfl

/-! ## the dealiasing stage produces a dict (unique keys), so the theorems apply to `model` -/

theorem rowStep_nodup {ks : Keys} {out out' : Dict} {hv : Str × Str}
    (h : rowStep ks out hv = .ok out') (hn : (keys out).Nodup) : (keys out').Nodup := by
  rcases rowStep_ok h with ⟨_, _, _, rfl⟩ | ⟨_, _, _, _, rfl⟩ <;> exact nodup_aset hn

theorem processRow_nodup {ks : Keys} {row : List (Str × Str)} {out out' : Dict}
    (h : processRow ks row out = .ok out') (hn : (keys out).Nodup) : (keys out').Nodup := by
  induction row generalizing out with
  | nil => cases h; exact hn
  | cons hv r ih =>
    unfold processRow at h
    split at h
    · rename_i o ho; exact ih h (rowStep_nodup ho hn)
    · cases h

theorem dealias_ok {hdr : List Str} {row : List (Str × Str)} {st : Dict} (h : dealias hdr row = .ok st) :
    ∃ ks out, buildKeys ((popIdString hdr row).1.any fun h => isInfix (S "::") h) (popIdString hdr row).1 {} = .ok ks ∧
      processRow ks (popIdString hdr row).2 [] = .ok out ∧ st = cleanD out := by
  simp only [dealias] at h
  split at h
  · cases h
  next ks hks =>
    split at h
    · cases h
    next out ho =>
      split at h
      · cases h
      · cases h; exact ⟨ks, out, hks, ho, rfl⟩

theorem dealias_nodup {hdr : List Str} {row : List (Str × Str)} {st : Dict}
    (h : dealias hdr row = .ok st) : (keys st).Nodup := by
  obtain ⟨_, _, _, ho, rfl⟩ := dealias_ok h
  rw [keys_cleanD]
  exact processRow_nodup ho (by simp [keys])

/-! ## what each column of the settings sheet contributes -/

/-- the scalar setting a cell feeds: `(token, text)` when its header has one token -/
def scalarOf (ks : Keys) (hv : Str × Str) : Option (Str × Str) :=
  match aget hv.1 ks.hk with
  | some [t] => some (t, hv.2)
  | _ => none

/-- the custom root attribute a cell feeds: `(name, text)` for an `attribute::name` header -/
def attrOf (ks : Keys) (hv : Str × Str) : Option (Str × Str) :=
  match aget hv.1 ks.hk with
  | some [a, k] => if a == S "attribute" then some (k, hv.2) else none
  | _ => none

/-- `settings["attribute"][k]` -/
def attrGet (k : Str) (d : Dict) : Option Str :=
  match aget (S "attribute") d with
  | some (.d kv) => aget k kv
  | _ => none

theorem attribute_is_unmodelled_slot : isColumn (S "attribute") = true ∧ isModelled (S "attribute") = false := by
  simp only [isColumn, isModelled, modelled, Pyxv.Gen.surveyFields, List.any_cons, List.any_nil, toList_lit rfl]
  decide +kernel

theorem rowStep_scalar {ks : Keys} {out out' : Dict} {hv : Str × Str} (h : rowStep ks out hv = .ok out')
    {t : Str} (ht : t ≠ S "attribute") :
    aget t out' = match scalarOf ks hv with
      | some (t', v) => if t = t' then some (.s v) else aget t out
      | none => aget t out := by
  unfold scalarOf
  rcases rowStep_ok h with ⟨t', hk, _, rfl⟩ | ⟨k, kv, hk, _, rfl⟩
  · rw [hk, aget_aset]
  · rw [hk, aget_aset, if_neg ht]

theorem rowStep_attr {ks : Keys} {out out' : Dict} {hv : Str × Str} (h : rowStep ks out hv = .ok out')
    (k' : Str) :
    attrGet k' out' = match attrOf ks hv with
      | some (k, v) => if k' = k then some v else attrGet k' out
      | none => attrGet k' out := by
  unfold attrOf
  rcases rowStep_ok h with ⟨t', hk, hc, rfl⟩ | ⟨k, kv, hk, hkv, rfl⟩
  · have hne : ¬ S "attribute" = t' := by
      rintro rfl
      simp [attribute_is_unmodelled_slot.1, attribute_is_unmodelled_slot.2] at hc
    simp only [hk, attrGet, aget_aset, hne, if_false]
  · simp only [hk, attrGet, aget_aset, if_true, beq_self_eq_true, aget_append_single]
    rcases hkv with ⟨hnone, rfl⟩ | ⟨hsome, hknone⟩
    · simp [hnone, aget]
    · rw [hsome]
      by_cases hkk : k' = k
      · subst hkk; simp [hknone]
      · simp [hkk]; cases aget k' kv <;> rfl

/-- a reading `rd` of the settings dict that each cell either sets (as `F` says) or leaves alone ends up with the last
    cell that sets it -/
theorem processRow_last {γ : Type} {ks : Keys} (rd : Dict → Option γ) (F : Str × Str → Option (Str × Str))
    (g : Str → γ) (key : Str)
    (hstep : ∀ {out out' hv}, rowStep ks out hv = .ok out' →
      rd out' = match F hv with | some (k', v) => if key = k' then some (g v) else rd out | none => rd out)
    {row : List (Str × Str)} {out0 out : Dict} (h : processRow ks row out0 = .ok out) :
    rd out = match agetLast key (row.filterMap F) with | some v => some (g v) | none => rd out0 := by
  induction row generalizing out0 with
  | nil => cases h; simp [agetLast]
  | cons hv r ih =>
    unfold processRow at h
    split at h
    next out1 h1 =>
      rw [ih h, hstep h1]
      cases hs : F hv with
      | none => simp [hs]
      | some p =>
        obtain ⟨k', v⟩ := p
        simp only [List.filterMap_cons, hs, agetLast]
        cases agetLast key (List.filterMap F r) with
        | some x => rfl
        | none => by_cases hk : key = k' <;> simp [hk]
    · cases h

theorem processRow_scalar {ks : Keys} {row : List (Str × Str)} {out0 out : Dict}
    (h : processRow ks row out0 = .ok out) {t : Str} (ht : t ≠ S "attribute") :
    aget t out = match agetLast t (row.filterMap (scalarOf ks)) with
      | some v => some (.s v)
      | none => aget t out0 :=
  processRow_last (aget t) (scalarOf ks) .s t (fun h1 => rowStep_scalar h1 ht) h

theorem processRow_attr {ks : Keys} {row : List (Str × Str)} {out0 out : Dict}
    (h : processRow ks row out0 = .ok out) (k : Str) :
    attrGet k out = match agetLast k (row.filterMap (attrOf ks)) with
      | some v => some v
      | none => attrGet k out0 :=
  processRow_last (attrGet k) (attrOf ks) id k (fun h1 => rowStep_attr h1 k) h

/-- the header table: every header of the header row is read by `process_header` -/
theorem buildKeys_hk {useDC : Bool} {hdr : List Str} {ks0 ks : Keys} (h : buildKeys useDC hdr ks0 = .ok ks)
    (x : Str) :
    aget x ks.hk = match aget x ks0.hk with
      | some toks => some toks
      | none => if x ∈ hdr then some (processHeader useDC x).2 else none := by
  induction hdr generalizing ks0 with
  | nil => cases h; cases aget x ks.hk <;> rfl
  | cons h0 r ih =>
    unfold buildKeys at h
    split at h
    · rename_i ks1 h1
      rw [ih h, headerStep_hk h1]
      by_cases hx : x = h0
      · subst hx
        cases hk : aget x ks0.hk <;> simp [hk, aget_aset]
      · cases hp : aget h0 ks0.hk <;> simp [aget_aset, hx]
    · cases h

theorem attrGet_cleanD (k : Str) (d : Dict) : attrGet k (cleanD d) = attrGet k d := by
  unfold attrGet
  rw [aget_cleanD]
  cases aget (S "attribute") d with
  | none => rfl
  | some x => cases x <;> rfl

/-- What every column of an accepted settings sheet contributes: (1) each header of the header row is read by
    `process_header`; (2) a scalar setting `t` holds the smart-quote-cleaned text of the *last* cell of row 0 whose header
    reads as `t`; (3) the custom root attribute `k` holds the raw text of the `attribute::k` cell; each is absent when
    there is no such cell.  Nothing else enters the settings dict. -/
theorem dealias_columns {hdr : List Str} {row : List (Str × Str)} {st : Dict} (h : dealias hdr row = .ok st) :
    ∃ ks : Keys,
      (∀ x, aget x ks.hk =
        if x ∈ (popIdString hdr row).1 then
          some (processHeader ((popIdString hdr row).1.any fun h => isInfix (S "::") h) x).2 else none) ∧
      (∀ t, t ≠ S "attribute" →
        aget t st = (agetLast t ((popIdString hdr row).2.filterMap (scalarOf ks))).map fun v => .s (cleanVal v)) ∧
      (∀ k, attrGet k st = agetLast k ((popIdString hdr row).2.filterMap (attrOf ks))) := by
  obtain ⟨ks, out, hks, hout, rfl⟩ := dealias_ok h
  refine ⟨ks, ?_, ?_, ?_⟩
  · intro x
    have := buildKeys_hk hks x
    simpa [aget] using this
  · intro t ht
    rw [aget_cleanD, processRow_scalar hout ht]
    cases agetLast t (List.filterMap (scalarOf ks) (popIdString hdr row).2) <;> simp [cleanSV, aget]
  · intro k
    rw [attrGet_cleanD, processRow_attr hout k]
    cases agetLast k (List.filterMap (attrOf ks) (popIdString hdr row).2) <;> simp [attrGet, aget]

theorem model2_ok {sheet : Option (List Str × List (Str × Str))} {ss : List (Str × Option Str)} {a : Args} {h : Header}
    (hm : model2 sheet ss a = .ok h) :
    ∃ st, (match sheet with
           | some (hdr, row) => dealias hdr row = .ok st
           | none => st = []) ∧ (keys st).Nodup ∧ header2 st ss a = .ok h := by
  match sheet with
  | none => exact ⟨[], rfl, by simp [keys], hm⟩
  | some (hdr, row) =>
    change (match dealias hdr row with | .ok st => header2 st ss a | .error e => .error e) = .ok h at hm
    split at hm
    · rename_i st hst
      exact ⟨st, hst, dealias_nodup hst, hm⟩
    · cases hm

/-- the whole modelled path (header row + row 0 of the settings sheet + arguments): an accepted form's header is, outside
    the root attributes, what the table prescribes for the dealiased settings. -/
theorem model_header {hdr : List Str} {row : List (Str × Str)} {a : Args} {h : Header}
    (hm : model (some (hdr, row)) a = .ok h) :
    ∃ st, dealias hdr row = .ok st ∧ (keys st).Nodup ∧
      ∀ L, (∀ k, L ≠ .rootAttr k) → h.read L = Spec.want (sig st) a L := by
  obtain ⟨st, hst, hn, hh⟩ := model2_ok (sheet := some (hdr, row)) (ss := []) hm
  exact ⟨st, hst, hn, settings_header hn hh⟩

theorem header2_nil (st : Dict) (a : Args) : header2 st [] a = header st a := rfl

/-- with settings rows on the survey sheet: every location of an accepted form holds what the table prescribes for the
    settings sheet overlaid with those rows (`Spec.overlay`: last row per setting wins; title default from the settings
    sheet's id), under the local-name guard. -/
theorem settings_header2 {st : Dict} {ss : List (Str × Option Str)} {a : Args} {h : Header}
    (hn : (keys st).Nodup) (hh : header2 st ss a = .ok h)
    (hK : LocalsDistinct (Spec.rootAttrKeys (sig st))) (L : Loc) :
    h.read L = Spec.want (Spec.overlay (sig st) a (surveyAssigns ss)) a L := by
  rw [(header2_ok hh).1]
  exact headerOf2_read hn ss L fun _ _ => hK

/-- the whole modelled path with survey-sheet settings rows -/
theorem model2_header {hdr : List Str} {row : List (Str × Str)} {ss : List (Str × Option Str)} {a : Args}
    {h : Header} (hm : model2 (some (hdr, row)) ss a = .ok h) :
    ∃ st, dealias hdr row = .ok st ∧ (keys st).Nodup ∧
      (LocalsDistinct (Spec.rootAttrKeys (sig st)) →
        ∀ L, h.read L = Spec.want (Spec.overlay (sig st) a (surveyAssigns ss)) a L) := by
  obtain ⟨st, hst, hn, hh⟩ := model2_ok (sheet := some (hdr, row)) hm
  exact ⟨st, hst, hn, settings_header2 hn hh⟩

theorem defaultLanguageValue_eq : Pyxv.Gen.defaultLanguageValue.toList = S "default" := by decide

/-- the Survey's default language is the settings sheet's `default_language`, else the `default_language` argument,
    else `default` — and depends on nothing else -/
theorem default_language_slot {st : Dict} (hn : (keys st).Nodup) (a : Args) :
    defaultLanguageOf st a = Spec.defaultLanguage (sig st) a := by
  rw [defaultLanguageOf, slotStr_eq, show jsonRoot st a = jsonRoot2 st a [] from rfl,
    txt_jsonRoot2 hn a [] (S "default_language") rfl, Spec.defaultLanguage]
  cases h : aget (S "default_language") st <;> simp [sig, h, Spec.txt, defaultLanguageValue_eq, surveyAssigns, agetLast]

/-! ## facts about the tables regenerated from the source (re-checked on every run) -/

/-- every settings alias resolves to a slot of `Survey` (so an aliased column lands in a setting) -/
theorem alias_targets_are_slots :
    (Pyxv.Gen.aliasSettingsHeader.all fun p => Pyxv.Gen.surveyFields.contains p.2) = true := by decide

/-- every documented spelling (and case/space variants) of the settings the property names is read as that setting by
    `process_header` -/
theorem documented_spellings :
    ([("form_title", "title"), ("set_form_title", "title"), ("title", "title"), ("Form Title", "title"),
      ("form_id", "id_string"), ("set_form_id", "id_string"), ("id_string", "id_string"), ("FORM_ID", "id_string"),
      ("version", "version"), (" Version ", "version"), ("name", "name"), ("instance_name", "instance_name"),
      ("submission_url", "submission_url"), ("public_key", "public_key"), ("auto_send", "auto_send"),
      ("auto_delete", "auto_delete"), ("style", "style"), ("namespaces", "namespaces"),
      ("omit_instanceID", "omit_instanceID"), ("instance_xmlns", "instance_xmlns"), ("prefix", "prefix"),
      ("delimiter", "delimiter")].all fun p =>
        processHeader false p.1.toList == (p.2.toList, [p.2.toList]) &&
        processHeader true p.1.toList == (p.2.toList, [p.2.toList])) = true := by
  simp only [List.all_cons, List.all_nil, toList_lit rfl]
  decide +kernel

/-- `attribute::<name>` columns group under the `attribute` slot, the name kept verbatim -/
theorem attribute_headers :
    processHeader true (S "attribute::jr:x") = (S "attribute", [S "attribute", S "jr:x"]) ∧
    processHeader false (S "attribute::Abc") = (S "attribute", [S "attribute", S "Abc"]) ∧
    processHeader false (S "attribute:abc") = (S "attribute", [S "attribute", S "abc"]) := by
  simp only [processHeader, isColumn, aliasOf, Pyxv.Gen.surveyFields, Pyxv.Gen.aliasSettingsHeader, List.any_cons,
    List.any_nil, List.map_cons, List.map_nil, toList_lit rfl]
  decide +kernel

/-- the modelled settings are slots of `Survey` that are not themselves alias keys (except `prefix`,
    which aliases to itself) -/
theorem settings_are_slots :
    (modelled.all fun s => isColumn s.toList && ((aliasOf s.toList).isNone || s == "prefix")) = true := by
  simp only [modelled, List.all_cons, List.all_nil, isColumn, aliasOf, Pyxv.Gen.surveyFields, Pyxv.Gen.aliasSettingsHeader,
    List.any_cons, List.any_nil, List.map_cons, List.map_nil, toList_lit rfl]
  decide +kernel

/-- the documented defaults: form name `data`; the seven standard namespace declarations -/
theorem documented_defaults :
    Pyxv.Gen.defaultFormName = "data" ∧
    Pyxv.Gen.nsmap.map (·.1) = ["xmlns", "xmlns:h", "xmlns:ev", "xmlns:xsd", "xmlns:jr", "xmlns:orx", "xmlns:odk"] := by
  decide

/-- the yes-spellings that remove instanceID, the no-spellings that keep it -/
theorem omit_spellings :
    (["yes", "Yes", "YES", "true", "True", "TRUE"].all fun s => Pyxv.Rows.yesNoTrue s.toList) = true ∧
    (["no", "No", "NO", "false", "False", "FALSE", "maybe"].all fun s => !Pyxv.Rows.yesNoTrue s.toList) = true := by
  decide +kernel

/-- the `<submission>` attribute names have pairwise distinct local names (so minidom's
    `setAttribute` cannot evict one of them) -/
theorem submission_local_names_distinct : (Spec.subAttrKeys.map localName).Nodup := by decide +kernel

/- for the `example`s below only: their statements compare results of `header` / `dealias` / `model` -/
deriving instance DecidableEq for Except

/-- "accepted, and the result satisfies `P`" is decided by running the computation once -/
@[reducible] def okAndDecidable {ε α : Type} (x : Except ε α) (P : α → Prop) [DecidablePred P] :
    Decidable (∃ h, x = .ok h ∧ P h) :=
  match x with
  | .ok h => decidable_of_iff (P h) ⟨fun p => ⟨h, rfl, p⟩, fun ⟨_, e, p⟩ => by cases e; exact p⟩
  | .error _ => isFalse fun ⟨_, e, _⟩ => by cases e

@[reducible] def okDecidable {ε α : Type} (x : Except ε α) : Decidable (∃ h, x = .ok h) :=
  match x with
  | .ok h => isTrue ⟨h, rfl⟩
  | .error _ => isFalse fun ⟨_, e⟩ => by cases e

attribute [local instance] okAndDecidable okDecidable

/-- non-vacuity: a `form_id` row on the survey sheet changes the id but not the title default -/
example :
    let st : Dict := [(S "version", .s (S "3"))]
    let ss : List (Str × Option Str) := [(S "form_id", some (S "SID")), (S "text", some (S "q")), (S "form_title", none)]
    ∃ h, header2 st ss { fallback := some (S "file") } = .ok h ∧ h.read (.rootAttr (S "id")) = some (S "SID") ∧
      h.read .title = some (S "None") ∧
      (∃ h', header2 st [(S "form_id", some (S "SID"))] { fallback := some (S "file") } = .ok h' ∧
        h'.read .title = some (S "file")) := by
  simp only [header2, headerOf2, Header.xmlOk, nsmapOf, nsmapOfNs.eq_def, nsExtra, nsmapBase,
    Pyxv.Gen.nsmap, List.map_cons, List.map_nil, toList_lit rfl]
  decide +kernel

/-- a settings sheet with aliases, an attribute column and a namespace, accepted by the model -/
def exHdr : List Str := [S "form_title", S "form_id", S "version", S "attribute::foo:x", S "namespaces", S "style",
  S "submission_url", S "instance_name", S "name"]
def exRow : List (Str × Str) := [(S "form_title", S "My “T”"), (S "form_id", S "f1"), (S "version", S "3"),
  (S "attribute::foo:x", S "1"), (S "namespaces", S "foo=\"http://foo\" jr=http://no"), (S "style", S "pages"),
  (S "submission_url", S "http://x"), (S "instance_name", S "yes"), (S "name", S "root1")]

example : ∃ h, model (some (exHdr, exRow)) { fallback := some (S "file") } = .ok h ∧
    h.read .title = some (S "My \"T\"") ∧ h.read .rootName = some (S "root1") ∧
    h.read (.rootAttr (S "id")) = some (S "f1") ∧ h.read (.rootAttr (S "foo:x")) = some (S "1") ∧
    h.read (.subAttr (S "method")) = some (S "post") ∧ h.read .bodyClass = some (S "pages") ∧
    h.read (.ns (S "xmlns:foo")) = some (S "http://foo") ∧
    h.read (.ns (S "xmlns:jr")) = some (S "http://openrosa.org/javarosa") ∧
    h.read .instanceID = some [] ∧ h.read .instanceName = some (S "true()") := by
  decide +kernel

/-- defaults: no settings sheet, file-name fallback -/
example : ∃ h, model none { fallback := some (S "file"), formName := some (S "fn") } = .ok h ∧
    h.read .title = some (S "file") ∧ h.read .rootName = some (S "fn") ∧
    h.read (.rootAttr (S "id")) = some (S "file") ∧ h.read .hasSubmission = none := by
  simp only [model, header, headerOf, Header.xmlOk, nsmapOf, nsmapOfNs.eq_def, nsExtra, nsmapBase,
    Pyxv.Gen.nsmap, List.map_cons, List.map_nil, toList_lit rfl]
  decide +kernel

/-- the hypotheses of `no_leak` are satisfiable with different dicts: changing `style` and `version`
    leaves the title location alone -/
example :
    let st : Dict := [(S "title", .s (S "T")), (S "style", .s (S "pages"))]
    let st' : Dict := [(S "version", .s (S "9")), (S "title", .s (S "T"))]
    (keys st).Nodup ∧ (keys st').Nodup ∧ (∃ h, header st {} = .ok h) ∧ (∃ h, header st' {} = .ok h) ∧
    (∀ k ∈ Spec.deps .title, aget k.toList st = aget k.toList st') := by
  simp only [header, headerOf, Header.xmlOk, nsmapOf, nsmapOfNs.eq_def, nsExtra, nsmapBase,
    Pyxv.Gen.nsmap, List.map_cons, List.map_nil, toList_lit rfl]
  decide +kernel

/-- the rejections of `header_rejects` occur -/
example : header [(S "omit_instanceID", .s (S "yes")), (S "public_key", .s (S "k"))] {} = .error (.err .omitWithKey) ∧
    header [(S "id_string", .s (S "None"))] {} = .error (.err .emptyId) ∧
    header [(S "name", .s (S "1a"))] {} = .error (.err (.badName (S "1a"))) := by
  simp only [header, headerOf, Header.xmlOk, nsmapOf, nsmapOfNs.eq_def, nsExtra, nsmapBase,
    Pyxv.Gen.nsmap, List.map_cons, List.map_nil, toList_lit rfl]
  decide +kernel

/-- the guard of `root_attrs` / `settings_header_all` is satisfiable: prefixed and plain custom attributes next to all
    five own attributes -/
example :
    let st : Dict := [(S "attribute", .d [(S "jr:x", S "1"), (S "y", S "2"), (S "odk:z", S "3")]),
      (S "id_string", .s (S "f")), (S "version", .s (S "1")), (S "prefix", .s (S "p")),
      (S "delimiter", .s (S "d")), (S "instance_xmlns", .s (S "urn:x"))]
    (keys st).Nodup ∧ LocalsDistinct (Spec.rootAttrKeys (sig st)) ∧ (∃ h, header st {} = .ok h) := by
  unfold LocalsDistinct
  simp only [header, headerOf, Header.xmlOk, nsmapOf, nsmapOfNs.eq_def, nsExtra, nsmapBase,
    Pyxv.Gen.nsmap, List.map_cons, List.map_nil, toList_lit rfl]
  decide +kernel

/-- the XML validation pass rejects, and a `${ref}` in an `attribute::` value is header text like any
    other (the lexer-dependent cases — `badRef`, `${ref}` in top-level settings — are exercised by the
    correspondence run, not here) -/
example :
    header [(S "attribute", .d [(S "1x", S "v")])] {} = .error (.err .xmlInvalid) ∧
    header [(S "attribute", .d [(S "foo:x", S "v")])] {} = .error (.err .xmlInvalid) ∧
    header [(S "title", .s [Char.ofNat 1])] {} = .error (.err .xmlInvalid) ∧
    (∃ h, model (some ([S "version", S "attribute::k"], [(S "version", S "7"), (S "attribute::k", S "${q1}")])) {}
        = .ok h ∧ h.read (.rootAttr (S "version")) = some (S "7") ∧
          h.read (.rootAttr (S "k")) = some (S "${q1}")) := by
  decide +kernel

/-- a namespace declared on the primary instance root itself (`attribute::xmlns:p2`) is in scope for the
    root's name and attributes; a root name with the prefix `xmlns` or an undeclared prefix is rejected -/
example :
    (∃ h, header [(S "attribute", .d [(S "xmlns:p2", S "urn:p2"), (S "p2:k", S "v")]), (S "name", .s (S "p2:r"))] {}
        = .ok h ∧ h.read .rootName = some (S "p2:r") ∧ h.read (.rootAttr (S "p2:k")) = some (S "v")) ∧
    header [(S "name", .s (S "xmlns:r"))] {} = .error (.err .xmlInvalid) ∧
    header [(S "name", .s (S "und:r"))] {} = .error (.err .xmlInvalid) ∧
    (∃ h, header [(S "name", .s (S "jr:r"))] {} = .ok h) := by
  simp only [header, headerOf, Header.xmlOk, nsmapOf, nsmapOfNs.eq_def, nsExtra, nsmapBase,
    Pyxv.Gen.nsmap, List.map_cons, List.map_nil, toList_lit rfl]
  decide +kernel

/-- the duplicate-spelling rule of `dealias_and_group_headers` is order dependent, as in the code -/
example : (dealias [S "title", S "form_title"] [(S "title", S "a"), (S "form_title", S "b")]) =
      .error (.err (.dupHeader (S "title") (S "form_title"))) ∧
    (dealias [S "form_title", S "title"] [(S "form_title", S "b"), (S "title", S "a")]) =
      .ok [(S "title", .s (S "a"))] := by
  decide +kernel

end Pyxv.C11
