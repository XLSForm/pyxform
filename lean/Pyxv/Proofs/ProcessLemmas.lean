import Pyxv.Model.Process
import Pyxv.Proofs.DictLemmas
import Pyxv.Proofs.Replay
/-! The process model (C14): what one call through an `lru_cache` can do (`call_cases`) and the invariant it keeps (`call_rel`),
for the plain cache and for the cache keyed on object addresses (`Inv`); the fields `xml()` mutates; `sorted` of a set; the shared
scanner register (`Thread.lens`); replaying dict writes (`asetAll_idem`). -/
namespace Pyxv.Process

section lru
variable {κ ν : Type} [DecidableEq κ]

theorem lookupK_eq (k : κ) : ∀ l : List (κ × ν), lookupK k l = AList.get k l :=
  AList.get_of_eqns rfl fun _ _ _ => rfl

theorem lookupK_mem {k : κ} {v : ν} {l : List (κ × ν)} (h : lookupK k l = some v) : (k, v) ∈ l :=
  AList.mem_of_get (lookupK_eq k l ▸ h)

theorem lookupK_none {k : κ} {l : List (κ × ν)} (h : lookupK k l = none) : k ∉ l.map (·.1) :=
  AList.get_eq_none_iff.1 (lookupK_eq k l ▸ h)

theorem lookupK_isSome_of_mem {k : κ} : ∀ {l : List (κ × ν)}, k ∈ l.map (·.1) → (lookupK k l).isSome :=
  fun {l} h => lookupK_eq k l ▸ AList.get_isSome_iff.2 h

theorem mem_eraseK {k : κ} {e : κ × ν} {l : List (κ × ν)} (h : e ∈ eraseK k l) : e ∈ l ∧ e.1 ≠ k := by
  simpa [eraseK] using h

/-- one call: a hit moves the entry to the front; a miss returns `f k` and leaves the entries (capacity 0), or puts
    `(k, f k)` in front (below capacity), dropping the last entry when full -/
theorem call_cases (f : κ → ν) (c : Lru κ ν) (k : κ) :
    (∃ v, lookupK k c.entries = some v ∧ (c.call f k).2.1 = v ∧
      (c.call f k).1 = { c with entries := (k, v) :: eraseK k c.entries }) ∨
    (lookupK k c.entries = none ∧ (c.call f k).2.1 = f k ∧ (c.call f k).1.cap = c.cap ∧
      ((c.call f k).1.entries = c.entries ∨
        ((c.call f k).1.entries = (k, f k) :: c.entries ∧ ∀ n, c.cap = some n → c.entries.length < n) ∨
        ((c.call f k).1.entries = (k, f k) :: c.entries.dropLast ∧ c.cap ≠ some 0))) := by
  unfold Lru.call
  cases h : lookupK k c.entries with
  | some v => exact .inl ⟨v, rfl, rfl, rfl⟩
  | none =>
    refine .inr ⟨rfl, ?_⟩
    simp only
    split
    · next hcap => exact ⟨rfl, rfl, .inr (.inl ⟨rfl, fun n hn => by rw [hcap] at hn; cases hn⟩)⟩
    · exact ⟨rfl, rfl, .inl rfl⟩
    · next m hcap =>
      split
      · next hlt => exact ⟨rfl, rfl, .inr (.inl ⟨rfl, fun n hn => by rw [hcap] at hn; cases hn; exact hlt⟩)⟩
      · exact ⟨rfl, rfl, .inr (.inr ⟨rfl, fun h0 => by rw [hcap] at h0; cases h0⟩)⟩

theorem call_cap (f : κ → ν) (c : Lru κ ν) (k : κ) : (c.call f k).1.cap = c.cap := by
  rcases call_cases f c k with ⟨v, _, _, e⟩ | ⟨_, _, hc, _⟩
  · rw [e]
  · exact hc

theorem call_entries (f : κ → ν) (c : Lru κ ν) (k : κ) {e : κ × ν}
    (he : e ∈ (c.call f k).1.entries) : e ∈ c.entries ∨ e = (k, f k) := by
  rcases call_cases f c k with ⟨v, h, _, e1⟩ | ⟨_, _, _, e1 | ⟨e1, _⟩ | ⟨e1, _⟩⟩ <;> rw [e1] at he
  · rcases List.mem_cons.mp he with rfl | he
    · exact .inl (lookupK_mem h)
    · exact .inl (mem_eraseK he).1
  · exact .inl he
  · exact (List.mem_cons.mp he).symm
  · exact (List.mem_cons.mp he).symm.imp_left fun h => (List.dropLast_sublist _).subset h

theorem call_rel (R : κ → ν → Prop) (f : κ → ν) (c : Lru κ ν) (k : κ)
    (hc : ∀ e ∈ c.entries, R e.1 e.2) (hk : R k (f k)) :
    R k (c.call f k).2.1 ∧ ∀ e ∈ (c.call f k).1.entries, R e.1 e.2 := by
  refine ⟨?_, fun e he => (call_entries f c k he).elim (hc e) fun h => h ▸ hk⟩
  rcases call_cases f c k with ⟨v, hl, ho, _⟩ | ⟨_, ho, _⟩ <;> rw [ho]
  · exact hc _ (lookupK_mem hl)
  · exact hk

theorem run_outputs {f : κ → ν} : ∀ (ops : List κ) {c : Lru κ ν}, Coherent f c →
    (runCached f c ops).2.map (·.1) = ops.map f ∧ Coherent f (runCached f c ops).1
  | [], _, h => ⟨rfl, h⟩
  | k :: ks, c, h => by
    obtain ⟨ho, hc⟩ := call_rel (fun k v => v = f k) f c k h rfl
    have ih := run_outputs ks hc
    simp only [runCached, List.map_cons, ho]
    exact ⟨by rw [ih.1], ih.2⟩

def KeysNodup (c : Lru κ ν) : Prop := (c.entries.map (·.1)).Nodup

theorem eraseK_keys (k : κ) (l : List (κ × ν)) : k ∉ (eraseK k l).map (·.1) := by
  intro h
  rcases List.mem_map.1 h with ⟨e, he, hk⟩
  exact (mem_eraseK he).2 hk

theorem call_nodup (f : κ → ν) {c : Lru κ ν} (h : KeysNodup c) (k : κ) : KeysNodup (c.call f k).1 := by
  unfold KeysNodup at *
  rcases call_cases f c k with ⟨v, _, _, e1⟩ | ⟨hn, _, _, e1 | ⟨e1, _⟩ | ⟨e1, _⟩⟩ <;> rw [e1]
  · exact List.nodup_cons.mpr ⟨eraseK_keys k _, h.sublist (List.filter_sublist.map _)⟩
  · exact h
  · exact List.nodup_cons.mpr ⟨lookupK_none hn, h⟩
  · have sub := (List.dropLast_sublist c.entries).map (·.1)
    exact List.nodup_cons.mpr ⟨fun hm => lookupK_none hn (sub.subset hm), h.sublist sub⟩

theorem call_size (f : κ → ν) {c : Lru κ ν} {n : Nat} (hc : c.cap = some n) (h : c.entries.length ≤ n)
    (k : κ) : (c.call f k).1.entries.length ≤ n := by
  rcases call_cases f c k with ⟨v, hl, _, e1⟩ | ⟨_, _, _, e1 | ⟨e1, hlt⟩ | ⟨e1, h0⟩⟩ <;> rw [e1]
  · -- erasing a present key removes at least one entry
    have : (eraseK k c.entries).length < c.entries.length :=
      List.length_filter_lt_length_iff_exists.2 ⟨(k, v), lookupK_mem hl, by simp⟩
    simp only [List.length_cons]; omega
  · exact h
  · exact hlt n hc
  · have : n ≠ 0 := fun e => h0 (e ▸ hc)
    simp only [List.length_cons, List.length_dropLast]; omega

end lru

section world
variable {τ ξ ν : Type} [DecidableEq ξ]

/-- the invariant of the identity-keyed cache: addresses of live objects are distinct, live objects
are the ones the caller's bindings mean, and every cache entry belongs to a live object and holds
`g` of *that* object -/
structure Inv (g : τ → ξ → ν) (w : World τ ξ ν) (env : List (ObjId × τ)) : Prop where
  nodup : (w.heap.map (·.1)).Nodup
  bound : ∀ e ∈ w.heap, lookupK e.1 env = some e.2
  valid : ∀ e ∈ w.cache.entries, ∃ t, (e.1.1, t) ∈ w.heap ∧ e.2 = g t e.1.2

omit [DecidableEq ξ] in
theorem gc_inv {g : τ → ξ → ν} {w : World τ ξ ν} {env} (h : Inv g w env) : Inv g (gc true w) env where
  nodup := List.Nodup.sublist (List.Sublist.map _ List.filter_sublist) h.nodup
  bound := fun e he => h.bound e (List.mem_filter.1 he).1
  valid := fun e he => by
    obtain ⟨t, ht, hv⟩ := h.valid e he
    refine ⟨t, ?_, hv⟩
    simp only [gc, List.mem_filter, Bool.true_and, Bool.or_eq_true, decide_eq_true_eq]
    exact ⟨ht, Or.inr (List.mem_map.2 ⟨e, he, rfl⟩)⟩

theorem step_inv {g : τ → ξ → ν} {w w' : World τ ξ ν} {env} (h : Inv g w env) {op : Op τ ξ} {out : Option ν}
    (hs : w.step true g op = some (w', out)) :
    (match op with
      | .alloc id t => Inv g w' ((id, t) :: env) ∧ out = none
      | .drop _ => Inv g w' env ∧ out = none
      | .call id x => Inv g w' env ∧ ∃ t, lookupK id env = some t ∧ out = some (g t x)) := by
  cases op with
  | alloc id t =>
    simp only [World.step] at hs
    split at hs
    · cases hs
    · rename_i hfresh
      simp only [Option.some.injEq, Prod.mk.injEq] at hs
      refine ⟨?_, hs.2.symm⟩
      rw [← hs.1]
      apply gc_inv
      refine ⟨?_, ?_, ?_⟩
      · simp only [List.map_cons, List.nodup_cons]; exact ⟨hfresh, h.nodup⟩
      · intro e he
        simp only [List.mem_cons] at he
        rcases he with he | he
        · subst he; simp [lookupK]
        · have hne : e.1 ≠ id := fun heq => hfresh (List.mem_map.2 ⟨e, he, heq⟩)
          simp only [lookupK, hne, if_false]
          exact h.bound e he
      · intro e he
        obtain ⟨t', ht', hv⟩ := h.valid e he
        exact ⟨t', List.mem_cons_of_mem _ ht', hv⟩
  | drop id =>
    simp only [World.step, Option.some.injEq, Prod.mk.injEq] at hs
    refine ⟨?_, hs.2.symm⟩
    rw [← hs.1]
    exact gc_inv ⟨h.nodup, h.bound, h.valid⟩
  | call id x =>
    simp only [World.step] at hs
    split at hs
    · split at hs
      · cases hs
      · rename_i t ht
        simp only [Option.some.injEq, Prod.mk.injEq] at hs
        have hmem : (id, t) ∈ w.heap := lookupK_mem ht
        -- every entry, and the value returned, is `g` of a live object at the key's address
        obtain ⟨⟨t', ht', ho⟩, hv⟩ := call_rel (fun key v => ∃ t, (key.1, t) ∈ w.heap ∧ v = g t key.2)
          (fun key => g t key.2) w.cache (id, x) h.valid ⟨t, hmem, rfl⟩
        cases AList.value_unique h.nodup ht' hmem
        exact ⟨hs.1 ▸ gc_inv ⟨h.nodup, h.bound, hv⟩, t, h.bound _ hmem, by rw [← hs.2, ho]⟩
    · cases hs

theorem run_spec {g : τ → ξ → ν} : ∀ (ops : List (Op τ ξ)) {w w' : World τ ξ ν} {env} {outs : List ν},
    Inv g w env → World.run true g w ops = some (w', outs) → outs.map some = specOutputs g env ops
  | [], _, _, _, _, _, hr => by
    simp only [World.run, Option.some.injEq, Prod.mk.injEq] at hr
    rw [← hr.2]; rfl
  | op :: ops, w, w', env, outs, h, hr => by
    simp only [World.run] at hr
    split at hr
    · cases hr
    · rename_i w1 out hs
      split at hr
      · cases hr
      · rename_i w2 outs2 hr2
        simp only [Option.some.injEq, Prod.mk.injEq] at hr
        have hstep := step_inv h hs
        cases op with
        | call id x =>
          obtain ⟨hi, t, ht, ho⟩ := hstep
          subst ho
          rw [← hr.2]
          simp only [List.singleton_append, List.map_cons, specOutputs, ht, Option.map_some]
          rw [run_spec ops hi hr2]
        | _ =>
          -- `alloc` and `drop` give no output
          obtain ⟨hi, ho⟩ := hstep
          subst ho
          rw [← hr.2]
          simpa [specOutputs] using run_spec ops hi hr2

omit [DecidableEq ξ] in
theorem inv_empty (g : τ → ξ → ν) (cap : Option Nat) : Inv g (World.empty cap : World τ ξ ν) [] :=
  ⟨by simp [World.empty], by simp [World.empty], by simp [World.empty, emptyLru]⟩

end world

section dict
variable {κ ν : Type} [DecidableEq κ]

/-- the equations of `AList.set`, with the key test written `k' = k` and the hit storing `k` where `AList.set` keeps `k'` -/
theorem aset_eq (k : κ) (v : ν) : ∀ d : List (κ × ν), aset k v d = AList.set k v d :=
  AList.set_of_eqns rfl fun _ _ _ => ite_congr (propext eq_comm) (fun h => h ▸ rfl) fun _ => rfl

theorem asetAll_eq (d ws : List (κ × ν)) : asetAll d ws = AList.update d ws := by
  simp only [asetAll, AList.update, aset_eq]

theorem aset_overwrite (k : κ) (u v : ν) (d : List (κ × ν)) : aset k v (aset k u d) = aset k v d := by
  simp only [aset_eq, AList.set_set]

theorem aset_idem (k : κ) (v : ν) (d : List (κ × ν)) : aset k v (aset k v d) = aset k v d :=
  aset_overwrite k v v d

theorem asetAll_append (d : List (κ × ν)) (ps qs : List (κ × ν)) :
    asetAll d (ps ++ qs) = asetAll (asetAll d ps) qs := by
  simp [asetAll, List.foldl_append]

theorem aset_keys_of_mem {k : κ} {v : ν} : ∀ {d : List (κ × ν)}, k ∈ d.map (·.1) → (aset k v d).map (·.1) = d.map (·.1) :=
  fun {d} h => aset_eq k v d ▸ AList.keys_set_of_mem v h

theorem map_aset (g : ν → ν) (k : κ) (v : ν) (d : List (κ × ν)) :
    (aset k v d).map (fun kv => (kv.1, g kv.2)) = aset k (g v) (d.map fun kv => (kv.1, g kv.2)) := by
  simp only [aset_eq]; exact AList.map_upd g k _ _ (fun _ => rfl) d

theorem keys_sub_aset (k : κ) (v : ν) {x : κ} {d : List (κ × ν)} (hx : x ∈ d.map (·.1)) : x ∈ (aset k v d).map (·.1) :=
  aset_eq k v d ▸ AList.mem_keys_set.2 (.inl hx)

theorem written_keys_asetAll (ws d : List (κ × ν)) (w : κ × ν) (h : w ∈ ws) : w.1 ∈ (asetAll d ws).map (·.1) :=
  asetAll_eq d ws ▸ AList.mem_keys_update.2 (.inr (List.mem_map.2 ⟨w, h, rfl⟩))

theorem aset_comm {k k' : κ} (hne : k' ≠ k) (u v' : ν) {d : List (κ × ν)} (h : k ∈ d.map (·.1)) :
    aset k' v' (aset k u d) = aset k u (aset k' v' d) := by
  simp only [aset_eq]; exact (AList.upd_comm (Ne.symm hne) _ _ h).symm

/-- Re-running a sequence of dict assignments on its own result changes nothing (why not resetting
`_translations` between `xml()` calls is harmless for the entries `_setup_translations` writes). -/
theorem asetAll_idem (d ws : List (κ × ν)) : asetAll (asetAll d ws) ws = asetAll d ws :=
  -- `replay_id` for writes that clash when they have the same key and are settled once the key is there: of two clashing
  -- writes the later wins; a write to a key that is there commutes with a write to another key and leaves it there;
  -- every written key is there in the end
  replay_id (fun d (w : κ × ν) => aset w.1 w.2 d) (fun x y => x.1 = y.1) (fun d w => w.1 ∈ d.map (·.1))
    (fun A x y h => by simp only [h]; exact aset_overwrite _ _ _ A)
    (fun A x m hp hne => aset_comm (fun e => hne e.symm) x.2 m.2 hp)
    (fun A x m hp => keys_sub_aset _ _ hp) ws _ (fun w hw => written_keys_asetAll ws d w hw)
    fun pre w post hes hfin => by
      -- the last write to `w.1` is what the first run left there (`get_update`), so writing it again changes nothing
      subst hes
      obtain ⟨k, v⟩ := w
      rw [aset_eq, asetAll_eq]
      refine AList.upd_eq_self (v := v) ?_ rfl
      rw [AList.get_update, List.reverse_append, List.reverse_cons, List.append_assoc, AList.get_append,
        AList.get_eq_none_iff.2 fun h => (List.mem_map.1 h).elim fun w' hw' => hfin w' (List.mem_reverse.1 hw'.1) hw'.2.symm]
      rw [Option.none_or, List.singleton_append, AList.get_cons_self, Option.some_or]

end dict

theorem nsPairs_append (base : List (Str × Str)) (ts us : List Str) :
    nsPairs base (ts ++ us) = nsPairs base ts ++ nsPairs base us := by
  simp only [nsPairs, List.filterMap_append, List.filter_append, List.map_append]

theorem nsmapOf_append_again (base : List (Str × Str)) (ts us : List Str) :
    nsmapOf base ((ts ++ us) ++ us) = nsmapOf base (ts ++ us) := by
  unfold nsmapOf
  rw [nsPairs_append, asetAll_append, nsPairs_append, asetAll_append, asetAll_idem]

theorem hasExt_nil : hasExtInstanceExt [] = false := by
  simp [hasExtInstanceExt]

/-- the redirect clears the `itemset` of every search() select and marks its list: on its own result it finds no select to
    reject (an empty `itemset` has no file extension), the searched lists are the same, and both maps change nothing more -/
theorem redirect_idem {s s' : SurveyState} (h : redirectSearch s = .ok s') : redirectSearch s' = .ok s' := by
  unfold redirectSearch at h
  split at h
  · cases h
  · simp only [Except.ok.injEq] at h
    subst h
    unfold redirectSearch
    have hnone : (List.find? (fun q => q.search && hasExtInstanceExt q.itemset)
        (s.selects.map fun q => if q.search then { q with itemset := [] } else q)) = none := by
      rw [List.find?_eq_none]
      intro q hq
      rcases List.mem_map.1 hq with ⟨q0, _, rfl⟩
      by_cases hs : q0.search
      · simp [hs, hasExt_nil]
      · simp [hs]
    simp only [hnone]
    have hsearched : (List.filter (fun x => x.search)
          (s.selects.map fun q => if q.search then { q with itemset := [] } else q)).map (·.listName)
        = (s.selects.filter (·.search)).map (·.listName) := by
      induction s.selects with
      | nil => rfl
      | cons q rest ih =>
        by_cases hs : q.search <;> simp [hs, ih]
    congr 1
    rw [hsearched]
    rw [map_idem (f := fun q : SelectQ => if q.search then { q with itemset := [] } else q)
        (fun q => by by_cases hs : q.search <;> simp [hs]),
      map_idem (f := fun l : Str × Bool => (l.1, l.2 || decide (l.1 ∈ _))) (fun l => by simp)]

theorem redirect_keeps {s s' : SurveyState} (h : redirectSearch s = .ok s') :
    s'.triggerRefs = s.triggerRefs ∧ s'.names = s.names := by
  unfold redirectSearch at h
  split at h
  · cases h
  · simp only [Except.ok.injEq] at h
    subst h
    exact ⟨rfl, rfl⟩

theorem nsAppend_keeps (s : SurveyState) : (nsAppend s).triggerRefs = s.triggerRefs ∧ (nsAppend s).names = s.names := by
  unfold nsAppend
  split <;> exact ⟨rfl, rfl⟩

theorem validate_congr {s s' : SurveyState} (h1 : s'.triggerRefs = s.triggerRefs) (h2 : s'.names = s.names) :
    validateTriggers s' = validateTriggers s := by
  simp [validateTriggers, h1, h2]

/-- the namespace declaration and the search redirect touch different fields -/
theorem redirect_nsAppend (s : SurveyState) : redirectSearch (nsAppend s) = (redirectSearch s).map nsAppend := by
  have e1 : (nsAppend s).selects = s.selects := by unfold nsAppend; split <;> rfl
  have e2 : (nsAppend s).lists = s.lists := by unfold nsAppend; split <;> rfl
  unfold redirectSearch
  simp only [e1, e2]
  split
  · rfl
  · simp only [Except.map, nsAppend]
    split <;> rfl

theorem render_nsAppend_twice (s : SurveyState) : render (nsAppend (nsAppend s)) = render (nsAppend s) := by
  by_cases he : s.entityFeatures
  · simp only [nsAppend, he, if_true, render, Option.getD_some]
    congr 1
    exact nsmapOf_append_again baseNsmap _ [entitiesDecl]
  · simp [nsAppend, he]

theorem leStr_iff : ∀ a b : Str, leStr a b = true ↔ a ≤ b
  | [], _ => by simp [leStr]
  | _ :: _, [] => by simp [leStr]
  | a :: as, b :: bs => by
    rw [leStr, List.cons_le_cons_iff]
    by_cases h : a = b
    · subst h; simp [leStr_iff as bs]
    · simp only [h, if_false, false_and, or_false, decide_eq_true_eq]
      rw [Char.lt_def, UInt32.lt_iff_toNat_lt]; rfl

theorem leStr_total (a b : Str) : (leStr a b || leStr b a) = true := by
  rw [Bool.or_eq_true, leStr_iff, leStr_iff]; exact List.le_total a b

theorem leStr_antisymm (a b : Str) (h1 : leStr a b = true) (h2 : leStr b a = true) : a = b :=
  List.le_antisymm ((leStr_iff a b).1 h1) ((leStr_iff b a).1 h2)

theorem leStr_trans (a b c : Str) (h1 : leStr a b = true) (h2 : leStr b c = true) : leStr a c = true :=
  (leStr_iff a c).2 (List.le_trans ((leStr_iff a b).1 h1) ((leStr_iff b c).1 h2))

theorem sortStr_perm {l₁ l₂ : List Str} (h : l₁.Perm l₂) : sortStr l₁ = sortStr l₂ := by
  unfold sortStr
  apply List.Perm.eq_of_pairwise (le := fun a b => leStr a b = true)
  · intro a b _ _ h1 h2; exact leStr_antisymm a b h1 h2
  · exact List.pairwise_mergeSort (le := leStr) leStr_trans leStr_total l₁
  · exact List.pairwise_mergeSort (le := leStr) leStr_trans leStr_total l₂
  · exact ((List.mergeSort_perm l₁ leStr).trans h).trans (List.mergeSort_perm l₂ leStr).symm

theorem perm_short {l l' : List Str} (h : l'.Perm l) (hl : l.length ≤ 1) : l' = l := by
  match l, hl with
  | [], _ => exact List.Perm.eq_nil h
  | [a], _ => exact List.perm_singleton.1 h

/-- all token lengths of a thread in text order — emitted, pending, still to do; a step only moves one length from one part to
the next, so the list is invariant under every schedule -/
def Thread.lens (t : Thread) : List Nat :=
  t.emitted.map (·.1) ++ (match t.pending with | some l => [l] | none => []) ++ t.todo

theorem thread_step_lens (reg : Option (Nat × Nat)) (t : Thread) : (t.step reg).2.lens = t.lens := by
  unfold Thread.step
  split
  · rename_i len h
    simp [Thread.lens, h]
  · rename_i h
    split
    · rfl
    · rename_i len rest ht
      simp [Thread.lens, h, ht]

theorem sys_step_lens (s : Sys) (who : Bool) :
    (s.step who).a.lens = s.a.lens ∧ (s.step who).b.lens = s.b.lens := by
  unfold Sys.step
  cases who <;> simp [thread_step_lens]

theorem sys_run_lens (sched : List Bool) (s : Sys) :
    (s.run sched).a.lens = s.a.lens ∧ (s.run sched).b.lens = s.b.lens :=
  List.foldlRecOn sched Sys.step (motive := fun s' => s'.a.lens = s.a.lens ∧ s'.b.lens = s.b.lens) ⟨rfl, rfl⟩
    fun s' ih w _ => let h := sys_step_lens s' w; ⟨h.1.trans ih.1, h.2.trans ih.2⟩

theorem lens_init (lens : List Nat) : (Thread.init lens).lens = lens := by
  simp [Thread.init, Thread.lens]

theorem sys_init_run_lens (la lb : List Nat) (sched : List Bool) :
    ((Sys.init la lb).run sched).a.lens = la ∧ ((Sys.init la lb).run sched).b.lens = lb :=
  let h := sys_run_lens sched (Sys.init la lb)
  ⟨h.1.trans (lens_init la), h.2.trans (lens_init lb)⟩

theorem done_lens {t : Thread} (h : t.done = true) : t.emitted.map (·.1) = t.lens := by
  simp only [Thread.done, Bool.and_eq_true, List.isEmpty_iff, Option.isNone_iff_eq_none] at h
  simp [Thread.lens, h.1, h.2]

theorem positionsFrom_append (p : Nat) (l : List Nat) (x : Nat) :
    positionsFrom p (l ++ [x]) = positionsFrom p l ++ [(p + l.sum, p + l.sum + x)] := by
  induction l generalizing p with
  | nil => simp [positionsFrom]
  | cons a rest ih => simp [positionsFrom, ih, Nat.add_assoc]

end Pyxv.Process
