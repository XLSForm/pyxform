/-!
# String literals in statements

The model works on `List Char`; statements and examples write `"abc".toList`.  The kernel evaluates
`String.toList` of a literal through the byte-array representation of `String` (quadratic in its length),
whereas a literal unifies with `String.ofList ['a', 'b', 'c']` at no cost.  `simp only [toList_lit rfl]`
therefore turns every `"…".toList` of a goal into the `List Char` literal before anything is evaluated.
-/
namespace Pyxv

theorem toList_lit {s : String} {l : List Char} (h : s = String.ofList l) : s.toList = l :=
  h ▸ String.toList_ofList

end Pyxv
