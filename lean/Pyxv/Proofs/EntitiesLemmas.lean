import Pyxv.Model.EntitiesSpec
import Pyxv.Proofs.Literals
import Pyxv.Proofs.BaseLemmas
import Pyxv.Proofs.SpellLemmas
/-!
# Lemmas for C19 (entities): Python string tests, the interpreter of the regenerated IR, the row loop

Everything that mentions `Pyxv.Gen.*` here is re-checked against /repo's current source on every run
(the IR is regenerated by harness/translate_entities.py).
-/
namespace Pyxv.Entities
open Pyxv Pyxv.Gen

theorem isInfix_mono (p k pre post : Str) (h : isInfix p k = true) : isInfix p (pre ++ k ++ post) = true := by
  obtain ⟨x, y, hxy⟩ := (isInfix_iff p k).1 h
  have := isInfix_append (pre ++ x) p (y ++ post)
  simpa [hxy, List.append_assoc] using this

theorem isInfix_dot (s : Str) : isInfix ['.'] s = s.contains '.' :=
  Bool.eq_iff_iff.2 (by simp [isInfix_iff, List.mem_iff_append])

theorem matchControl_shape (kw : String) (b : Bool) (t c : Str) (h : Rows.matchControl kw b t = some c) :
    ∃ sep k tail, t = kw.toList ++ sep :: (k ++ tail) ∧ (k, c) ∈ Rows.gtab Gen.aliasControl := by
  unfold Rows.matchControl at h
  split at h
  · simp at h
  · rename_i hs
    simp only [Bool.not_eq_true, Bool.not_eq_false'] at hs
    obtain ⟨r, hr⟩ := (startsWith_iff _ _).1 (by simpa using hs)
    have hd : t.drop kw.length = r := by
      have : kw.length = kw.toList.length := String.length_toList.symm
      rw [hr, this, List.drop_left]
    rw [hd] at h
    cases r with
    | nil => simp at h
    | cons sep rest =>
      simp only at h
      split at h
      · simp at h
      · obtain ⟨⟨k, v⟩, hmem, hf⟩ := List.exists_of_findSome?_eq_some h
        simp only at hf
        by_cases hk : startsWith rest k = true
        · obtain ⟨tail, htail⟩ := (startsWith_iff _ _).1 hk
          have hv : v = c := by
            by_cases hc : (if b = true then Rows.beginTailOk (List.drop k.length rest)
                else (List.drop k.length rest).isEmpty) = true
            · simpa [hk, hc] using hf
            · simp [hk, hc] at hf
          subst hv
          exact ⟨sep, k, tail, by rw [hr, htail], hmem⟩
        · simp [hk] at hf

theorem truthy_cases (x : Option Str) : (truthy x = false ∧ (x = none ∨ x = some [])) ∨ (∃ a s, x = some (a :: s) ∧ truthy x = true) := by
  rcases x with _ | _ | ⟨a, s⟩ <;> simp [truthy]

@[simp] theorem truthy_none : truthy none = false := rfl
@[simp] theorem truthy_nil : truthy (some []) = false := rfl
@[simp] theorem truthy_cons (a : Char) (s : Str) : truthy (some (a :: s)) = true := rfl
@[simp] theorem truthy_flag (b : Bool) : truthy (flag b) = b := by cases b <;> rfl

theorem savetoKey_eq : savetoKey = Spec.S "bind::entities:saveto" := by decide

/-- does a body of checks and early returns pass, if its calls succeed? -/
def passes (e : Env) : List EStmt → Bool
  | [] => true
  | .check c _ :: r => !evalB e c && passes e r
  | .retIf c :: r => evalB e c || passes e r
  | .call _ :: r => passes e r

theorem runBody_passes (e : Env) (call : String → Except Rej Unit) : ∀ (body : List EStmt),
    (∀ f, .call f ∈ body → call f = .ok ()) →
    (passes e body = true → runBody e call body = .ok ()) ∧
    (passes e body = false → ∃ m, runBody e call body = .error (.msg m))
  | [], _ => ⟨fun _ => rfl, fun h => by cases h⟩
  | s :: r, hc => by
    have ih := runBody_passes e call r fun f hf => hc f (List.mem_cons_of_mem _ hf)
    cases s with
    | check c _ | retIf c =>
      cases hb : evalB e c
      · simpa [passes, runBody, hb] using ih
      · simp [passes, runBody, hb]
    | call f => simpa [passes, runBody, hc f List.mem_cons_self] using ih

/-- `validate_entity_saveto` in closed form (true = the row passes) -/
def savetoPasses (decl : Bool) (st : List Frame) (t : Str) (cell : Option Str) : Bool :=
  !truthy cell ||
    (decl && !(Rows.matchControl "begin" true t).isSome && !inRepeat st &&
      Spec.validPropertyName (cell.getD []))

theorem saveto_checks (decl : Bool) (n : Nat) (st : List Frame) (r : Cells) (t : Str) :
    (savetoPasses decl st t (lookup savetoKey r) = true →
        runBody (savetoEnv decl n st r t) noCall Gen.savetoBody = .ok ()) ∧
    (savetoPasses decl st t (lookup savetoKey r) = false →
        ∃ m, runBody (savetoEnv decl n st r t) noCall Gen.savetoBody = .error (.msg m)) := by
  have hp : passes (savetoEnv decl n st r t) Gen.savetoBody = savetoPasses decl st t (lookup savetoKey r) := by
    simp only [Gen.savetoBody, passes, evalB, savetoPasses, Spec.validPropertyName, savetoEnv, String.reduceEq,
      ↓reduceIte, truthy_flag, Spec.S, toList_lit rfl]
    simp [Bool.and_assoc, Bool.beq_eq_decide_eq]
  rw [← hp]
  exact runBody_passes _ _ _ (by simp [Gen.savetoBody])

/-- the three combination checks of `get_entity_declaration` are the documented table + label rule -/
theorem decl_checks (e : Env) (call : String → Except Rej Unit)
    (hlen : e.len "entities_sheet" = 1)
    (h1 : call "validate_entities_columns" = .ok ()) (h2 : call "get_validated_dataset_name" = .ok ()) :
    (∀ a, Spec.decision (truthy (e.val "entity_id")) (truthy (e.val "create_if")) (truthy (e.val "update_if")) (truthy (e.val "label")) = .ok a →
       runBody e call Gen.entityDeclBody = .ok ()) ∧
    (∀ r, Spec.decision (truthy (e.val "entity_id")) (truthy (e.val "create_if")) (truthy (e.val "update_if")) (truthy (e.val "label")) = .error r →
       ∃ m, runBody e call Gen.entityDeclBody = .error (.msg m)) := by
  simp only [Gen.entityDeclBody, runBody, evalB, h1, h2, hlen]
  -- the sixteen rows of the table
  rcases Bool.eq_false_or_eq_true (truthy (e.val "entity_id")) with hi | hi <;>
  rcases Bool.eq_false_or_eq_true (truthy (e.val "create_if")) with hc | hc <;>
  rcases Bool.eq_false_or_eq_true (truthy (e.val "update_if")) with hu | hu <;>
  rcases Bool.eq_false_or_eq_true (truthy (e.val "label")) with hl | hl <;>
    simp [Spec.decision, Spec.table, Spec.Action.updates, hi, hc, hu, hl]

theorem pyStr_some (s : Str) : pyStr (some s) = s := rfl

theorem pyStr_of_truthy {x : Option Str} (h : truthy x = true) : pyStr x = x.getD [] := by
  rcases x with _ | _ | _
  · cases h
  · cases h
  · rfl

/-- the accepted rows of the documented table, read off the flags (last equation: the source's two spellings of "creates") -/
theorem decision_ok {i c u l : Bool} {a : Spec.Action} (h : Spec.decision i c u l = .ok a) :
    a.updates = i ∧ a.condCreate = c ∧ a.condUpdate = u ∧ a.creates = (c || !i) ∧ (c || (!u && !i)) = (c || !i) := by
  revert h
  cases i <;> cases c <;> cases u <;> cases l <;> simp [Spec.decision, Spec.table, Spec.Action.updates] <;>
    rintro rfl <;> simp [Spec.Action.condCreate, Spec.Action.condUpdate, Spec.Action.creates]

theorem instance_table (e : Env) (ds : Str) (a : Spec.Action)
    (hds : e.val "dataset" = some ds)
    (ha : Spec.decision (truthy (e.val "entity_id")) (truthy (e.val "create_if")) (truthy (e.val "update_if")) (truthy (e.val "label")) = .ok a) :
    instanceNodeE e = Spec.entityNode ds (truthy (e.val "label")) a := by
  obtain ⟨h1, -, -, h4, h5⟩ := decision_ok ha
  simp only [instanceNodeE, Gen.entityInstanceAttrs, Gen.entityInstanceKids, Gen.entityInstanceTag, buildAttrs, evalB,
    evalP, hds, pyStr_some, Spec.entityNode, Spec.entityAttrs, h1, h4, h5, List.filter, Spec.S]
  rcases Bool.eq_false_or_eq_true (truthy (e.val "entity_id")) with hi | hi <;>
  rcases Bool.eq_false_or_eq_true (truthy (e.val "create_if")) with hc | hc <;>
  rcases Bool.eq_false_or_eq_true (truthy (e.val "label")) with hl | hl <;>
    simp [hi, hc, hl, dictSet]

theorem bindingsGo_nil (E : Str) (sub : Str → Str) (e : Env) : bindingsGo E sub e [] = .ok [] := rfl

/-- stated so that the rest of the list occurs once -/
theorem bindingsGo_cons (E : Str) (sub : Str → Str) (e : Env) (g : EB) (c : ECall) (r : List (EB × ECall)) :
    bindingsGo E sub e ((g, c) :: r) =
    match Gen.entityNodeTemplates.lookup c.fn, bindingsGo E sub e r with
    | some t, .ok ns => .ok ((if evalB e g then [mkNode E sub t (evalArg e c.expr) c.dest.toList] else []) ++ ns)
    | some _, .error x => .error x
    | none, x => if evalB e g then .error (.unsupported c.fn) else x := by
  simp only [bindingsGo]
  cases Gen.entityNodeTemplates.lookup c.fn with
  | none => rfl
  | some t => cases bindingsGo E sub e r <;> cases evalB e g <;> rfl

theorem bindings_table (e : Env) (E : Str) (sub : Str → Str) (ds : Str) (a : Spec.Action)
    (hds : e.val "dataset" = some ds)
    (ha : Spec.decision (truthy (e.val "entity_id")) (truthy (e.val "create_if")) (truthy (e.val "update_if")) (truthy (e.val "label")) = .ok a) :
    bindingsGo E sub e Gen.entityBindSteps =
      .ok (Spec.entityNodes E sub ds ((e.val "entity_id").getD []) ((e.val "create_if").getD []) ((e.val "update_if").getD [])
            ((e.val "label").getD []) (truthy (e.val "label")) a) := by
  obtain ⟨h1, h2, h3, h4, -⟩ := decision_ok ha
  -- both sides as a concatenation of guarded nodes
  simp only [Gen.entityBindSteps, bindingsGo_cons, bindingsGo_nil, String.reduceBEq, evalB, Gen.entityNodeTemplates,
    List.lookup, Spec.entityNodes, h1, h2, h3, h4]
  -- helpers and specification list the attributes in the same order: `sortAttrs` stays folded
  simp only [mkNode, evalArg, evalP, evalB, buildAttrs, dictSet, hds, pyStr_some, Spec.calcBind, Spec.versionExpr, Spec.S,
    ← String.toList_append, String.reduceAppend, List.any_nil, List.any_cons, List.nil_append, List.cons_append,
    String.reduceEq, decide_false, Bool.or_false, Bool.false_eq_true, ↓reduceIte, List.append_nil, List.append_assoc]
  -- only `entity_id` is read outside its own guard; under the guard of a cell, `str(cell)` is the cell
  rcases Bool.eq_false_or_eq_true (truthy (e.val "entity_id")) with hi | hi <;>
    simp +contextual only [hi, pyStr_of_truthy, Bool.not_true, Bool.not_false, Bool.or_true, Bool.or_false, if_true,
      if_false, Bool.false_eq_true, List.nil_append, List.cons_append]

def frames (st : List Frame) : List (Str × Bool) := st.map fun f => (f.name, decide (f.ct = "repeat".toList))

theorem frames_cons (f : Frame) (st : List Frame) :
    frames (f :: st) = (f.name, decide (f.ct = "repeat".toList)) :: frames st := rfl

theorem inRepeat_frames (st : List Frame) : ((frames st).any (·.2)) = inRepeat st := by
  simp [frames, inRepeat, List.any_map, Function.comp_def]

theorem pathOf_frames (root : Str) (st : List Frame) (name : Str) :
    Form.xpathStr (root :: (frames st).reverse.map (·.1) ++ [name]) = pathOf root st name := by
  simp [pathOf, frames, List.map_reverse, Function.comp_def]

theorem savetoCell_eq (r : Cells) : Spec.savetoCell r = lookup savetoKey r := by
  rw [savetoKey_eq]; rfl

/-- the result of the model's row loop, read as the spec's verdict -/
def agrees (res : Except Rej (List (Str × Str))) (spec : Option (List (Str × Str))) : Prop :=
  match res with
  | .ok out => spec = some out
  | .error (.msg _) => spec = none
  | .error (.unsupported _) => True
  | .error _ => False

theorem agrees_ok {out : List (Str × Str)} {spec : Option (List (Str × Str))} (h : agrees (.ok out) spec) :
    spec = some out := h

theorem agrees_msg {m : Str} {spec : Option (List (Str × Str))} (h : agrees (.error (.msg m)) spec) : spec = none := h

/-- the row loop refuses with a message or leaves the fragment; it raises nothing else -/
theorem agrees_error {e : Rej} {spec : Option (List (Str × Str))} (h : agrees (.error e) spec) :
    (∃ w, e = .unsupported w) ∨ ∃ m, e = .msg m := by
  cases e with
  | msg m => exact .inr ⟨m, rfl⟩
  | unsupported w => exact .inl ⟨w, rfl⟩
  | columns c => exact h.elim
  | internal w => exact h.elim

theorem agrees_map (f : List (Str × Str) → List (Str × Str)) (res : Except Rej (List (Str × Str)))
    (spec : Option (List (Str × Str))) :
    agrees res spec → agrees (match res with | .error e => .error e | .ok out => .ok (f out)) (spec.map f) := by
  intro h
  cases res with
  | ok out => rw [agrees_ok h]; rfl
  | error e =>
    rcases agrees_error h with ⟨w, rfl⟩ | ⟨m, rfl⟩
    · trivial
    · rw [agrees_msg h]; rfl

/-- a body whose calls succeed passes or stops with a message: `validate_entity_saveto` as one equation -/
theorem saveto_eq (decl : Bool) (n : Nat) (st : List Frame) (r : Cells) (t : Str) :
    ∃ m, runBody (savetoEnv decl n st r t) noCall Gen.savetoBody =
      if savetoPasses decl st t (lookup savetoKey r) then .ok () else .error (.msg m) := by
  cases hp : savetoPasses decl st t (lookup savetoKey r) with
  | true => exact ⟨[], (saveto_checks decl n st r t).1 hp⟩
  | false => exact (saveto_checks decl n st r t).2 hp

/-! the kind of a row (`Spec.rowKind`), read off the two regexes in the order `walk` tests them -/

theorem rowKind_end {t c : Str} (he : Rows.matchControl "end" false t = some c) : Spec.rowKind t = .end_ := by
  simp only [Spec.rowKind, he]

theorem rowKind_audit (he : Rows.matchControl "end" false auditType = none) : Spec.rowKind auditType = .meta_ := by
  simp only [Spec.rowKind, he]
  rfl

theorem rowKind_begin {t c : Str} (he : Rows.matchControl "end" false t = none) (ha : t ≠ auditType)
    (hb : Rows.matchControl "begin" true t = some c) :
    Spec.rowKind t = if c = Spec.S "repeat" then .beginRepeat else .beginGroup := by
  simp only [Spec.rowKind, he, hb]
  exact if_neg ha

theorem rowKind_question {t : Str} (he : Rows.matchControl "end" false t = none) (ha : t ≠ auditType)
    (hb : Rows.matchControl "begin" true t = none) : Spec.rowKind t = .question := by
  simp only [Spec.rowKind, he, hb]
  exact if_neg ha

/-- The row loop agrees with the spec's reading in every state (`frames st`: the stack as the spec keeps it).  In
    each row the kind is settled first (`rowKind_*`), the interpreted `Gen.savetoBody` is replaced by its closed form
    (`saveto_eq`), and what is left is the spec's branch for that kind. -/
theorem walk_agrees (decl : Bool) (root : Str) : ∀ (rows : List Cells) (n : Nat) (st : List Frame),
    agrees (walk decl root n st rows) (Spec.saveto decl root (frames st) rows) := by
  intro rows
  induction rows with
  | nil =>
    -- end of the sheet: an open section is outside the fragment
    intro n st
    cases st with
    | nil =>
      simp only [walk, agrees]
      rfl
    | cons f st => trivial
  | cons r rs ih =>
    intro n st
    simp only [walk, Spec.saveto]
    cases ht : Rows.get r "type" with
    | none => trivial
    | some t =>
      simp only [Option.getD_some]
      cases he : Rows.matchControl "end" false t with
      | some c =>
        -- `end` row: the stack is popped before anything is validated
        rw [rowKind_end he]
        cases st with
        | nil => trivial
        | cons f st' =>
          by_cases hc : f.ct = c
          · simp only [hc, if_true, frames_cons, List.drop_one, List.tail_cons]
            exact ih (n + 1) st'
          · simp only [hc, if_false]
            trivial
      | none =>
        by_cases haud : t = auditType
        · -- `audit` row: goes to the meta block, `continue`
          subst haud
          rw [rowKind_audit he]
          simp only [if_true]
          exact ih (n + 1) st
        simp only [haud, if_false]
        cases hn : Rows.get r "name" with
        | none => trivial
        | some name =>
          obtain ⟨m, hm⟩ := saveto_eq decl n st r t
          simp only [hm, savetoCell_eq, Option.getD_some]
          cases hb : Rows.matchControl "begin" true t with
          | some c =>
            -- `begin` row (`is_section`): it passes exactly when it has no save_to cell
            rw [rowKind_begin he haud hb]
            have hpass : savetoPasses decl st t (lookup savetoKey r) = !truthy (lookup savetoKey r) := by
              simp [savetoPasses, hb]
            rw [hpass]
            -- `Spec.S "repeat"` and `"loop".toList` are compared in the spelling the definitions reduce to
            have hS : Spec.S "repeat" = ['r', 'e', 'p', 'e', 'a', 't'] := toList_lit rfl
            have hR : "repeat".toList = ['r', 'e', 'p', 'e', 'a', 't'] := toList_lit rfl
            have hL : "loop".toList = ['l', 'o', 'o', 'p'] := toList_lit rfl
            simp only [hS, hL]
            cases htr : truthy (lookup savetoKey r) with
            | true =>
              -- "Groups and repeats can't be saved as entity properties."
              by_cases hrep : c = ['r', 'e', 'p', 'e', 'a', 't'] <;>
                simp only [hrep, if_true, if_false, Bool.not_true, Bool.false_eq_true, agrees]
            | false =>
              simp only [Bool.not_false, if_true, Bool.false_eq_true, if_false]
              by_cases hloop : c = ['l', 'o', 'o', 'p']
              · simp only [hloop, if_true]
                trivial
              · -- the section is pushed
                simp only [hloop, if_false]
                have := ih (n + 1) ({ ct := c, name := name } :: st)
                simp only [frames_cons, hR] at this
                by_cases hrep : c = ['r', 'e', 'p', 'e', 'a', 't']
                · simpa only [hrep, if_true, decide_true] using this
                · simpa only [hrep, if_false, decide_false] using this
          | none =>
            rw [rowKind_question he haud hb]
            have := ih (n + 1) st
            rcases truthy_cases (lookup savetoKey r) with ⟨htr, h⟩ | ⟨a, p, h, htr⟩
            · -- question without a cell (`if not save_to: return`): the row adds nothing
              have h' := agrees_map (fun a => a) _ _ this
              rw [Option.map_id'] at h'
              rcases h with h | h <;>
                simp only [savetoPasses, h, truthy_none, truthy_nil, Bool.not_false, Bool.true_or, if_true] <;>
                exact h'
            · -- question with a cell: the remaining checks are `Spec.savetoAllowed`
              have hpass : savetoPasses decl st t (lookup savetoKey r) =
                  Spec.savetoAllowed decl (inRepeat st) (a :: p) := by
                simp [savetoPasses, h, hb, Spec.savetoAllowed, Bool.and_assoc]
              rw [hpass]
              simp only [h, inRepeat_frames, pathOf_frames]
              cases Spec.savetoAllowed decl (inRepeat st) (a :: p) with
              | true =>
                simp only [if_true]
                exact agrees_map _ _ _ this
              | false =>
                simp only [Bool.false_eq_true, if_false]
                trivial

theorem rowEnv_val (row : Cells) (n : Nat) (k : String) : (rowEnv row n).val k = lookup k.toList row := rfl

theorem dataset_checks (row : Cells) (ds : Str) (h : lookup "dataset".toList row = some ds) :
    (Spec.validDatasetName ds = true → validatedDatasetName row = .ok ()) ∧
    (Spec.validDatasetName ds = false → ∃ m, validatedDatasetName row = .error (.msg m)) := by
  have hp : passes (rowEnv row 1) Gen.datasetNameBody = Spec.validDatasetName ds := by
    simp only [Gen.datasetNameBody, passes, evalB, rowEnv_val, h, Option.getD, Spec.validDatasetName, Spec.S]
    cases ds with
    | nil => rfl
    | cons a ds => simp [isInfix_dot, Bool.and_assoc]
  rw [← hp]
  exact runBody_passes _ _ _ (by simp [Gen.datasetNameBody])

/-- finding F34: a missing dataset cell is a PyXFormError, not a KeyError -/
theorem dataset_missing (row : Cells) (h : lookup "dataset".toList row = none) :
    ∃ m, validatedDatasetName row = .error (.msg m) := by
  unfold validatedDatasetName
  simp only [Gen.datasetNameBody, runBody, evalB, rowEnv_val, h, truthy_none, Bool.not_false, if_true]
  exact ⟨_, rfl⟩

/-- table fact: the columns `validate_entities_columns` accepts are the five documented ones -/
theorem entityColumns_eq : entityColumnsL = Spec.knownColumns := by decide

theorem extraColumns_nil_iff (row : Cells) :
    extraColumns row = [] ↔ row.any (fun kv => !Spec.knownColumns.contains kv.1) = false := by
  simp [extraColumns, entityColumns_eq, List.filter_eq_nil_iff, List.any_eq_false]

theorem paramEnv_val (row : Cells) :
    (paramEnv (declParams row)).val "dataset" = lookup "dataset".toList row ∧
    (paramEnv (declParams row)).val "entity_id" = lookup "entity_id".toList row ∧
    (paramEnv (declParams row)).val "create_if" = lookup "create_if".toList row ∧
    (paramEnv (declParams row)).val "update_if" = lookup "update_if".toList row ∧
    (paramEnv (declParams row)).val "label" = lookup "label".toList row := by
  simp [paramEnv, declParams, Gen.entityDeclParams, List.lookup]

/-! ### `get_nsmap`: the entities declaration survives any settings `namespaces` value -/

theorem splitWs_eq (s : Str) : splitWs s = Spell.splitWs s :=
  Spell.splitWs_acc splitWsGo (fun _ => rfl) (fun _ _ _ => rfl) s

theorem dictSet_eq (d : List (String × Str)) (k : String) (v : Str) : dictSet d k v = AList.write d k v := rfl

theorem dictSetS_eq (d : List (Str × Str)) (k v : Str) : dictSetS d k v = AList.write d k v := rfl

theorem lookup_dictSetS (d : List (Str × Str)) (k v : Str) : lookup k (dictSetS d k v) = some v := by
  rw [lookup_eq_get, dictSetS_eq, AList.get_write, if_pos rfl]

/-- the token `get_nsmap` appends (without its leading space) -/
def entTok : Str := entitiesPrefix ++ '=' :: Spec.entitiesNs.2

/-- table facts about the literal `get_nsmap` appends -/
theorem entities_decl_shape :
    Gen.entitiesNsDecl.toList = ' ' :: entTok ∧
    entTok.all (fun c => !pyIsSpace c) = true ∧ entTok ≠ [] ∧
    nsToken entTok = some (entitiesPrefix, Spec.entitiesNs.2) ∧
    inBaseNs entitiesPrefix = false ∧ stripQuotes Spec.entitiesNs.2 = Spec.entitiesNs.2 ∧
    nsTokens Gen.entitiesNsDecl.toList = [(entitiesPrefix, Spec.entitiesNs.2)] := by
  unfold Gen.entitiesNsDecl entTok entitiesPrefix Spec.entitiesNs Spec.S
  simp only [toList_lit rfl]
  decide +kernel

theorem nsTokens_append_word (n tok : Str) (kv : Str × Str) (h2 : tok.all (fun c => !pyIsSpace c) = true) (h3 : tok ≠ [])
    (h4 : nsToken tok = some kv) : nsTokens (n ++ ' ' :: tok) = nsTokens n ++ [kv] := by
  unfold nsTokens
  rw [splitWs_eq, splitWs_eq, Spell.splitWs_append_space n ' ' tok (by decide),
    Spell.splitWs_word tok h3 (fun c hc => by simpa using List.all_eq_true.mp h2 c hc), List.filterMap_append]
  simp [List.filterMap, h4]

/-- whatever the settings `namespaces` cell holds: with `entity_features` set, `get_nsmap` declares the
    `entities` prefix with the entities URI -/
theorem entities_ns_declared (namespaces : Option Str) :
    lookup entitiesPrefix (nsExtra namespaces true) = some Spec.entitiesNs.2 := by
  obtain ⟨h1, h2, h3, h4, h5, h6, -⟩ := entities_decl_shape
  -- no cell is the empty cell: either way the declaration is the last token of the string
  have hs : nsString namespaces true = namespaces.getD [] ++ ' ' :: entTok := by
    cases namespaces <;> simp only [nsString, if_true, h1, Option.getD_none, Option.getD_some, List.nil_append]
  rw [nsExtra, hs, nsTokens_append_word _ entTok _ h2 h3 h4, List.foldl_append]
  simp only [List.foldl_cons, List.foldl_nil, nsStep, h5, h6, Bool.false_eq_true, if_false]
  exact lookup_dictSetS _ _ _

/-! ### reading outcomes (for `decide`d examples: `Except` has no `DecidableEq` instance) -/

def isMsg {α} : Except Rej α → Bool
  | .error (.msg _) => true
  | _ => false

theorem isMsg_elim {α} (x : Except Rej α) (h : isMsg x = true) : ∃ m, x = .error (.msg m) := by
  cases x with
  | ok v => simp [isMsg] at h
  | error e => cases e <;> simp [isMsg] at h; exact ⟨_, rfl⟩

def okVal {α} : Except Rej α → Option α
  | .ok v => some v
  | _ => none

theorem okVal_elim {α} (x : Except Rej α) (v : α) (h : okVal x = some v) : x = .ok v := by
  cases x with
  | ok w => simp [okVal] at h; rw [h]
  | error e => simp [okVal] at h

theorem okVal_map_eq {α β} (x : Except Rej α) (f : α → β) (b : β) (hok : (okVal x).isSome = true)
    (hf : ∀ a, x = .ok a → f a = b) : (okVal x).map f = some b := by
  cases x with
  | ok a => exact congrArg some (hf a rfl)
  | error e => cases hok

def errVal {α} : Except Rej α → Option Rej
  | .error e => some e
  | _ => none

theorem errVal_elim {α} (x : Except Rej α) (e : Rej) (h : errVal x = some e) : x = .error e := by
  cases x with
  | ok w => simp [errVal] at h
  | error e' => simp [errVal] at h; rw [h]

end Pyxv.Entities
