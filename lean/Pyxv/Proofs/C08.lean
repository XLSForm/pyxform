import Pyxv.Proofs.HeadersLemmas
import Pyxv.Proofs.Literals
import Pyxv.Model.Texts
import Pyxv.Model.TextSpec
/-!
# C08 — each language shows exactly the text written for it: the header layer

About the model `Pyxv.Headers` of `pyxform/parsing/sheet_headers.py`, for all strings, dict sizes, row lengths and default
languages: what one `merge_dicts` call and one `process_row` step do; `row_grouping` for whole rows; for columns `name` /
`name::language` the closed form `column_reading` (= the spec's reading of the cells); one level down (`media::x`, `bind::x`)
`group_column_reading`.  The text layer is composed in C08Text.lean, up to `TextSpec.demanded`;
the row lookup inside `TextSpec.text` is not proved but tied by the correspondence run (notes/design_C08.md).
-/
namespace Pyxv.C08
open Pyxv Pyxv.Headers

/-- the text stored for language `l` in a column value: a plain string counts as the default language -/
def readLang (dk : Str) (v : V) (l : Str) : Option Str :=
  match v with
  | .str t => if l = dk then some t else none
  | .dict m => match m.get l with
    | .str t => some t
    | _ => none
  | .none => none

/-- one step of `process_row` files the cell under the first token of its header, merged with what that column holds, and
changes no other column.  `hplain` excludes only a second *unsuffixed* cell for a column holding a plain string.  The one-token
case onto a dict is finding F19: a plain `out_row[t] = val` there overwrites the dict of translations; the model merges, as the
repaired code does. -/
theorem row_grouping_step (dk : Str) (hk : List (Str × List Str)) (out : Kvs) (header val t : Str) (ts : List Str)
    (hrow : header ≠ "__row".toList) (hlk : lookup header hk = some (t :: ts))
    (hplain : ts = [] → ∀ x, out.get t ≠ .str x) :
    ∃ out', processCell dk hk out header val = .ok out' ∧
      ∀ q, out'.get q = if q = t then merge dk (out.get t) (nest ts val) else out.get q := by
  have hrow' : ¬ header = ['_', '_', 'r', 'o', 'w'] := by simpa using hrow
  cases ts with
  | nil =>
    cases hg : out.get t with
    | none =>
      refine ⟨out.set t (.str val), ?_, ?_⟩
      · simp [processCell, hrow', hlk, hg]
      · intro q; rw [Kvs.set_get]; simp [merge_none_left, nest]
    | str x => exact absurd hg (hplain rfl x)
    | dict m =>
      refine ⟨mergeTop dk out t (.str val), ?_, ?_⟩
      · simp [processCell, hrow', hlk, hg]
      · intro q; rw [mergeTop_get dk out t _ q]; simp [nest, hg]
  | cons t' ts' =>
    refine ⟨mergeTop dk out t (nest (t' :: ts') val), ?_, ?_⟩
    · simp [processCell, hrow', hlk]
    · intro q; rw [mergeTop_get dk out t _ q]

example : ∃ out', processCell "default".toList [("label::fr".toList, ["label".toList, "fr".toList])]
      (.cons "label".toList (.str "Q".toList) .nil) "label::fr".toList "Qfr".toList = .ok out' ∧
      ∀ q, out'.get q = if q = "label".toList then merge "default".toList (.str "Q".toList) (nest ["fr".toList] "Qfr".toList)
        else (Kvs.cons "label".toList (.str "Q".toList) .nil).get q :=
  row_grouping_step _ _ _ _ _ "label".toList ["fr".toList] (by decide) (by decide) (by intro h; cases h)

example : (mergeTop "default".toList (.cons "label".toList (.str "Q".toList) (.cons "hint".toList (.str "H".toList) .nil))
      "hint".toList (nest ["fr".toList] "Hfr".toList)).get "label".toList = .str "Q".toList := by
  rw [mergeTop_get]; simp [Kvs.get]

/-- a column suffixed with the default language replaces the unsuffixed text (documented overwrite rule) -/
theorem default_suffix_wins_after (dk u : Str) (m : Kvs) (hu : u ≠ []) (hm : m.has dk = true) :
    merge dk (.str u) (.dict m) = .dict m := by
  cases m <;> cases u <;> simp_all [merge, V.falsy, Kvs.has]

/-- … in either column order -/
theorem default_suffix_wins_before (dk u : Str) (m : Kvs) (hu : u ≠ []) (hm : m.has dk = true) :
    merge dk (.dict m) (.str u) = .dict m := by
  cases m <;> cases u <;> simp_all [merge, V.falsy, Kvs.has]

example : merge "fr".toList (.str "Q".toList) (.dict (.cons "fr".toList (.str "Qfr".toList) .nil))
    = .dict (.cons "fr".toList (.str "Qfr".toList) .nil) :=
  default_suffix_wins_after _ _ _ (by decide) (by decide)

example : merge "fr".toList (.dict (.cons "fr".toList (.str "Qfr".toList) .nil)) (.str "Q".toList)
    = .dict (.cons "fr".toList (.str "Qfr".toList) .nil) :=
  default_suffix_wins_before _ _ _ (by decide) (by decide)

/-- unsuffixed cells count as the default language (unsuffixed column first) -/
theorem unsuffixed_is_default_after (dk u : Str) (m : Kvs) (hu : u ≠ []) (hne : m ≠ .nil) (hm : m.has dk = false) :
    merge dk (.str u) (.dict m) = .dict (.cons dk (.str u) m) := by
  cases m <;> cases u <;> simp_all [merge, V.falsy]

example : merge "default".toList (.str "Q".toList) (.dict (.cons "fr".toList (.str "Qfr".toList) .nil))
    = .dict (.cons "default".toList (.str "Q".toList) (.cons "fr".toList (.str "Qfr".toList) .nil)) :=
  unsuffixed_is_default_after _ _ _ (by decide) (by intro h; cases h) (by decide)

/-- … unsuffixed column last (the shape of F19) -/
theorem unsuffixed_is_default_before (dk u : Str) (m : Kvs) (hu : u ≠ []) (hne : m ≠ .nil) (hm : m.has dk = false) :
    merge dk (.dict m) (.str u) = .dict (m.append (.cons dk (.str u) .nil)) := by
  cases m <;> cases u <;> simp_all [merge, V.falsy]

example : merge "default".toList (.dict (.cons "fr".toList (.str "Qfr".toList) .nil)) (.str "Q".toList)
    = .dict (.cons "fr".toList (.str "Qfr".toList) (.cons "default".toList (.str "Q".toList) .nil)) :=
  unsuffixed_is_default_before _ _ _ (by decide) (by intro h; cases h) (by decide)

/-- a further language is appended, nothing else moves -/
theorem new_language_appended (dk l : Str) (x : V) (m : Kvs) (_hne : m ≠ .nil) (hl : m.has l = false) :
    merge dk (.dict m) (.dict (.cons l x .nil)) = .dict (m.append (.cons l x .nil)) := by
  have hd : ∀ q, m.has q = true → (Kvs.cons l x Kvs.nil).has q = false := fun q hq => by
    by_cases h : q = l
    · subst h; rw [hl] at hq; cases hq
    · simp [Kvs.has, h]
  rw [merge_dict_single, mergeTop_eq, mergeKvs_disjoint dk m _ hd]
  simp [Kvs.without, hl]

example : merge "default".toList (.dict (.cons "fr".toList (.str "A".toList) .nil)) (.dict (.cons "en".toList (.str "B".toList) .nil))
    = .dict (.cons "fr".toList (.str "A".toList) (.cons "en".toList (.str "B".toList) .nil)) :=
  new_language_appended _ _ _ _ (by intro h; cases h) (by decide)

/-- two plain values for one key: the later one wins (/repo b0e6b55, finding F39) -/
theorem two_strings_later_wins (dk a b : Str) (ha : a ≠ []) (hb : b ≠ []) :
    merge dk (.str a) (.str b) = .str b := by
  cases a <;> cases b <;> simp_all [merge, V.falsy]

example : merge "fr".toList (.str "A".toList) (.str "B".toList) = .str "B".toList :=
  two_strings_later_wins _ _ _ (by decide) (by decide)

/-- what column `q` holds after the cells of `row`, starting from `acc`: the cells whose first token is `q`, merged in column
order.  For a one-token header `processCell` assigns (`out.set`) unless the column holds a dict, where this fold merges: the two
differ only while the column holds a plain string, which `NoClash` excludes. -/
def colFold (dk : Str) (hk : List (Str × List Str)) (q : Str) : V → List (Str × Str) → V
  | acc, [] => acc
  | acc, (h, v) :: rest =>
    match lookup h hk with
    | some (t :: ts) => colFold dk hk q (if q = t then merge dk acc (nest ts v) else acc) rest
    | _ => colFold dk hk q acc rest

/-- no second *unsuffixed* cell arrives for a column that holds a plain string at that moment -/
def NoClash (dk : Str) (hk : List (Str × List Str)) (out : Kvs) (row : List (Str × Str)) : Prop :=
  ∀ pre h v post, row = pre ++ (h, v) :: post → ∀ t, lookup h hk = some [t] → ∀ x, colFold dk hk t (out.get t) pre ≠ .str x

/-- `process_row` puts every cell under the first token of its header — merged, in column order, with the other cells of
that column — and nowhere else: after the whole row, column `q` holds exactly `colFold q`. -/
theorem row_grouping (dk : Str) (hk : List (Str × List Str)) : ∀ (row : List (Str × Str)) (out : Kvs),
    (∀ c ∈ row, c.1 ≠ "__row".toList ∧ ∃ t ts, lookup c.1 hk = some (t :: ts)) →
    NoClash dk hk out row →
    ∃ out', processRowFrom dk hk out row = .ok out' ∧ ∀ q, out'.get q = colFold dk hk q (out.get q) row
  | [], out, _, _ => ⟨out, by simp [processRowFrom], fun q => by simp [colFold]⟩
  | (h, v) :: rest, out, hwf, hnc => by
    obtain ⟨hrow, t, ts, hlk⟩ := hwf (h, v) (by simp)
    simp only at hrow hlk
    have hplain : ts = [] → ∀ x, out.get t ≠ .str x := by
      intro hts x
      have := hnc [] h v rest rfl t (by rw [hlk, hts]) x
      simpa [colFold] using this
    obtain ⟨out1, hstep, hget1⟩ := row_grouping_step dk hk out h v t ts hrow hlk hplain
    -- folding on from the new row is folding from the old row with the cell in front
    have hcf : ∀ q l, colFold dk hk q (out1.get q) l = colFold dk hk q (out.get q) ((h, v) :: l) := by
      intro q l
      rw [hget1 q]
      by_cases hq : q = t <;> simp [colFold, hlk, hq]
    obtain ⟨out2, hrest, hget2⟩ := row_grouping dk hk rest out1 (fun c hc => hwf c (by simp [hc]))
      fun pre h' v' post hsplit t' hlk' x => by
        rw [hcf]
        exact hnc ((h, v) :: pre) h' v' post (by simp [hsplit]) t' hlk' x
    exact ⟨out2, by simp [processRowFrom, hstep, hrest], fun q => by rw [hget2 q, hcf]⟩

def hkEx : List (Str × List Str) := [("label::fr".toList, ["label".toList, "fr".toList]), ("label".toList, ["label".toList])]
def rowEx : List (Str × Str) := [("label::fr".toList, "Qfr".toList), ("label".toList, "Q".toList)]

theorem rowEx_wf : ∀ c ∈ rowEx, c.1 ≠ "__row".toList ∧ ∃ t ts, lookup c.1 hkEx = some (t :: ts) := by
  intro c hc
  simp only [rowEx, List.mem_cons, List.mem_nil_iff, or_false] at hc
  rcases hc with rfl | rfl
  · exact ⟨by decide, "label".toList, ["fr".toList], by decide⟩
  · exact ⟨by decide, "label".toList, [], by decide⟩

/-- the only one-token header of `rowEx` is its second cell, and by then the column holds the dict of the first -/
theorem rowEx_noClash : NoClash "default".toList hkEx .nil rowEx := by
  intro pre h v post hs t hl x
  rcases pre with _ | ⟨p1, _ | ⟨p2, pre⟩⟩
  · simp only [rowEx, List.nil_append, List.cons.injEq, Prod.mk.injEq] at hs
    obtain ⟨⟨rfl, rfl⟩, _⟩ := hs
    have : lookup "label::fr".toList hkEx = some ["label".toList, "fr".toList] := by decide
    rw [this] at hl; simp at hl
  · simp only [rowEx, List.cons_append, List.nil_append, List.cons.injEq, Prod.mk.injEq] at hs
    obtain ⟨rfl, ⟨rfl, rfl⟩, _⟩ := hs
    have ht : t = "label".toList := by
      have : lookup "label".toList hkEx = some ["label".toList] := by decide
      rw [this] at hl; simpa using hl.symm
    subst ht
    have hl2 : lookup ['l', 'a', 'b', 'e', 'l', ':', ':', 'f', 'r'] hkEx = some [['l', 'a', 'b', 'e', 'l'], ['f', 'r']] := by decide
    simp [colFold, hl2, Kvs.get, merge_none_left, nest]
  · simp [rowEx] at hs

/-- the F19 shape (suffixed column first, unsuffixed last) meets every hypothesis -/
example : ∃ out', processRowFrom "default".toList hkEx .nil rowEx = .ok out' ∧
    ∀ q, out'.get q = colFold "default".toList hkEx q (Kvs.nil.get q) rowEx :=
  row_grouping _ _ _ _ rowEx_wf rowEx_noClash

/-- one column's cells in column order: (language suffix, or none for the unsuffixed column; text) -/
abbrev ColCell := Option Str × Str

/-- what `process_row` merges into the column for such a cell: `nest [] x` / `nest [l] x` -/
def cellV : ColCell → V
  | (none, x) => .str x
  | (some l, x) => .dict (.cons l (.str x) .nil)

theorem cellV_eq_nest (c : ColCell) : cellV c = nest (match c.1 with | none => [] | some l => [l]) c.2 := by
  rcases c with ⟨_ | l, x⟩ <;> rfl

/-- the column value after merging the cells in order (= `colFold` restricted to one column) -/
def colVal (dk : Str) : V → List ColCell → V
  | acc, [] => acc
  | acc, c :: cs => colVal dk (merge dk acc (cellV c)) cs

/-- the text of the first cell with language suffix `k` (`none`: the unsuffixed cell) -/
def findLang (cells : List ColCell) (k : Option Str) : Option Str :=
  (cells.find? fun c => c.1 = k).map (·.2)

/-- the spec reading of one column: the cell suffixed with `q`; else, for the default language, the unsuffixed cell -/
def specRead (dk : Str) (cells : List ColCell) (q : Str) : Option Str :=
  (findLang cells (some q)).orElse fun _ => if q = dk then findLang cells none else none

/-- every key of the dict holds a non-empty string -/
def FlatD (m : Kvs) : Prop :=
  ∀ q, (m.has q = false ∧ m.get q = .none) ∨ (m.has q = true ∧ ∃ y, y ≠ [] ∧ m.get q = .str y)

/-- a column value as rows produce it: nothing, a non-empty string, or a non-empty dict of non-empty strings -/
inductive Flat : V → Prop
  | none : Flat .none
  | str (u : Str) : u ≠ [] → Flat (.str u)
  | dict (m : Kvs) : m ≠ .nil → FlatD m → Flat (.dict m)

def isStrV : V → Bool
  | .str _ => true
  | _ => false

/-- reading with a starting value: later cells win, then what was there, then the unsuffixed cell for the default language -/
def readFrom (dk : Str) (acc : V) (cells : List ColCell) (q : Str) : Option Str :=
  (findLang cells (some q)).orElse fun _ => (readLang dk acc q).orElse fun _ =>
    if q = dk then findLang cells none else none

theorem ne_nil_of_has {m : Kvs} {q : Str} (h : m.has q = true) : m ≠ .nil := by
  intro hm; subst hm; simp [Kvs.has] at h

theorem falsy_dict {m : Kvs} (h : m ≠ .nil) : (V.dict m).falsy = false := by
  cases m with
  | nil => exact absurd rfl h
  | cons k v r => rfl

theorem merge_flatD_get (dk : Str) {m : Kvs} (hm : FlatD m) (q : Str) {x : Str} (hx : x ≠ []) :
    merge dk (m.get q) (.str x) = .str x := by
  rcases hm q with ⟨_, hg⟩ | ⟨_, y, hy, hg⟩
  · rw [hg, merge_none_left]
  · rw [hg, two_strings_later_wins dk y x hy hx]

theorem flatD_mergeTop (dk : Str) (m : Kvs) (l x : Str) (hx : x ≠ []) (hm : FlatD m) :
    FlatD (mergeTop dk m l (.str x)) := by
  intro q
  rw [mergeTop_has, mergeTop_get]
  by_cases hq : q = l
  · subst hq
    right
    exact ⟨by simp, x, hx, by rw [if_pos rfl, merge_flatD_get dk hm q hx]⟩
  · simp only [hq, decide_false, Bool.or_false, if_false]
    exact hm q

theorem flatD_append_single (m : Kvs) (k u : Str) (hu : u ≠ []) (hm : FlatD m) (hk : m.has k = false) :
    FlatD (m.append (.cons k (.str u) .nil)) := by
  intro q
  rw [Kvs.append_has, Kvs.append_get]
  rcases hm q with ⟨hh, hg⟩ | ⟨hh, y, hy, hg⟩
  · by_cases hq : q = k
    · subst hq; simp [hk, Kvs.has, Kvs.get, hu]
    · simp [hh, Kvs.has, Kvs.get, hq]
  · simp [hh, hg, hy]

theorem flatD_cons (m : Kvs) (k u : Str) (hu : u ≠ []) (hm : FlatD m) : FlatD (.cons k (.str u) m) := by
  intro q
  by_cases hq : q = k
  · simp [Kvs.has, Kvs.get, hq, hu]
  · simpa [Kvs.has, Kvs.get, hq] using hm q

theorem flatD_single (l x : Str) (hx : x ≠ []) : FlatD (.cons l (.str x) .nil) :=
  flatD_cons .nil l x hx fun _ => .inl ⟨rfl, rfl⟩

theorem readLang_flat (dk : Str) (m : Kvs) (hm : FlatD m) (q : Str) :
    readLang dk (.dict m) q = (if m.has q then (match m.get q with | .str y => some y | _ => none) else none) := by
  rcases hm q with ⟨hh, hg⟩ | ⟨hh, y, _, hg⟩ <;> simp [readLang, hh, hg]

theorem findLang_cons (c : ColCell) (cs : List ColCell) (k : Option Str) :
    findLang (c :: cs) k = if c.1 = k then some c.2 else findLang cs k := by
  by_cases h : c.1 = k <;> simp [findLang, List.find?, h]

theorem findLang_eq_get (k : Option Str) : ∀ cells : List ColCell, findLang cells k = AList.get k cells :=
  AList.get_of_eqns rfl fun k' v r => by rw [findLang_cons]; simp only [eq_comm]

theorem merge_str_reads (dk : Str) (acc : V) (u : Str) (hf : Flat acc) (hu : u ≠ []) (hstr : isStrV acc = false) :
    Flat (merge dk acc (.str u)) ∧
      ∀ q, readLang dk (merge dk acc (.str u)) q = (readLang dk acc q).orElse fun _ => if q = dk then some u else none := by
  cases hf with
  | none => rw [merge_none_left]; exact ⟨.str u hu, fun q => by simp [readLang]⟩
  | str u0 h0 => simp [isStrV] at hstr
  | dict m hne hm =>
    by_cases hdk : m.has dk = true
    · rw [default_suffix_wins_before dk u m hu hdk]
      refine ⟨.dict m hne hm, fun q => ?_⟩
      by_cases hq : q = dk
      · subst hq
        rcases hm q with ⟨hh, _⟩ | ⟨_, y, _, hg⟩
        · rw [hh] at hdk; cases hdk
        · simp [readLang, hg]
      · cases readLang dk (.dict m) q <;> simp [hq]
    · have hdk' : m.has dk = false := by simpa using hdk
      rw [unsuffixed_is_default_before dk u m hu hne hdk']
      refine ⟨.dict _ (ne_nil_of_has (q := dk) (by simp [Kvs.append_has, Kvs.has])) (flatD_append_single m dk u hu hm hdk'),
        fun q => ?_⟩
      simp only [readLang, Kvs.append_get]
      rcases hm q with ⟨hh, hg⟩ | ⟨hh, y, _, hg⟩
      · by_cases hq : q = dk
        · subst hq; simp [hh, hg, Kvs.get]
        · simp [hh, hg, Kvs.get, hq]
      · simp [hh, hg]

theorem merge_single_reads (dk : Str) (acc : V) (l x : Str) (hf : Flat acc) (hx : x ≠ []) :
    Flat (merge dk acc (cellV (some l, x))) ∧ isStrV (merge dk acc (cellV (some l, x))) = false ∧
      ∀ q, readLang dk (merge dk acc (cellV (some l, x))) q = if q = l then some x else readLang dk acc q := by
  have hsingle := flatD_single l x hx
  cases hf with
  | none =>
    simp only [cellV, merge_none_left]
    refine ⟨Flat.dict _ (by intro h; cases h) hsingle, rfl, fun q => ?_⟩
    by_cases hq : q = l <;> simp [readLang, Kvs.get, hq]
  | str u0 h0 =>
    by_cases hl : l = dk
    · subst hl
      simp only [cellV]
      rw [default_suffix_wins_after l u0 _ h0 (by simp [Kvs.has])]
      refine ⟨Flat.dict _ (by intro h; cases h) hsingle, rfl, fun q => ?_⟩
      by_cases hq : q = l <;> simp [readLang, Kvs.get, hq]
    · have hh : (Kvs.cons l (V.str x) Kvs.nil).has dk = false := by
        simp [Kvs.has]; exact fun h => hl h.symm
      simp only [cellV]
      rw [unsuffixed_is_default_after dk u0 _ h0 (by intro h; cases h) hh]
      refine ⟨Flat.dict _ (by intro h; cases h) (flatD_cons _ dk u0 h0 hsingle), rfl, fun q => ?_⟩
      by_cases hq : q = l
      · subst hq; simp [readLang, Kvs.get, hl]
      · by_cases hqd : q = dk
        · subst hqd; simp [readLang, Kvs.get, hq]
        · simp [readLang, Kvs.get, hq, hqd]
  | dict m hne hm =>
    simp only [cellV]
    rw [merge_dict_single]
    refine ⟨Flat.dict _ (ne_nil_of_has (q := l) (by simp [mergeTop_has])) (flatD_mergeTop dk m l x hx hm), rfl, fun q => ?_⟩
    simp only [readLang, mergeTop_get]
    by_cases hq : q = l
    · subst hq; simp [merge_flatD_get dk hm q hx]
    · simp [hq]

/-- merging the cells of one column onto a flat value gives a flat value in which every language reads its suffixed cell, else
what was there, else — for the default language — the unsuffixed cell -/
theorem column_reading_from (dk : Str) : ∀ (cells : List ColCell) (acc : V),
    Flat acc → (∀ c ∈ cells, c.2 ≠ []) → (cells.map (·.1)).Nodup →
    (isStrV acc = true → ∀ c ∈ cells, c.1 ≠ none) →
    Flat (colVal dk acc cells) ∧ ∀ q, readLang dk (colVal dk acc cells) q = readFrom dk acc cells q
  | [], acc, hf, _, _, _ => ⟨hf, fun q => by cases h : readLang dk acc q <;> simp [colVal, readFrom, findLang, h]⟩
  | c :: cs, acc, hf, hne, hnd, hstr => by
    obtain ⟨hnotin, hnd'⟩ := List.nodup_cons.mp hnd
    have hfresh : findLang cs c.1 = none := (findLang_eq_get c.1 cs).trans (AList.get_eq_none_iff.mpr hnotin)
    have hne' : ∀ d ∈ cs, d.2 ≠ [] := fun d hd => hne d (by simp [hd])
    have hx : c.2 ≠ [] := hne c (by simp)
    rcases c with ⟨_ | l, x⟩
    · have hs : isStrV acc = false := Bool.eq_false_iff.mpr fun h => hstr h (none, x) (by simp) rfl
      obtain ⟨hf', hrd⟩ := merge_str_reads dk acc x hf hx hs
      have hstr' : isStrV (merge dk acc (.str x)) = true → ∀ d ∈ cs, d.1 ≠ none :=
        fun _ d hd hdn => hnotin (List.mem_map.mpr ⟨d, hd, by simpa using hdn⟩)
      obtain ⟨hfl, hread⟩ := column_reading_from dk cs _ hf' hne' hnd' hstr'
      -- reading `cs` from the merged value is reading `c :: cs` from `acc`: no cell of `cs` has the key of `c`
      refine ⟨hfl, fun q => (hread q).trans ?_⟩
      simp only [readFrom, findLang_cons, hfresh, hrd q]
      by_cases hq : q = dk <;> cases findLang cs (some q) <;> cases readLang dk acc q <;> simp [hq]
    · obtain ⟨hf', hs', hrd⟩ := merge_single_reads dk acc l x hf hx
      obtain ⟨hfl, hread⟩ := column_reading_from dk cs _ hf' hne' hnd' (by rw [hs']; intro h; cases h)
      refine ⟨hfl, fun q => (hread q).trans ?_⟩
      simp only [readFrom, findLang_cons, hrd q]
      by_cases hq : q = l
      · subst hq; simp [hfresh]
      · have : ¬ some l = some q := fun h => hq (Option.some.inj h).symm
        simp [hq, this]

theorem colVal_flat (dk : Str) (cells : List ColCell) (acc : V) (hf : Flat acc) (hne : ∀ c ∈ cells, c.2 ≠ [])
    (hnd : (cells.map (·.1)).Nodup) (hstr : isStrV acc = true → ∀ c ∈ cells, c.1 ≠ none) : Flat (colVal dk acc cells) :=
  (column_reading_from dk cells acc hf hne hnd hstr).1

/-- the effective reading of a column is the spec's reading of its cells, for any number of languages and any column order -/
theorem column_reading (dk : Str) (cells : List ColCell) (hne : ∀ c ∈ cells, c.2 ≠ []) (hnd : (cells.map (·.1)).Nodup) (q : Str) :
    readLang dk (colVal dk .none cells) q = specRead dk cells q := by
  rw [(column_reading_from dk cells .none Flat.none hne hnd (by intro h; cases h)).2 q]
  simp [readFrom, specRead, readLang]

/-- permuting the columns of one column group — unsuffixed and any number of suffixed ones, distinct headers — does not change
what any language reads (true of `merge_dicts` as of /repo b0e6b55) -/
theorem column_order_independent (dk : Str) (cells cells' : List ColCell) (hp : cells.Perm cells')
    (hne : ∀ c ∈ cells, c.2 ≠ []) (hnd : (cells.map (·.1)).Nodup) (q : Str) :
    readLang dk (colVal dk .none cells) q = readLang dk (colVal dk .none cells') q := by
  have hnd' : (cells'.map (·.1)).Nodup := (hp.map _).nodup_iff.mp hnd
  have hne' : ∀ c ∈ cells', c.2 ≠ [] := fun c hc => hne c (hp.mem_iff.mpr hc)
  rw [column_reading dk cells hne hnd q, column_reading dk cells' hne' hnd' q]
  simp only [specRead, findLang_eq_get, AList.get_perm hp hnd]

/-- unsuffixed, another language, then the default language's own column (the shape b0e6b55 repaired): the default language
reads its suffixed text -/
example : readLang "fr".toList (colVal "fr".toList .none
    [(none, "A".toList), (some "en".toList, "Aen".toList), (some "fr".toList, "Afr".toList)]) "fr".toList = some "Afr".toList := by
  rw [column_reading _ _ (by decide) (by decide)]; decide

example : readLang "fr".toList (colVal "fr".toList .none
      [(none, "A".toList), (some "en".toList, "Aen".toList), (some "fr".toList, "Afr".toList)]) "fr".toList =
    readLang "fr".toList (colVal "fr".toList .none
      [(some "fr".toList, "Afr".toList), (none, "A".toList), (some "en".toList, "Aen".toList)]) "fr".toList :=
  column_order_independent _ _ _ (by decide) (by decide) (by decide) _

/-- the cells of column `q` of a row, as (language suffix, text), for headers with at most one token after the column -/
def colCells (hk : List (Str × List Str)) (q : Str) : List (Str × Str) → List ColCell
  | [] => []
  | (h, v) :: rest =>
    match lookup h hk with
    | some [t] => if q = t then (none, v) :: colCells hk q rest else colCells hk q rest
    | some [t, l] => if q = t then (some l, v) :: colCells hk q rest else colCells hk q rest
    | _ => colCells hk q rest

/-- for a column whose headers are `q` or `q::language` (label, hint, guidance_hint; label of choices), what `process_row`
leaves in the column is the merge of its (language, text) cells -/
theorem colFold_eq_colVal (dk : Str) (hk : List (Str × List Str)) (q : Str) : ∀ (row : List (Str × Str)) (acc : V),
    (∀ c ∈ row, ∀ t ts, lookup c.1 hk = some (t :: ts) → q = t → ts.length ≤ 1) →
    colFold dk hk q acc row = colVal dk acc (colCells hk q row)
  | [], acc, _ => by simp [colFold, colCells, colVal]
  | (h, v) :: rest, acc, hyp => by
    have ih := fun acc' => colFold_eq_colVal dk hk q rest acc' fun c hc => hyp c (by simp [hc])
    cases hl : lookup h hk with
    | none => simp [colFold, colCells, hl, ih]
    | some toks =>
      rcases toks with _ | ⟨t, ts⟩
      · simp [colFold, colCells, hl, ih]
      · by_cases hq : q = t
        · subst hq
          have hlen := hyp (h, v) (by simp) q ts hl rfl
          rcases ts with _ | ⟨l, _ | ⟨_, _⟩⟩
          · simp [colFold, colCells, hl, ih, colVal, cellV, nest]
          · simp [colFold, colCells, hl, ih, colVal, cellV, nest]
          · simp at hlen
        · rcases ts with _ | ⟨l, _ | ⟨_, _⟩⟩ <;> simp [colFold, colCells, hl, hq, ih]

/-- `row_grouping` read off the grouped row `process_row` returned -/
theorem processRow_get {dk : Str} {hk : List (Str × List Str)} {row : List (Str × Str)} {out : Kvs}
    (hwf : ∀ c ∈ row, c.1 ≠ "__row".toList ∧ ∃ t ts, lookup c.1 hk = some (t :: ts)) (hnc : NoClash dk hk .nil row)
    (hout : processRow dk hk row = .ok out) (q : Str) : out.get q = colFold dk hk q .none row := by
  obtain ⟨out', hout', hget⟩ := row_grouping dk hk row .nil hwf hnc
  cases hout.symm.trans hout'
  exact hget q

/-- … and, for a column whose headers are `q` / `q::language`, as the merge of its cells -/
theorem processRow_col {dk : Str} {hk : List (Str × List Str)} {row : List (Str × Str)} {out : Kvs}
    (hwf : ∀ c ∈ row, c.1 ≠ "__row".toList ∧ ∃ t ts, lookup c.1 hk = some (t :: ts)) (hnc : NoClash dk hk .nil row)
    (hout : processRow dk hk row = .ok out) {q : Str}
    (hflat : ∀ c ∈ row, ∀ t ts, lookup c.1 hk = some (t :: ts) → q = t → ts.length ≤ 1) :
    out.get q = colVal dk .none (colCells hk q row) := by
  rw [processRow_get hwf hnc hout, colFold_eq_colVal dk hk q row _ hflat]

/-- `d.get(k)` of a group column value (`media`, `bind`): `None` unless the value is a dict -/
def getK : V → Str → V
  | .dict m, k => m.get k
  | _, _ => .none

/-- the cells of sub-column `g::k` of a row, as (language suffix, text): headers `g::k` and `g::k::language`
(`media::image::fr`, `bind::jr:constraintMsg::fr`, i.e. the aliases image / constraint_message / …) -/
def subCells (hk : List (Str × List Str)) (g k : Str) : List (Str × Str) → List ColCell
  | [] => []
  | (h, v) :: rest =>
    match lookup h hk with
    | some [t, a] => if g = t ∧ k = a then (none, v) :: subCells hk g k rest else subCells hk g k rest
    | some [t, a, l] => if g = t ∧ k = a then (some l, v) :: subCells hk g k rest else subCells hk g k rest
    | _ => subCells hk g k rest

def isGroupVal : V → Prop
  | .none => True
  | .dict _ => True
  | .str _ => False

theorem getK_merge_single (dk : Str) (acc : V) (a : Str) (w : V) (k : Str) (hacc : isGroupVal acc) :
    getK (merge dk acc (.dict (.cons a w .nil))) k = (if k = a then merge dk (getK acc k) w else getK acc k) ∧
    isGroupVal (merge dk acc (.dict (.cons a w .nil))) := by
  cases acc with
  | none =>
    rw [merge_none_left]
    refine ⟨?_, trivial⟩
    by_cases h : k = a <;> simp [getK, Kvs.get, h, merge_none_left]
  | str s => exact absurd hacc (by simp [isGroupVal])
  | dict m =>
    rw [merge_dict_single]
    refine ⟨?_, trivial⟩
    by_cases h : k = a
    · subst h; simp [getK, mergeTop_get]
    · simp [getK, mergeTop_get, h]

/-- for a group column `g` whose headers have one or two more tokens (`g::k`, `g::k::language`), key `k` of what `process_row`
leaves in column `g` is the merge, in column order, of the cells of sub-column `g::k`; other sub-columns do not touch it -/
theorem group_colFold (dk : Str) (hk : List (Str × List Str)) (g k : Str) : ∀ (row : List (Str × Str)) (acc : V),
    isGroupVal acc →
    (∀ c ∈ row, ∀ t ts, lookup c.1 hk = some (t :: ts) → g = t → 1 ≤ ts.length ∧ ts.length ≤ 2) →
    getK (colFold dk hk g acc row) k = colVal dk (getK acc k) (subCells hk g k row)
  | [], acc, _, _ => by simp [colFold, subCells, colVal]
  | (h, v) :: rest, acc, hacc, hyp => by
    have ih := fun acc' ha => group_colFold dk hk g k rest acc' ha fun c hc => hyp c (by simp [hc])
    cases hl : lookup h hk with
    | none => simp [colFold, subCells, hl, ih acc hacc]
    | some toks =>
      rcases toks with _ | ⟨t, ts⟩
      · simp [colFold, subCells, hl, ih acc hacc]
      · by_cases hq : g = t
        · -- a cell of the group: `nest (a :: ts') v = {a: nest ts' v}` reaches key `k` of the group iff `k = a`
          subst hq
          have hlen := hyp (h, v) (by simp) g ts hl rfl
          rcases ts with _ | ⟨a, ts'⟩
          · simp at hlen
          · obtain ⟨hget, hgrp⟩ := getK_merge_single dk acc a (nest ts' v) k hacc
            simp only [colFold, hl, if_true, nest]
            rw [ih _ hgrp, hget]
            rcases ts' with _ | ⟨l, _ | ⟨_, _⟩⟩
            · by_cases hka : k = a <;> simp [subCells, hl, hka, colVal, cellV, nest]
            · by_cases hka : k = a <;> simp [subCells, hl, hka, colVal, cellV, nest]
            · simp at hlen
        · rcases ts with _ | ⟨a, _ | ⟨l, _ | ⟨_, _⟩⟩⟩ <;> simp [colFold, subCells, hl, hq, ih acc hacc]

/-- media and message columns: every language reads, under `g::k` of the grouped row, the spec's cell of sub-column `g::k`
(suffixed, else the unsuffixed one for the default language), in any column order -/
theorem group_column_reading (dk : Str) (hk : List (Str × List Str)) (g k : Str) (row : List (Str × Str))
    (hyp : ∀ c ∈ row, ∀ t ts, lookup c.1 hk = some (t :: ts) → g = t → 1 ≤ ts.length ∧ ts.length ≤ 2)
    (hne : ∀ c ∈ subCells hk g k row, c.2 ≠ []) (hnd : ((subCells hk g k row).map (·.1)).Nodup) (q : Str) :
    readLang dk (getK (colFold dk hk g .none row) k) q = specRead dk (subCells hk g k row) q := by
  rw [group_colFold dk hk g k row .none trivial hyp]
  exact column_reading dk _ hne hnd q

def hkM : List (Str × List Str) :=
  [("image".toList, ["media".toList, "image".toList]), ("image::fr".toList, ["media".toList, "image".toList, "fr".toList]),
   ("audio::fr".toList, ["media".toList, "audio".toList, "fr".toList])]
def rowM : List (Str × Str) :=
  [("image::fr".toList, "f.png".toList), ("audio::fr".toList, "f.mp3".toList), ("image".toList, "u.png".toList)]

/-- image suffixed before unsuffixed, an audio column in between; `default` reads the unsuffixed image -/
example : readLang "default".toList (getK (colFold "default".toList hkM "media".toList .none rowM) "image".toList) "default".toList
    = some "u.png".toList := by
  have hyp : ∀ c ∈ rowM, ∀ t ts, lookup c.1 hkM = some (t :: ts) → "media".toList = t → 1 ≤ ts.length ∧ ts.length ≤ 2 := by
    intro c hc t ts hl _
    simp only [rowM, List.mem_cons, List.mem_nil_iff, or_false] at hc
    rcases hc with rfl | rfl | rfl
    · have h2 : lookup "image::fr".toList hkM = some ["media".toList, "image".toList, "fr".toList] := by decide
      rw [h2] at hl; cases hl; simp
    · have h2 : lookup "audio::fr".toList hkM = some ["media".toList, "audio".toList, "fr".toList] := by decide
      rw [h2] at hl; cases hl; simp
    · have h2 : lookup "image".toList hkM = some ["media".toList, "image".toList] := by decide
      rw [h2] at hl; cases hl; simp
  rw [group_column_reading _ _ _ _ _ hyp (by decide) (by decide)]; decide

/-! Facts about the regenerated tables (re-checked against /repo's source on every run), evaluated on `List Char` literals
(`toList_lit`, see Literals.lean). -/

/-- the translatable one-token columns are expected columns of the survey sheet and are not aliased -/
theorem survey_text_columns_plain :
    (["label", "hint", "guidance_hint", "media", "bind"].all fun c =>
      surveyColumns.contains c.toList && (lookup c.toList surveyAliases).isNone) = true := by
  simp only [List.all_cons, List.all_nil, surveyAliases, strTable, Gen.aliasSurveyHeader, surveyColumns, Gen.selectQuestionFields, List.map, toList_lit rfl]
  decide +kernel

/-- the message and media spellings de-alias to the grouped headers the text layer reads -/
theorem survey_aliases_of_translatable :
    lookup "constraint_message".toList surveyAliases = some ["bind".toList, "jr:constraintMsg".toList] ∧
    lookup "required_message".toList surveyAliases = some ["bind".toList, "jr:requiredMsg".toList] ∧
    lookup "image".toList surveyAliases = some ["media".toList, "image".toList] ∧
    lookup "audio".toList surveyAliases = some ["media".toList, "audio".toList] ∧
    lookup "video".toList surveyAliases = some ["media".toList, "video".toList] ∧
    lookup "big-image".toList surveyAliases = some ["media".toList, "big-image".toList] ∧
    lookup "caption".toList surveyAliases = some ["label".toList] := by
  simp only [surveyAliases, strTable, Gen.aliasSurveyHeader, List.map, toList_lit rfl]
  decide +kernel

theorem choices_aliases_of_translatable :
    listColumns.contains "label".toList = true ∧ listColumns.contains "media".toList = true ∧
    lookup "image".toList listAliases = some ["media".toList, "image".toList] ∧
    lookup "audio".toList listAliases = some ["media".toList, "audio".toList] ∧
    lookup "list_name".toList listAliases = some ["list name".toList] := by
  simp only [listAliases, strTable, Gen.aliasListHeader, listColumns, Gen.optionFields, List.map, toList_lit rfl]
  decide +kernel

/-- `process_header` on the documented header shapes (both delimiters, spaces, aliases, the `jr:` case) -/
theorem process_header_shapes :
    (processHeader "label::fr".toList true surveyAliases surveyColumns).toOption = some (some "label".toList, ["label".toList, "fr".toList]) ∧
    (processHeader "Label : French (fr)".toList false surveyAliases surveyColumns).toOption = some (some "label".toList, ["label".toList, "French (fr)".toList]) ∧
    (processHeader "constraint message :: fr".toList true surveyAliases surveyColumns).toOption
      = some (none, ["bind".toList, "jr:constraintMsg".toList, "fr".toList]) ∧
    (processHeader "bind:jr:requiredMsg:fr".toList false surveyAliases surveyColumns).toOption
      = some (some "bind".toList, ["bind".toList, "jr:requiredMsg".toList, "fr".toList]) ∧
    (processHeader "image::fr".toList true listAliases listColumns).toOption = some (none, ["media".toList, "image".toList, "fr".toList]) := by
  simp only [surveyAliases, listAliases, strTable, Gen.aliasSurveyHeader, Gen.aliasListHeader, surveyColumns, listColumns,
    Gen.selectQuestionFields, Gen.optionFields, List.map, toList_lit rfl]
  decide +kernel

end Pyxv.C08
