import Pyxv.Model.Validator
/-!
# Lemmas about `Pyxv.Validator`

The file system as a store; `dedupAdj`; and where the two stages of the cleaner's path substitution may be cut: the
tokeniser `toks` in front of a non-segment character, the renderer `renderToks` at a token that is not a unit.
-/
namespace Pyxv.Validator

theorem unlink_unlink (fs : FS) (p : Path) : FS.unlink (FS.unlink fs p) p = FS.unlink fs p := by
  simp [FS.unlink, List.filter_filter]

theorem unlink_write (fs : FS) (p : Path) (c : Str) : FS.unlink (FS.write fs p c) p = FS.unlink fs p := by
  simp [FS.write, FS.unlink, List.filter_filter]

theorem read_none_iff (fs : FS) (p : Path) : FS.read fs p = none ↔ ∀ e ∈ fs, e.1 ≠ p := by
  simp [FS.read, List.find?_eq_none]

theorem unlink_fresh (fs : FS) (p : Path) (h : FS.read fs p = none) : FS.unlink fs p = fs := by
  rw [read_none_iff] at h
  simp only [FS.unlink, List.filter_eq_self]
  intro e he
  simpa using h e he

theorem read_write_same (fs : FS) (p : Path) (c : Str) : FS.read (FS.write fs p c) p = some c := by
  simp [FS.read, FS.write]

theorem read_unlink_same (fs : FS) (p : Path) : FS.read (FS.unlink fs p) p = none := by
  rw [read_none_iff]
  intro e he
  simp [FS.unlink] at he
  exact he.2

theorem read_write_other (fs : FS) (p q : Path) (c : Str) (h : q ≠ p) :
    FS.read (FS.write fs p c) q = FS.read fs q := by
  have h' : ¬ p = q := fun e => h e.symm
  simp only [FS.read, FS.write, FS.unlink, List.find?_cons, h', decide_false, List.find?_filter]
  congr 2
  funext a
  by_cases ha : a.1 = q
  · subst ha
    simp [h]
  · simp [ha]

theorem temps_unlink_file (fs : FS) (d n : Str) : FS.temps (FS.unlink fs (.file d n)) = FS.temps fs := by
  simp only [FS.temps, FS.unlink, List.filter_filter]
  apply List.filter_congr
  intro e _
  cases h : e.1 <;> simp [Path.isTmp]

theorem temps_write_file (fs : FS) (d n c : Str) : FS.temps (FS.write fs (.file d n) c) = FS.temps fs := by
  rw [← temps_unlink_file fs d n]
  simp [FS.temps, FS.write, Path.isTmp]

def noAdjDup : List Str → Bool
  | x :: y :: rest => x ≠ y && noAdjDup (y :: rest)
  | _ => true

theorem dedupAdj_head (x : Str) (l : List Str) : ∃ t, dedupAdj (x :: l) = x :: t := by
  induction l generalizing x with
  | nil => exact ⟨[], rfl⟩
  | cons y rest ih =>
    by_cases h : x = y
    · subst h
      simpa [dedupAdj] using ih x
    · exact ⟨dedupAdj (y :: rest), by simp [dedupAdj, h]⟩

theorem dedupAdj_noAdjDup (l : List Str) : noAdjDup (dedupAdj l) = true := by
  fun_induction dedupAdj l with
  | case1 => rfl
  | case2 x => rfl
  | case3 x rest ih => exact ih
  | case4 x y rest h ih =>
    obtain ⟨t, ht⟩ := dedupAdj_head y rest
    rw [ht] at ih ⊢
    simp [noAdjDup, h, ih]

theorem dedupAdj_mem (l : List Str) (a : Str) : a ∈ dedupAdj l ↔ a ∈ l := by
  fun_induction dedupAdj l with
  | case1 => exact Iff.rfl
  | case2 x => exact Iff.rfl
  | case3 x rest ih => simp [ih]
  | case4 x y rest h ih => rw [List.mem_cons, ih, ← List.mem_cons]

theorem dedupAdj_sublist (l : List Str) : (dedupAdj l).Sublist l := by
  fun_induction dedupAdj l with
  | case1 => exact .slnil
  | case2 x => exact List.Sublist.refl _
  | case3 x rest ih => exact List.Sublist.cons _ ih
  | case4 x y rest h ih => exact List.Sublist.cons_cons _ ih

theorem pushChar_not_run (c : Char) (t : List Tok) (h : isSeg c = false) :
    ∀ s r, pushChar c t ≠ .run s :: r := by
  intro s r
  unfold pushChar
  simp only [h, Bool.false_eq_true, ↓reduceIte]
  split
  · split <;> simp
  · simp

theorem toks_head_not_run (x : Str) (h : ∀ c r, x = c :: r → isSeg c = false) :
    ∀ s r, toks x ≠ .run s :: r := by
  cases x with
  | nil => intro s r; simp [toks]
  | cons c cs => exact pushChar_not_run c (toks cs) (h c cs rfl)

/-- `pushChar` looks at the first token only, and only to see whether it is a run -/
theorem pushChar_append (c : Char) (a b : List Tok) (hb : ∀ s r, b ≠ .run s :: r) :
    pushChar c (a ++ b) = pushChar c a ++ b := by
  by_cases h1 : isSeg c = true
  · cases a with
    | cons t r => cases t <;> simp [pushChar, h1]
    | nil =>
      cases b with
      | nil => simp
      | cons t r =>
        cases t with
        | run s => exact absurd rfl (hb s r)
        | unit s => simp [pushChar, h1]
        | ch d => simp [pushChar, h1]
  · by_cases h2 : c = '/'
    · subst h2
      cases a with
      | cons t r => cases t <;> simp [pushChar, h1]
      | nil =>
        cases b with
        | nil => simp
        | cons t r =>
          cases t with
          | run s => exact absurd rfl (hb s r)
          | unit s => simp [pushChar, h1]
          | ch d => simp [pushChar, h1]
    · simp [pushChar, h1, h2]

/-- `toks` folds from the right and a character only merges into a run that follows it: the text may be cut in front
    of any non-segment character -/
theorem toks_append (pre x : Str) (h : ∀ c r, x = c :: r → isSeg c = false) :
    toks (pre ++ x) = toks pre ++ toks x := by
  induction pre with
  | nil => simp [toks]
  | cons c cs ih =>
    simp only [List.cons_append, toks, ih]
    exact pushChar_append c (toks cs) (toks x) (toks_head_not_run x h)

theorem toks_append_cons (pre : Str) (c : Char) (rest : Str) (h : isSeg c = false) :
    toks (pre ++ c :: rest) = toks pre ++ toks (c :: rest) :=
  toks_append pre _ fun _ _ e => (List.cons.inj e).1 ▸ h

theorem toks_snoc_ch (x : Str) (c : Char) (hc : isSeg c = false) : toks (x ++ [c]) = toks x ++ [.ch c] := by
  rw [toks_append_cons x c [] hc]
  simp [toks, pushChar, hc]

theorem toks_run (s : Str) (r : Str) (hs : s ≠ []) (hall : ∀ c ∈ s, isSeg c = true)
    (hr : ∀ s' t, toks r ≠ .run s' :: t) : toks (s ++ r) = .run s :: toks r := by
  induction s with
  | nil => exact absurd rfl hs
  | cons c cs ih =>
    have hc : isSeg c = true := hall c (by simp)
    cases cs with
    | nil =>
      simp only [List.cons_append, List.nil_append, toks, pushChar, hc, ↓reduceIte]
    | cons d ds =>
      have := ih (by simp) (fun x hx => hall x (by simp [hx]))
      simp only [List.cons_append] at this ⊢
      simp only [toks] at this ⊢
      rw [this]
      simp [pushChar, hc]

/-- table fact: `/` is no path-segment character of ERROR_MESSAGE_REGEX -/
theorem slash_not_seg : isSeg '/' = false := by decide +kernel

theorem toks_unit (s : Str) (r : Str) (hs : s ≠ []) (hall : ∀ c ∈ s, isSeg c = true)
    (hr : ∀ s' t, toks r ≠ .run s' :: t) : toks ('/' :: s ++ r) = .unit s :: toks r := by
  have := toks_run s r hs hall hr
  simp only [List.cons_append, toks] at this ⊢
  rw [this]
  simp [pushChar, slash_not_seg]

theorem chainText_append (a b : List Str) : chainText (a ++ b) = chainText a ++ chainText b := by
  induction a with
  | nil => rfl
  | cons s rest ih => simp [chainText, ih]

theorem toks_chain (segs : List Str) (post : Str)
    (hsegs : ∀ s ∈ segs, s ≠ [] ∧ ∀ c ∈ s, isSeg c = true)
    (hpost : ∀ c r, post = c :: r → isSeg c = false) :
    toks (chainText segs ++ post) = segs.map .unit ++ toks post := by
  induction segs with
  | nil => simp [chainText]
  | cons s rest ih =>
    have ih' := ih (fun x hx => hsegs x (by simp [hx]))
    have hs := hsegs s (by simp)
    have hr : ∀ s' t, toks (chainText rest ++ post) ≠ .run s' :: t := by
      rw [ih']
      cases rest with
      | nil => simpa using toks_head_not_run post hpost
      | cons x xs => intro s' t; simp
    have := toks_unit s (chainText rest ++ post) hs.1 hs.2 hr
    simp only [chainText, List.cons_append, List.append_assoc, List.map_cons] at this ⊢
    rw [this, ih']

def accOf (ts : List Tok) : Acc := ts.foldr stepTok ⟨[], []⟩

theorem foldr_out (ts : List Tok) (o : Str) :
    ts.foldr stepTok ⟨[], o⟩ = ⟨(accOf ts).chain, (accOf ts).out ++ o⟩ := by
  induction ts with
  | nil => simp [accOf]
  | cons t rest ih =>
    simp only [List.foldr_cons, accOf] at ih ⊢
    rw [ih]
    cases t <;> simp [stepTok, List.append_assoc]

theorem foldr_units (segs : List Str) (a : Acc) :
    (segs.map Tok.unit).foldr stepTok a = ⟨segs ++ a.chain, a.out⟩ := by
  induction segs with
  | nil => simp
  | cons s rest ih => simp [List.foldr_cons, ih, stepTok]

theorem accOf_chain_nil_of_ch (c : Char) (r : List Tok) : (accOf (.ch c :: r)).chain = [] := by
  simp [accOf, stepTok]

theorem renderToks_eq_out_of_ch (c : Char) (r : List Tok) : renderToks (.ch c :: r) = (accOf (.ch c :: r)).out := by
  simp [renderToks, accOf, stepTok, flush, chainText]

theorem renderToks_def (ts : List Tok) : renderToks ts = flush (accOf ts).chain ++ (accOf ts).out := rfl

/-- a token that is not a unit (it empties the chain and puts its text `x` in front) cuts the rendering in two -/
theorem renderToks_split (a b : List Tok) (t : Tok) (x : Str)
    (ht : ∀ acc, stepTok t acc = ⟨[], x ++ (flush acc.chain ++ acc.out)⟩) :
    renderToks (a ++ t :: b) = renderToks a ++ x ++ renderToks b := by
  have hacc : accOf (a ++ t :: b) = ⟨(accOf a).chain, (accOf a).out ++ (x ++ renderToks b)⟩ := by
    rw [accOf, List.foldr_append, List.foldr_cons, ht]
    exact foldr_out _ _
  rw [renderToks_def, hacc, renderToks_def a]
  simp [List.append_assoc]

theorem renderToks_ch_split (a b : List Tok) (c : Char) :
    renderToks (a ++ .ch c :: b) = renderToks a ++ c :: renderToks b := by
  simpa using renderToks_split a b (.ch c) [c] (fun _ => rfl)

theorem renderToks_run_split (a b : List Tok) (s : Str) :
    renderToks (a ++ .run s :: b) = renderToks a ++ s ++ renderToks b :=
  renderToks_split a b (.run s) s (fun _ => rfl)

theorem renderToks_chain (a p : List Tok) (segs : List Str)
    (ha : a = [] ∨ ∃ a' c, a = a' ++ [.ch c])
    (hp : p = [] ∨ ∃ c r, p = .ch c :: r) :
    renderToks (a ++ segs.map .unit ++ p) = renderToks a ++ flush segs ++ renderToks p := by
  have hP : p.foldr stepTok ⟨[], []⟩ = ⟨[], renderToks p⟩ := by
    rcases hp with rfl | ⟨c, r, rfl⟩
    · simp [renderToks, flush, chainText]
    · simp [renderToks, stepTok, flush, chainText]
  have hMP : renderToks (segs.map Tok.unit ++ p) = flush segs ++ renderToks p := by
    rw [renderToks_def, accOf, List.foldr_append, hP, foldr_units]
    simp
  have hnil : renderToks [] = [] := rfl
  rcases ha with rfl | ⟨a', c, rfl⟩
  · simpa [hnil] using hMP
  · rw [List.append_assoc, List.append_assoc, List.singleton_append, renderToks_ch_split, hMP, renderToks_ch_split, hnil]
    simp [List.append_assoc]

end Pyxv.Validator
