import Pyxv.Proofs.C01Names
import Pyxv.Proofs.Convert
import Pyxv.Proofs.BaseLemmas
/-!
# C01: every element name of the instance tree is a valid name — from the cells, for the whole tree

C01Names is about one classified row.  Here the statement is lifted through the whole row pipeline `Rows.formOut`
(classify every row → begin/end stack `parseRows` → meta block `withMeta` → `instanceOf`): for every row list and
nesting depth, every name of the element tree — `name` cells, the generated note / `_count` / `_other` names, the
meta block's names — satisfies `is_xml_tag`.

Then the `]`-hypothesis (complement of open finding F5) of `convert_c01_sources` for the element tree is reduced to
the `name` cells: `is_xml_tag` lets a `]` through only inside the typo literal `À-Ö]` and every generated name is
`]`-free, so only `name` cells containing that literal can put a `]` into an element name (`convert_c01_cells`).
-/
namespace Pyxv.C01
open Pyxv Pyxv.Xml Pyxv.Asm Pyxv.Rows Pyxv.Form

mutual
/-- every name of the element tree (also of nodes without instance node) satisfies `p` -/
def itAll (p : Str → Bool) : Item → Bool
  | .q d => p d.name
  | .sec _ n _ ks => p n && itAllL p ks
def itAllL (p : Str → Bool) : List Item → Bool
  | [] => true
  | k :: ks => itAll p k && itAllL p ks
end

theorem itAllL_eq_heads (p : Str → Bool) : ∀ its, itAllL p its = (headsL its).all fun h => p h.name :=
  all_eq_heads _ (fun _ => rfl) (fun _ _ _ _ => rfl) rfl (fun _ _ => rfl)

theorem allNamesL_of_itAllL (p : Str → Bool) : ∀ (its : List Item), itAllL p its = true → ∀ x ∈ allNamesL its, p x = true := by
  intro its h x hx
  rw [itAllL_eq_heads, List.all_eq_true] at h
  rw [allNamesL_eq_heads] at hx
  obtain ⟨hd, hm, hx⟩ := List.mem_flatMap.mp hx
  split at hx
  · cases List.mem_singleton.mp hx; exact h hd hm
  · cases hx

theorem allNames_of_itAll (p : Str → Bool) : ∀ (it : Item), itAll p it = true → ∀ x ∈ allNames it, p x = true := by
  intro it h
  simpa [allNamesL] using allNamesL_of_itAllL p [it] (by simpa [itAllL] using h)

theorem rowkAll_eq (p : Str → Bool) (k : RowK) : rowkAll p k = (rowHeads k).all fun h => p h.name := by
  cases k with
  | skip | end_ | bad => rfl
  | q d other => cases other <;> simp [rowkAll, rowHeads, optAll, optHeads, Head.name]
  | begin_ ct n b helper => cases helper <;> simp [rowkAll, rowHeads, optAll, optHeads, Head.name, Bool.and_comm]

/-- **the begin/end stack adds no name**: every name of the parsed element tree is a name of a classified row -/
theorem itAllL_parseRows (p : Str → Bool) (ks : List (Nat × RowK)) (items : List Item)
    (hk : ∀ k ∈ ks, rowkAll p k.2 = true) (h : parseRows ks = .ok items) : itAllL p items = true := by
  rw [itAllL_eq_heads, heads_parseRows h, List.all_flatMap, List.all_eq_true]
  exact fun k hm => rowkAll_eq p k.2 ▸ hk k hm

theorem noBr_of_isName (s : Str) (h : isName s = true) : noBr s = true := by
  rw [noBr, not_contains_of_all (by decide) (List.all_eq_true.mpr (nameChars_of_isName h))]; rfl

/-- **`is_xml_tag` lets a `]` through only inside the typo literal `À-Ö]`**: an accepted name that does not
    contain that four-character literal contains no `]` -/
theorem noBr_of_isXmlTag (s : Str) (h : isXmlTag s = true) (ht : TypoFree s) : noBr s = true := by
  rcases isXmlTag_typoFree s ht h with hnc | ⟨p, l, rfl, hp, hl⟩
  · exact noBr_of_isName s hnc.name
  · exact noBr_append p _ (noBr_of_isName p hp.name) (noBr_append [':'] l (by decide) (noBr_of_isName l hl.name))

#print axioms noBr_of_isXmlTag

-- the literal class is real: the literal itself is an accepted name with a `]` (finding F5)
example : isXmlTag typoLit = true ∧ noBr typoLit = false := by decide +kernel
example : noBr "esri:kids".toList = true :=
  noBr_of_isXmlTag _ (by decide +kernel) (typoFree_of_noBr _ (by decide))

theorem itAllL_map_q (p : Str → Bool) (l : List QData) : itAllL p (l.map Item.q) = l.all (fun d => p d.name) := by
  rw [eq_all_of_eqns (gL := itAllL p) rfl (fun _ _ => rfl), List.all_map]; rfl

/-- the names of the generated meta block -/
structure MetaNames (p : Str → Bool) : Prop where
  metaN : p "meta".toList = true
  audit : p "audit".toList = true
  iid : p "instanceID".toList = true
  iname : p "instanceName".toList = true

theorem itAllL_metaSec (p : Str → Bool) (M : MetaNames p) (rows : List Cells) (settings : Cells) :
    itAllL p (metaSec rows settings) = true := by
  unfold metaSec
  split
  · rfl
  · simp only [itAllL, itAll, M.metaN, Bool.true_and, Bool.and_true, itAllL_map_q, List.all_eq_true]
    intro d hd
    rcases (mem_metaKids hd).2.2.2 with e | e | e <;> rw [e]
    · exact M.audit
    · exact M.iid
    · exact M.iname

theorem metaNames_isXmlTag : MetaNames isXmlTag := by constructor <;> decide +kernel

theorem noBr_of_all_nmOk (t : Str) (h : t.all nmOk = true) : noBr t = true := by
  rw [noBr, not_contains_of_all (by decide) h]; rfl

theorem nameClosed_noBr : NameClosed noBr where
  count n h := noBr_append _ _ h (by decide)
  other n h := noBr_append _ _ h (by decide)
  note n := noBr_append _ _ (by decide) (noBr_of_all_nmOk _ (nmOk_digits n))

theorem metaNames_noBr : MetaNames noBr := by constructor <;> decide

/-- the pipeline preserves any suffix-closed predicate that the `name` cells and the meta names satisfy -/
theorem formOut_names (p : Str → Bool) (C : NameClosed p) (M : MetaNames p) (root : Str) (lists : List Str)
    (rows : List Cells) (settings : Cells) (o : FormOut)
    (hc : ∀ r ∈ rows, ∀ x, Rows.get r "name" = some x → isXmlTag x = true → p x = true)
    (h : formOut root lists rows settings = .ok o) : itAllL p (withMeta rows settings o.items) = true := by
  have h' : formOutN root lists (number 2 rows) settings = .ok o := formOut_eq_num root lists rows settings ▸ h
  rw [itAllL_eq_heads, List.all_eq_true]
  intro hd hm
  rcases formOutN_heads h' hd (by rwa [number_map_snd]) with ⟨nr, hnr, k, hk, hin⟩ | hmeta
  · exact List.all_eq_true.mp (rowkAll_eq p k ▸ rowkAll_of_active p C (hc nr.2 (mem_number hnr).2.2) hk) hd hin
  · rw [number_map_snd] at hmeta
    exact List.all_eq_true.mp (itAllL_eq_heads p _ ▸ itAllL_metaSec p M rows settings) hd hmeta

/-- **every element name of the tree built from the rows is a valid name** — for every row list, every nesting
    depth, including the generated `_count` / `_other` / note names and the meta block; no hypothesis on the cells -/
theorem tree_names_valid (root : Str) (lists : List Str) (rows : List Cells) (settings : Cells) (o : FormOut)
    (h : formOut root lists rows settings = .ok o) :
    ∀ x ∈ allNamesL (withMeta rows settings o.items), isXmlTag x = true :=
  allNamesL_of_itAllL isXmlTag _
    (formOut_names isXmlTag nameClosed_isXmlTag metaNames_isXmlTag root lists rows settings o (fun _ _ _ _ hx => hx) h)

/-- the same on the instance tree the pipeline emits (`FormOut.inst`: nodes and repeat templates), root included -/
theorem instance_tree_names_valid (root : Str) (lists : List Str) (rows : List Cells) (settings : Cells) (o : FormOut)
    (hroot : isXmlTag root = true) (h : formOut root lists rows settings = .ok o) : ntAll isXmlTag o.inst = true := by
  obtain ⟨ks, items, -, -, hi, hinst, -, -⟩ := formOut_ok root lists rows settings o h
  rw [hinst, instanceOf, ntAll_node, hroot, Bool.true_and, ← hi]
  exact ntAll_instKids isXmlTag false _ (tree_names_valid root lists rows settings o h)

/-- **`]` in the element tree comes from `name` cells containing the literal `À-Ö]` only**: if no `name` cell
    contains that literal, no name of the element tree contains `]` -/
theorem tree_names_noBr (root : Str) (lists : List Str) (rows : List Cells) (settings : Cells) (o : FormOut)
    (hcells : ∀ r ∈ rows, ∀ x, Rows.get r "name" = some x → TypoFree x)
    (h : formOut root lists rows settings = .ok o) :
    ∀ x ∈ allNamesL (withMeta rows settings o.items), noBr x = true :=
  allNamesL_of_itAllL noBr _
    (formOut_names noBr nameClosed_noBr metaNames_noBr root lists rows settings o
      (fun r hr x hx hv => noBr_of_isXmlTag x hv (hcells r hr x hx)) h)

#print axioms tree_names_valid
#print axioms instance_tree_names_valid
#print axioms tree_names_noBr

/-- the cell condition follows from the (stronger, decidable) "no `name` cell contains `]`" -/
def nameCellsNoBr (rows : List Cells) : Bool :=
  rows.all fun r => match Rows.get r "name" with | some x => noBr x | none => true

theorem cells_typoFree_of_noBr (rows : List Cells) (h : nameCellsNoBr rows = true) :
    ∀ r ∈ rows, ∀ x, Rows.get r "name" = some x → TypoFree x := by
  intro r hr x hx
  have := (List.all_eq_true.mp h) r hr
  rw [hx] at this
  exact typoFree_of_noBr x this

-- non-vacuity: a repeat with a generated `_count` helper, an `or_other`-free question, a nameless note, the meta block
def exRows : List Cells :=
  [ [("type".toList, "begin repeat".toList), ("name".toList, "kids".toList), ("control::jr:count".toList, "3".toList)],
    [("type".toList, "text".toList), ("name".toList, "esri:q".toList), ("label".toList, "Q".toList)],
    [("type".toList, "note".toList), ("label".toList, "N".toList)],
    [("type".toList, "end repeat".toList)] ]

def namesOf (r : Except FormErr FormOut) (rows : List Cells) : List Str :=
  match r with
  | .ok o => allNamesL (withMeta rows [] o.items)
  | .error _ => []

theorem ex_tree_names : namesOf (formOut "data".toList [] exRows []) exRows =
    ["kids_count", "kids", "esri:q", "generated_note_name_4", "meta", "instanceID"].map String.toList := by
  simp only [exRows, List.map]
  repeat rw [String.toList_ofList]
  decide +kernel

example : ∃ o, formOut "data".toList [] exRows [] = .ok o ∧ (allNamesL (withMeta exRows [] o.items)).length = 6 ∧
    (∀ x ∈ allNamesL (withMeta exRows [] o.items), isXmlTag x = true) ∧
    (∀ x ∈ allNamesL (withMeta exRows [] o.items), noBr x = true) ∧ ntAll isXmlTag o.inst = true := by
  have h := ex_tree_names
  cases ho : formOut "data".toList [] exRows [] with
  | error e => rw [ho] at h; simp [namesOf] at h
  | ok o =>
    rw [ho] at h
    simp only [namesOf] at h
    exact ⟨o, rfl, by rw [h]; rfl, tree_names_valid _ _ _ _ o ho,
      tree_names_noBr _ _ _ _ o (cells_typoFree_of_noBr exRows (by decide +kernel)) ho,
      instance_tree_names_valid _ _ _ _ o (by decide +kernel) ho⟩

end Pyxv.C01

namespace Pyxv.ConvertP
open Pyxv Pyxv.Form Pyxv.Rows Pyxv.Xml Pyxv.Asm Pyxv.Convert Pyxv.C01

/-- **C01 for the whole conversion, the element-tree part of the `]`-hypothesis stated on cells.**  As
    `convert_c01_sources`, with "the names of the element tree contain no `]`" replaced by "no `name` cell of the
    survey sheet contains the typo literal `À-Ö]`" (finding F5); all generated names are proved `]`-free. -/
theorem convert_c01_cells (wb : Workbook) (p : Bool) (text : Str) (h : convert wb p = .ok text)
    (hs : ∀ doc f lists rows drows o ditems, Trace wb doc f lists rows drows o ditems →
      HeaderNoBr f ∧ (∀ r ∈ rows, ∀ x, Rows.get r "name" = some x → TypoFree x) ∧
      noBrKids ((Choices.staticInsts [] (othersApplied (activeRows rows) lists)).map Choices.instNode ++
        bindNodesL (elsOf f.name (dWithMeta f.name rows ditems)) [(f.name, .group)] (dWithMeta f.name rows ditems)) = true ∧
      noBrKids (bodyNodesL (elsOf f.name (dWithMeta f.name rows ditems)) [f.name] ditems) = true) :
    holds text (normAttrVal (formId wb)) = true := by
  refine convert_c01_sources wb p text h ?_
  intro doc f lists rows drows o ditems T
  obtain ⟨h1, h2, h3, h4⟩ := hs doc f lists rows drows o ditems T
  exact ⟨h1, tree_names_noBr f.name (lists.map (·.1)) rows [] o h2 T.hform, h3, h4⟩

/-- every element name of the converted document's primary-instance tree (below a valid root name) is a valid name -/
theorem convert_instance_names_valid {wb : Workbook} {doc : Node} {f : Fields} {lists rows drows o ditems}
    (T : Trace wb doc f lists rows drows o ditems) (hroot : isXmlTag f.name = true) : ntAll isXmlTag o.inst = true :=
  instance_tree_names_valid f.name (lists.map (·.1)) rows [] o hroot T.hform

#print axioms convert_c01_cells
#print axioms convert_instance_names_valid

end Pyxv.ConvertP
