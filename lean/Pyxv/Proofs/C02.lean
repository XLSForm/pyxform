import Pyxv.Proofs.RowsLemmas
import Pyxv.Model.TableList
/-!
# C02 — model, instance and body agree: every nodeset/ref names one existing node

About the structural pipeline `Rows.formOut` (rows → begin/end stack → element tree with the generated `_count`,
`_other`, `meta` nodes → validation → instance / bind nodesets / body refs), for every sheet: no bound on rows or depth.
-/
namespace Pyxv.C02
open Pyxv Pyxv.Form Pyxv.Rows

/-- The closure argument, for a forest `items ++ extra` of which only `items` carries the body (`extra`: the meta block). -/
theorem closure (root : Str) (items extra : List Item) (hwf : wfL (items ++ extra) = true) :
    ∀ p ∈ bindPathsL [root] (items ++ extra) ++ bodyPathsL [root] items,
      resolves (instanceOf root (items ++ extra)) p = true := by
  intro p hp
  rw [bindPathsL_eq_nodes, bodyPathsL_eq_nodes] at hp
  have hsub : ∀ x ∈ nodesL [root] items, x ∈ nodesL [root] (items ++ extra) := fun x hx =>
    nodesL_append [root] items extra ▸ List.mem_append_left _ hx
  -- `p` is the path of a listed node `x` that has a bind or emits a control
  obtain ⟨x, hx, rfl, hb⟩ : ∃ x ∈ nodesL [root] (items ++ extra), x.1 = p ∧ (x.2.bind = true ∨ ctlAt x ≠ []) := by
    rcases List.mem_append.mp hp with hp | hp <;> obtain ⟨x, hx, hp⟩ := List.mem_flatMap.mp hp
    · unfold bindAt at hp
      split at hp
      · next hb => exact ⟨x, hx, (List.mem_singleton.mp hp).symm, .inl hb⟩
      · cases hp
    · obtain ⟨c, hc, rfl⟩ := List.mem_map.mp hp
      exact ⟨x, hsub x hx, (ctlAt_path hc).symm, .inr (List.ne_nil_of_mem hc)⟩
  exact resolves_of_mem_nodes root _ hx (Head.node_of_wf (p := x.1) (wf_of_mem_nodes hwf hx) hb)

/-- **Closure on numbered rows** (`formOutN`, the pipeline the checks run); `refs_resolve` is its instance at rows numbered from 2. -/
theorem refs_resolve_n (root : Str) (lists : List Str) (nrows : List (Nat × Cells)) (settings : Cells) (o : FormOut)
    (h : formOutN root lists nrows settings = .ok o) :
    ∀ p ∈ o.binds ++ o.body, resolves o.inst p = true := by
  have hall := formOutN_wf h
  obtain ⟨ks, items, -, -, -, rfl⟩ := formOutN_ok root lists nrows settings o h
  simp only [withMeta_eq] at hall ⊢
  exact closure root items _ hall

theorem siblings_unique_n (root : Str) (lists : List Str) (nrows : List (Nat × Cells)) (settings : Cells) (o : FormOut)
    (h : formOutN root lists nrows settings = .ok o) :
    sibsOK (withMeta (nrows.map (·.2)) settings o.items) = true := by
  obtain ⟨ks, items, _, _, hv, rfl⟩ := formOutN_ok root lists nrows settings o h
  exact sibsOK_of_validate root _ hv

/-- **Closure**: in an accepted form every bind nodeset and every body `ref`/`nodeset` (questions, groups, repeats, the
    generated `*_count` / `*_other` / meta nodes) resolves to a node of the primary instance. -/
theorem refs_resolve (root : Str) (lists : List Str) (rows : List Cells) (settings : Cells) (o : FormOut)
    (h : formOut root lists rows settings = .ok o) :
    ∀ p ∈ o.binds ++ o.body, resolves o.inst p = true :=
  refs_resolve_n root lists _ settings o (formOut_eq_num root lists rows settings ▸ h)

/-- **Sibling uniqueness**: in an accepted form sibling names are pairwise different, even ignoring case, at every level. -/
theorem siblings_unique (root : Str) (lists : List Str) (rows : List Cells) (settings : Cells) (o : FormOut)
    (h : formOut root lists rows settings = .ok o) :
    sibsOK (withMeta rows settings o.items) = true := by
  have := siblings_unique_n root lists _ settings o (formOut_eq_num root lists rows settings ▸ h)
  rwa [number_map_snd] at this

theorem formOutT_ok {root : Str} {lists : List Str} {rows : List Cells} {settings : Cells} {o : FormOut}
    (h : TableList.formOutT root lists rows settings = .ok o) :
    formOutN root lists ((TableList.sheetRows rows).map fun nr => (nr.1, (Controls.prep nr.2).1)) settings = .ok o := by
  unfold TableList.formOutT at h
  split at h
  · cases h
  · next ho => split at h <;> cases h; exact ho

/-- **Closure with table-list groups**: the same for the table-list-aware pipeline, whose tree also holds the generated
    `generated_table_list_label_N` note and `reserved_name_for_field_list_labels_N` header select. -/
theorem refs_resolve_tl (root : Str) (lists : List Str) (rows : List Cells) (settings : Cells) (o : FormOut)
    (h : TableList.formOutT root lists rows settings = .ok o) :
    ∀ p ∈ o.binds ++ o.body, resolves o.inst p = true :=
  refs_resolve_n root lists _ settings o (formOutT_ok h)

theorem sibsEach_append (a b : List Item) : sibsEach (a ++ b) = (sibsEach a && sibsEach b) :=
  and_of_eqns rfl (fun _ _ => rfl) a b

/-- **The generated meta block has pairwise distinct children** (one `audit` per audit row of the sheet wherever it is
    written, `instanceID`, `instanceName`) in a tree with unique sibling names, hence in every accepted form. -/
theorem meta_children_unique (rows : List Cells) (settings : Cells) (items : List Item)
    (h : sibsOK (withMeta rows settings items) = true) :
    ((metaKids rows settings).map fun d => lowerAscii d.name).Nodup := by
  unfold sibsOK at h
  simp only [Bool.and_eq_true] at h
  have he := h.2
  rw [withMeta_eq, sibsEach_append] at he
  unfold metaSec at he
  split at he
  · next hm =>
    have : metaKids rows settings = [] := by simpa using hm
    rw [this]; simp
  · simp only [Bool.and_eq_true, sibsEach, sibsItem, decide_eq_true_eq, Bool.and_true] at he
    simpa [List.map_map, Function.comp_def, lname, Item.name] using he.2.1

/-- At most one enabled `audit` row in an accepted sheet: at any depth they all become siblings named `audit` in the
    meta block (seeded change C02-7). -/
theorem at_most_one_audit (root : Str) (lists : List Str) (nrows : List (Nat × Cells)) (settings : Cells) (o : FormOut)
    (h : formOutN root lists nrows settings = .ok o) :
    ((nrows.map (·.2)).filter isAuditRow).length ≤ 1 := by
  have hs := siblings_unique_n root lists nrows settings o h
  have hn := meta_children_unique _ _ _ hs
  unfold metaKids at hn
  simp only [List.map_append, List.map_map] at hn
  have h1 := (List.nodup_append.mp hn).1
  generalize (nrows.map (·.2)).filter isAuditRow = l at h1
  match l, h1 with
  | [], _ => simp
  | [_], _ => simp
  | a :: b :: rest, h1 =>
    exfalso
    simp only [List.map_cons] at h1
    exact (List.nodup_cons.mp h1).1 (List.Mem.head _)

/-- **Ambiguity is rejected**: two siblings whose names differ at most by case make validation fail (which `Err` is not stated). -/
theorem ambiguous_rejected (root : Str) (kids : List Item) (h : sibsOK kids = false) :
    ∃ e, validate root kids = .error e := by
  obtain ⟨e, he⟩ := validateKids_error_of_not_sibsOK root kids h
  exact ⟨e, by unfold validate; rw [he]⟩

/-- The non-template part of the instance is the element tree: templates are the only duplicates. -/
theorem instance_is_tree (root : Str) (its : List Item) :
    erase (instanceOf root its) = [NT.node root false (plainL its)] := by
  simp [instanceOf, erase, erase_instKids]

/-! ### Non-vacuity: a count helper inside a nested group, an `or_other` select inside a repeat, the meta block -/

def exRows : List Cells := [
  [("type".toList, "text".toList), ("name".toList, "a".toList), ("label".toList, "A".toList)],
  [("type".toList, "begin group".toList), ("name".toList, "g".toList), ("bind::relevant".toList, "${a} = 1".toList)],
  [("type".toList, "begin repeat".toList), ("name".toList, "r".toList), ("control::jr:count".toList, "2 + 1".toList)],
  [("type".toList, "select_one yn or_other".toList), ("name".toList, "s".toList), ("label".toList, "S".toList)],
  [("type".toList, "end repeat".toList)],
  [("type".toList, "end group".toList)],
  [("type".toList, "calculate".toList), ("name".toList, "c".toList), ("bind::calculate".toList, "1".toList)]]

example : (match formOut "data".toList ["yn".toList] exRows [] with
    | .ok o => o.binds.length == 7 && o.body.length == 6 && (o.binds ++ o.body).all (resolves o.inst)
    | .error _ => false) = true := by decide +kernel

-- a table-list group: the generated label note and header select are nodes, bound and referenced
def exTLRows : List Cells := [
  [("type".toList, "begin group".toList), ("name".toList, "t".toList), ("label".toList, "T".toList),
   ("control::appearance".toList, "table-list".toList)],
  [("type".toList, "select_one yn".toList), ("name".toList, "s".toList), ("label".toList, "S".toList)],
  [("type".toList, "end group".toList)]]

example : (match TableList.formOutT "data".toList ["yn".toList] exTLRows [] with
    | .ok o => (o.binds ++ o.body).all (resolves o.inst) && o.body.length == 4 && o.binds.length == 4
    | .error _ => false) = true := by decide +kernel

-- two audit rows at different depths: rejected; one: accepted
def exAudit2 : List Cells := [
  [("type".toList, "audit".toList)],
  [("type".toList, "begin group".toList), ("name".toList, "g".toList), ("label".toList, "G".toList)],
  [("type".toList, "audit".toList), ("name".toList, "audit".toList)],
  [("type".toList, "text".toList), ("name".toList, "a".toList), ("label".toList, "A".toList)],
  [("type".toList, "end group".toList)]]
example : (match TableList.formOutT "data".toList [] exAudit2 [] with
    | .error (.err (.dupSibling _ _)) => true | _ => false) = true := by decide +kernel
example : (match TableList.formOutT "data".toList [] (exAudit2.drop 1) [] with
    | .ok o => (o.binds.map xpathStr).contains "/data/meta/audit".toList | _ => false) = true := by decide +kernel

end Pyxv.C02
