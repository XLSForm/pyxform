import Pyxv.Model.Rows
import Pyxv.Proofs.FormLemmas
import Pyxv.Proofs.BaseLemmas
/-! What the theorems about `Rows.formOut` need of the rows: the shapes a classified row can have (`Classified`; in
    particular `bind` / `control` imply `node`), the per-row loops as one traversal over the numbered rows, the meta block
    as a forest appended to the tree, and what an accepted sheet says of its tree. -/
namespace Pyxv.Rows
open Pyxv Pyxv.Form

theorem qdata_some (name t : Str) (r : Cells) (d : QData) (h : qdata name t r = some d) :
    d.name = name ∧ d.wf = true := by
  unfold qdata at h
  split at h
  · cases h; exact ⟨rfl, rfl⟩
  · split at h
    · cases h
    · cases h; exact ⟨rfl, by simp [QData.wf]⟩

theorem countHelper_wf {name : Str} {r : Cells} {d : QData} (h : countHelper name r = some d) : d.wf = true := by
  unfold countHelper at h
  split at h
  · split at h <;> cases h
    rfl
  · cases h

theorem get_filter_ne {k d : String} (h : k.toList ≠ d.toList) (r : Cells) :
    get (r.filter fun kv => kv.1 ≠ d.toList) k = get r k := lookup_filter_ne h r

theorem get_filter_self (k : String) (r : Cells) : get (r.filter fun kv => kv.1 ≠ k.toList) k = none :=
  lookup_filter_self _ r

/-- the question a select row becomes (`classifySelect`) -/
def selectQ (name sel : Str) (r : Cells) : QData :=
  { name, bind := true, control := !((has r "bind::calculate" || has r "trigger") && !hasLabelOrHint r), node := true,
    tag := match typeEntry sel with
      | some e => ((entryGet e "control" "tag").getD "").toList
      | none => [] }

/-- its `or_other` companion -/
def otherQ (name : Str) : QData :=
  { name := name ++ "_other".toList, bind := true, control := true, node := true, tag := "input".toList }

/-- What a row (cells `r`, the `disabled` cell dropped; number `n`) can be classified as.  The rows that carry question
    data all carry the name `nameOrErr` returned; nothing else of the path through the classifier is recorded. -/
inductive Classified (lists : List Str) (n : Nat) (r : Cells) : RowK → Prop
  | skip : Classified lists n r .skip
  | bad (e : RowErr) : Classified lists n r (.bad e)
  | end_ (ct : Ctl) : Classified lists n r (.end_ ct)
  | begin_ {t name c : Str} {ct : Ctl} (ht : get r "type" = some t) (hn : nameOrErr r t n = .ok name)
      (hc : matchControl "begin" true t = some c) (hct : ctlOf c = some ct) :
      Classified lists n r (.begin_ ct name (hasBindCells r) (countHelper name r))
  | select {t name sel ln : Str} {other : Bool} (ht : get r "type" = some t) (hn : nameOrErr r t n = .ok name)
      (hs : matchSelect t = some (sel, ln, other)) (hl : lists.contains ln = true) :
      Classified lists n r (.q (selectQ name sel r) (if other then some (otherQ name) else none))
  | known {t name : Str} {d : QData} (ht : get r "type" = some t) (hn : nameOrErr r t n = .ok name)
      (hq : qdata name t r = some d) : Classified lists n r (.q d none)
  | unknown {t name : Str} (ht : get r "type" = some t) (hn : nameOrErr r t n = .ok name)
      (hq : qdata name t r = none) :
      Classified lists n r (.q { name, bind := false, control := false, node := true } none)

/- The classifiers are chains of `if … then leaf else …`; a hypothesis `… = .row k` is taken through such a chain one
   test at a time: a branch that answers `unsupported` is not the one taken, a branch that answers a row is `k`. -/
theorem ite_unsupported {c : Prop} [Decidable c] {w : String} {x : Cls} {k : RowK}
    (h : (if c then Cls.unsupported w else x) = .row k) : x = .row k :=
  (ite_eq_right h (fun e => nomatch e)).2

theorem ite_row {c : Prop} [Decidable c] {k0 k : RowK} {x : Cls} (h : (if c then Cls.row k0 else x) = .row k) :
    k = k0 ∨ (¬ c ∧ x = .row k) := by
  split at h
  · cases h; exact .inl rfl
  · exact .inr ⟨‹_›, h⟩

theorem classifyBegin_inv {r : Cells} {name c : Str} {k : RowK} (h : classifyBegin r name c = .row k) :
    ∃ ct, ctlOf c = some ct ∧ k = .begin_ ct name (hasBindCells r) (countHelper name r) := by
  unfold classifyBegin at h
  split at h
  · cases h
  · cases h
  · cases ite_unsupported (ite_unsupported h)
    exact ⟨_, ‹_›, rfl⟩

theorem classifySelect_inv {lists : List Str} {r : Cells} {name sel ln : Str} {other : Bool} {k : RowK}
    (h : classifySelect lists r name sel ln other = .row k) :
    (∃ e, k = .bad e) ∨
      (lists.contains ln = true ∧ k = .q (selectQ name sel r) (if other then some (otherQ name) else none)) := by
  unfold classifySelect at h
  rcases ite_row (ite_unsupported (ite_unsupported h)) with rfl | ⟨hl, h⟩
  · exact .inl ⟨_, rfl⟩
  rcases ite_row h with rfl | ⟨-, h⟩
  · exact .inl ⟨_, rfl⟩
  cases h
  exact .inr ⟨by simpa using hl, rfl⟩

theorem classifyNamed_inv {lists : List Str} {n : Nat} {r : Cells} {t name : Str} {k : RowK}
    (ht : get r "type" = some t) (hn : nameOrErr r t n = .ok name) (h : classifyNamed lists r t name = .row k) :
    Classified lists n r k := by
  unfold classifyNamed at h
  have h := ite_unsupported h
  split at h
  · next c hc =>
    obtain ⟨ct, hct, rfl⟩ := classifyBegin_inv h
    exact .begin_ ht hn hc hct
  split at h
  · next sel ln other hs =>
    rcases classifySelect_inv h with ⟨e, rfl⟩ | ⟨hl, rfl⟩
    · exact .bad e
    · exact .select ht hn hs hl
  have h := ite_unsupported h
  split at h
  · next d hq => cases h; exact .known ht hn hq
  · next hq => cases h; exact .unknown ht hn hq

theorem classifyTyped_inv {lists : List Str} {n : Nat} {r : Cells} {t : Str} {k : RowK}
    (ht : get r "type" = some t) (h : classifyTyped lists n r t = .row k) : Classified lists n r k := by
  unfold classifyTyped at h
  split at h
  · -- an audit row: skipped, or a row-level error
    split at h
    · split at h
      · cases h; exact .skip
      · cases h; exact .bad _
    · cases h; exact .skip
  have h := ite_unsupported h
  split at h
  · cases ite_unsupported h; exact .bad _
  rcases ite_row h with rfl | ⟨-, h⟩
  · exact .skip
  split at h
  · split at h
    · cases h; exact .end_ _
    · cases h
  split at h
  · cases h; exact .bad _
  · next name hn => exact classifyNamed_inv ht hn h

theorem classify_inv {lists : List Str} {n : Nat} {r0 : Cells} {k : RowK} (h : classify lists n r0 = .row k) :
    Classified lists n (r0.filter fun kv => kv.1 ≠ "disabled".toList) k := by
  unfold classify at h
  dsimp only at h
  rcases ite_row h with rfl | ⟨-, h⟩
  · exact .skip
  rcases ite_row h with rfl | ⟨-, h⟩
  · exact .skip
  split at h
  · split at h
    · cases h; exact .bad _
    · cases h; exact .skip
  · next t ht => exact classifyTyped_inv ht h

theorem heads_wf_of_classified {lists : List Str} {n : Nat} {r : Cells} {k : RowK} (h : Classified lists n r k) :
    ∀ hd ∈ rowHeads k, hd.wf = true := by
  intro hd hm
  cases h with
  | skip | bad | end_ => cases hm
  | begin_ =>
    simp only [rowHeads, List.mem_append, List.mem_singleton] at hm
    rcases hm with hm | rfl
    · cases hc : countHelper _ r with
      | none => rw [hc] at hm; cases hm
      | some d => rw [hc] at hm; cases List.mem_singleton.mp hm; exact countHelper_wf hc
    · rfl
  | @select _ name sel _ other =>
    have hs : (Head.q (selectQ name sel r)).wf = true := by simp [Head.wf, QData.wf, selectQ]
    cases other with
    | false => cases List.mem_singleton.mp hm; exact hs
    | true =>
      rcases List.mem_cons.mp hm with rfl | hm
      · exact hs
      · cases List.mem_singleton.mp hm; rfl
  | known _ _ hq => cases List.mem_singleton.mp hm; exact (qdata_some _ _ _ _ hq).2
  | unknown => cases List.mem_singleton.mp hm; rfl

theorem wfL_append (a b : List Item) : wfL (a ++ b) = (wfL a && wfL b) :=
  and_of_eqns rfl (fun _ _ => rfl) a b

theorem number_map_snd : ∀ (n : Nat) (rows : List Cells), (number n rows).map (·.2) = rows
  | _, [] => rfl
  | n, r :: rs => by simp [number, number_map_snd (n + 1) rs]

theorem number_map (f : Cells → Cells) : ∀ (n : Nat) (rows : List Cells),
    (number n rows).map (fun nr => (nr.1, f nr.2)) = number n (rows.map f)
  | _, [] => rfl
  | n, r :: rs => by simp [number, number_map f (n + 1) rs]

theorem number_append : ∀ (n : Nat) (a b : List Cells), number n (a ++ b) = number n a ++ number (n + a.length) b
  | _, [], _ => rfl
  | n, r :: a, b => by
    simp only [List.cons_append, number, number_append (n + 1) a b, List.length_cons]
    rw [Nat.add_right_comm, Nat.add_assoc]

theorem number_succ : ∀ (n : Nat) (rows : List Cells), number (n + 1) rows = (number n rows).map fun p => (p.1 + 1, p.2)
  | _, [] => rfl
  | n, r :: rs => by simp only [number, number_succ (n + 1) rs, List.map_cons]

theorem mem_number : ∀ {n : Nat} {rows : List Cells} {nr : Nat × Cells}, nr ∈ number n rows →
    n ≤ nr.1 ∧ nr.1 < n + rows.length ∧ nr.2 ∈ rows
  | _, [], _, h => nomatch h
  | n, r :: rs, nr, h => by
    rcases List.mem_cons.mp h with rfl | h
    · exact ⟨Nat.le_refl _, by simp, List.mem_cons_self⟩
    · obtain ⟨h1, h2, h3⟩ := mem_number h
      exact ⟨by omega, by simp only [List.length_cons]; omega, List.mem_cons_of_mem _ h3⟩

theorem exists_mem_number {n : Nat} {rows : List Cells} {r : Cells} (h : r ∈ rows) : ∃ i, (i, r) ∈ number n rows := by
  rw [← number_map_snd n rows] at h
  obtain ⟨⟨i, _⟩, hp, rfl⟩ := List.mem_map.mp h
  exact ⟨i, hp⟩

/-- one iteration of `classifyNum` / `classifyAll` -/
def classifyRow (lists : List Str) (nr : Nat × Cells) : Except String (Nat × RowK) :=
  match classify lists nr.1 nr.2 with
  | .unsupported w => .error w
  | .row k => .ok (nr.1, k)

theorem classifyRow_ok {lists : List Str} {nr : Nat × Cells} {nk : Nat × RowK} (h : classifyRow lists nr = .ok nk) :
    ∃ k, nk = (nr.1, k) ∧ classify lists nr.1 nr.2 = .row k := by
  unfold classifyRow at h
  split at h
  · cases h
  · next k hk => cases h; exact ⟨k, rfl, hk⟩

theorem classifyNum_eq (lists : List Str) : ∀ rows, classifyNum lists rows = travE (classifyRow lists) rows
  | [] => rfl
  | (n, r) :: rs => by
    simp only [classifyNum, travE, classifyRow, classifyNum_eq lists rs]
    cases classify lists n r with
    | unsupported w => rfl
    | row k => cases travE (classifyRow lists) rs <;> rfl

theorem classifyAll_eq_num (lists : List Str) : ∀ (rows : List Cells) (n : Nat),
    classifyAll lists n rows = classifyNum lists (number n rows)
  | [], _ => rfl
  | r :: rs, n => by simp only [classifyAll, number, classifyNum, classifyAll_eq_num lists rs (n + 1)]

theorem classifyAll_eq (lists : List Str) (n : Nat) (rows : List Cells) :
    classifyAll lists n rows = travE (classifyRow lists) (number n rows) := by
  rw [classifyAll_eq_num, classifyNum_eq]

theorem classifyNum_mem {lists : List Str} {nrows : List (Nat × Cells)} {ks : List (Nat × RowK)}
    (h : classifyNum lists nrows = .ok ks) {nk : Nat × RowK} (hk : nk ∈ ks) :
    ∃ r, (nk.1, r) ∈ nrows ∧ classify lists nk.1 r = .row nk.2 := by
  obtain ⟨nr, hnr, hc⟩ := travE_mem (classifyNum_eq lists nrows ▸ h) hk
  obtain ⟨k, rfl, hcl⟩ := classifyRow_ok hc
  exact ⟨nr.2, hnr, hcl⟩

theorem classifyAll_mem {lists : List Str} {n : Nat} {rows : List Cells} {ks : List (Nat × RowK)}
    (h : classifyAll lists n rows = .ok ks) {nk : Nat × RowK} (hk : nk ∈ ks) :
    ∃ r ∈ rows, classify lists nk.1 r = .row nk.2 ∧ n ≤ nk.1 ∧ nk.1 < n + rows.length := by
  obtain ⟨r, hr, hcl⟩ := classifyNum_mem (classifyAll_eq_num lists rows n ▸ h) hk
  obtain ⟨h1, h2, h3⟩ := mem_number hr
  exact ⟨r, h3, hcl, h1, h2⟩

theorem unknownTypeRows_eq_num (lists : List Str) : ∀ (rows : List Cells) (n : Nat),
    unknownTypeRows lists n rows = unknownTypeNum lists (number n rows)
  | [], _ => rfl
  | r :: rs, n => by simp only [unknownTypeRows, number, unknownTypeNum, unknownTypeRows_eq_num lists rs (n + 1)]

theorem formOut_eq_num (root : Str) (lists : List Str) (rows : List Cells) (settings : Cells) :
    formOut root lists rows settings = formOutN root lists (number 2 rows) settings := by
  unfold formOut formOutN
  rw [classifyAll_eq_num, unknownTypeRows_eq_num, number_map_snd]

/-- the generated `meta` group as a forest: empty, or the one group -/
def metaSec (rows : List Cells) (settings : Cells) : List Item :=
  if (metaKids rows settings).isEmpty then []
  else [Item.sec .group "meta".toList false ((metaKids rows settings).map Item.q)]

theorem withMeta_eq (rows : List Cells) (settings : Cells) (items : List Item) :
    withMeta rows settings items = items ++ metaSec rows settings := by
  unfold withMeta metaSec
  dsimp only
  split <;> simp [*]

theorem mem_metaKids {rows : List Cells} {settings : Cells} {d : QData} (h : d ∈ metaKids rows settings) :
    d.bind = true ∧ d.control = false ∧ d.node = true ∧
      (d.name = "audit".toList ∨ d.name = "instanceID".toList ∨ d.name = "instanceName".toList) := by
  unfold metaKids at h
  simp only [List.mem_append, List.mem_map] at h
  rcases h with (⟨_, _, rfl⟩ | h) | h
  · exact ⟨rfl, rfl, rfl, .inl rfl⟩
  · cases List.mem_singleton.mp (List.mem_ite_nil_left.mp h).2; exact ⟨rfl, rfl, rfl, .inr (.inl rfl)⟩
  · cases List.mem_singleton.mp (List.mem_ite_nil_right.mp h).2; exact ⟨rfl, rfl, rfl, .inr (.inr rfl)⟩

theorem wfL_map_q (l : List QData) : wfL (l.map Item.q) = l.all QData.wf :=
  eq_all_of_eqns (gL := fun l => wfL (l.map Item.q)) rfl (fun _ _ => rfl) l

theorem wfL_metaSec (rows : List Cells) (settings : Cells) : wfL (metaSec rows settings) = true := by
  unfold metaSec
  split
  · rfl
  · simp only [wfL, Item.wf, Bool.and_true, wfL_map_q, List.all_eq_true]
    intro d hd
    obtain ⟨_, _, hn, _⟩ := mem_metaKids hd
    simp [QData.wf, hn]

/-! Renumbering the rows (C13 inserts a blank row and shifts the numbers after it). -/

def relabel {α} (f : Nat → Nat) (l : List (Nat × α)) : List (Nat × α) := l.map fun p => (f p.1, p.2)

theorem classifyNum_append (lists : List Str) (a b : List (Nat × Cells)) :
    classifyNum lists (a ++ b) =
      (match classifyNum lists a, classifyNum lists b with
       | .ok ka, .ok kb => .ok (ka ++ kb)
       | .error w, _ => .error w
       | .ok _, .error w => .error w) := by
  simp only [classifyNum_eq, travE_append]
  cases travE (classifyRow lists) a <;> cases travE (classifyRow lists) b <;> rfl

theorem classifyNum_relabel (lists : List Str) (f : Nat → Nat) (nrows : List (Nat × Cells))
    (h : ∀ p ∈ nrows, classify lists (f p.1) p.2 = classify lists p.1 p.2) :
    classifyNum lists (relabel f nrows) = (classifyNum lists nrows).map (relabel f) := by
  induction nrows with
  | nil => rfl
  | cons p rest ih =>
    obtain ⟨n, r⟩ := p
    simp only [relabel, List.map_cons, classifyNum, h (n, r) (by simp)]
    cases classify lists n r with
    | unsupported w => rfl
    | row k =>
      have := ih fun q hq => h q (List.mem_cons_of_mem _ hq)
      simp only [relabel] at this
      simp only [this]
      cases classifyNum lists rest <;> rfl

/-- the test of `unknownTypeNum` on one row -/
def unknownAt (lists : List Str) (p : Nat × Cells) : Bool :=
  match classify lists p.1 p.2 with
  | .row (.q _ _) =>
    (match Rows.get p.2 "type" with
     | some t => (matchSelect t).isNone && (matchControl "begin" true t).isNone && (qdata [] t p.2).isNone
     | none => false)
  | _ => false

theorem unknownTypeNum_eq (lists : List Str) (nrows : List (Nat × Cells)) :
    unknownTypeNum lists nrows = (nrows.filter (unknownAt lists)).map (·.1) := by
  induction nrows with
  | nil => rfl
  | cons p rest ih =>
    obtain ⟨n, r⟩ := p
    have hc : unknownTypeNum lists ((n, r) :: rest) =
        (if unknownAt lists (n, r) then [n] else []) ++ unknownTypeNum lists rest := by
      cases hcl : classify lists n r with
      | unsupported w => simp only [unknownTypeNum, unknownAt, hcl]; rfl
      | row k =>
        cases k with
        | q d o =>
          cases ht : Rows.get r "type" with
          | none => simp only [unknownTypeNum, unknownAt, hcl, ht]; rfl
          | some t =>
            simp only [unknownTypeNum, unknownAt, hcl, ht]
            split <;> rfl
        | skip | begin_ | end_ | bad => simp only [unknownTypeNum, unknownAt, hcl]; rfl
    rw [hc, ih, List.filter_cons]
    split <;> rfl

theorem unknownAt_congr (lists : List Str) (n m : Nat) (r : Cells) (h : classify lists n r = classify lists m r) :
    unknownAt lists (n, r) = unknownAt lists (m, r) := by
  unfold unknownAt
  rw [h]

theorem formOutN_ok (root : Str) (lists : List Str) (nrows : List (Nat × Cells)) (settings : Cells) (o : FormOut)
    (h : formOutN root lists nrows settings = .ok o) :
    ∃ ks items, classifyNum lists nrows = .ok ks ∧ parseRows ks = .ok items ∧
      validate root (withMeta (nrows.map (·.2)) settings items) = .ok () ∧
      o = { items := items, inst := instanceOf root (withMeta (nrows.map (·.2)) settings items),
            binds := bindPathsL [root] (withMeta (nrows.map (·.2)) settings items),
            body := bodyPathsL [root] items, ctl := bodyCtlL [root] items } := by
  unfold formOutN at h
  split at h; · cases h
  next ks hc =>
  split at h; · cases h
  next items hp =>
  split at h; · cases h
  dsimp only at h
  split at h; · cases h
  next hv =>
  split at h; · cases h
  cases h
  exact ⟨ks, items, hc, hp, hv, rfl⟩

theorem formOut_ok (root : Str) (lists : List Str) (rows : List Cells) (settings : Cells) (o : FormOut)
    (h : formOut root lists rows settings = .ok o) :
    ∃ ks items, classifyAll lists 2 rows = .ok ks ∧ parseRows ks = .ok items ∧ o.items = items ∧
      o.inst = instanceOf root (withMeta rows settings items) ∧
      o.binds = bindPathsL [root] (withMeta rows settings items) ∧ o.body = bodyPathsL [root] items := by
  obtain ⟨ks, items, hc, hp, -, rfl⟩ := formOutN_ok root lists _ settings o (formOut_eq_num root lists rows settings ▸ h)
  rw [number_map_snd]
  exact ⟨ks, items, (classifyAll_eq_num lists rows 2).trans hc, hp, rfl, rfl, rfl, rfl⟩

/-- every node of an accepted sheet's tree is opened by a classified row of the sheet or belongs to the generated meta block -/
theorem formOutN_heads {root : Str} {lists : List Str} {nrows : List (Nat × Cells)} {settings : Cells} {o : FormOut}
    (h : formOutN root lists nrows settings = .ok o) :
    ∀ hd ∈ headsL (withMeta (nrows.map (·.2)) settings o.items),
      (∃ nr ∈ nrows, ∃ k, Classified lists nr.1 (nr.2.filter fun kv => kv.1 ≠ "disabled".toList) k ∧ hd ∈ rowHeads k) ∨
        hd ∈ headsL (metaSec (nrows.map (·.2)) settings) := by
  obtain ⟨ks, items, hc, hp, -, rfl⟩ := formOutN_ok root lists nrows settings o h
  intro hd hm
  rw [withMeta_eq, headsL_append, heads_parseRows hp, List.mem_append, List.mem_flatMap] at hm
  refine hm.imp_left fun ⟨nk, hnk, hin⟩ => ?_
  obtain ⟨r, hr, hcl⟩ := classifyNum_mem hc hnk
  exact ⟨_, hr, nk.2, classify_inv hcl, hin⟩

theorem formOutN_wf {root : Str} {lists : List Str} {nrows : List (Nat × Cells)} {settings : Cells} {o : FormOut}
    (h : formOutN root lists nrows settings = .ok o) : wfL (withMeta (nrows.map (·.2)) settings o.items) = true := by
  rw [wfL_eq_heads, List.all_eq_true]
  intro hd hm
  rcases formOutN_heads h hd hm with ⟨nr, -, k, hk, hin⟩ | hmeta
  · exact heads_wf_of_classified hk hd hin
  · exact List.all_eq_true.mp (wfL_eq_heads _ ▸ wfL_metaSec _ settings) hd hmeta

end Pyxv.Rows
