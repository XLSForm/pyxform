import Pyxv.Proofs.C01Complete
import Pyxv.Proofs.C01NoBr
import Pyxv.Proofs.C01NameTree
/-!
# C01 ∘ Form: the instance children computed by the `Form` slice satisfy the parts hypotheses

`Pyxv.Form.instKids` (the model of `Section.xml_instance` / `generate_repeating_template` behind C02/C04)
yields the name tree of the primary instance.  As DOM nodes (`ntNodes`; repeat templates carry `jr:template=""`)
these children are accepted by `validate_xml_document` as soon as every question / section *name* is: the
hypothesis `PartsValid.rk` of `validator_complete` reduces to a condition on the names.
-/
namespace Pyxv.C01
open Pyxv Pyxv.Xml Pyxv.Asm Pyxv.Rows Pyxv.Form

/-! ## name-valid trees are valid, `]`-free, reserved-free DOM nodes -/

theorem ntNode_eq (n : Str) (t : Bool) (ks : List NT) :
    ntNode (.node n t ks) = .elem n (Convert.tmplAttrs t) (ntNodes ks) := by
  rw [ntNode, Convert.tmplAttrs, toList_lit rfl]

theorem tmplAttrs_scope (t : Bool) : (Convert.tmplAttrs t).filterMap pyDeclared = [] := by
  cases t <;> decide

theorem tmplAttrs_valid (R : List Str) (t : Bool) (hjr : R.contains "jr".toList = true) :
    (Convert.tmplAttrs t).all (attrValid R) = true := by
  cases t
  · rfl
  · simp only [Convert.tmplAttrs, if_true, List.all_cons, List.all_nil, Bool.and_true]
    exact (Static.of (p := some "jr".toList) (q := l!"jr:template") (by decide) hjr).attrValid rfl

/-- an element-wise check holds of the DOM rendering of a name forest as soon as it holds of every element
    `<name>` / `<name jr:template="">` by itself, in a scope those attributes leave unchanged -/
theorem TreeCheck.ntNodes_ok {σ : Type} (C : TreeCheck σ) (s : σ) (p : Str → Bool)
    (hs : ∀ t, C.ext s (Convert.tmplAttrs t) = s) (he : ∀ n t, p n = true → C.elem s n (Convert.tmplAttrs t) = true) :
    ∀ ts, ntAllL p ts = true → C.kids s (ntNodes ts) = true := by
  intro ts
  induction ts using nts_induct with
  | nil => exact fun _ => C.kids_nil s
  | node n t ks rest ihk ihr =>
    intro h
    rw [ntAllL_cons, ntAll_node, Bool.and_eq_true, Bool.and_eq_true] at h
    rw [ntNodes, ntNode_eq, C.kids_cons, ihr h.2, Bool.and_true]
    exact C.node_intro (hs t) (he n t h.1.1) (ihk h.1.2)

theorem valid_ntNodes (R : List Str) (hjr : R.contains "jr".toList = true) :
    ∀ ts, ntAllL (fun x => nameValid R x && elemPrefixOk x) ts = true → validKids R (ntNodes ts) = true :=
  validCheck.ntNodes_ok R _ (fun t => by show _ ++ R = R; rw [tmplAttrs_scope]; rfl) fun n t hn => by
    rw [Bool.and_eq_true] at hn
    exact validCheck_elem (tmplAttrs_valid R t hjr) hn.1 hn.2

theorem valid_ntNode (R : List Str) (hjr : R.contains "jr".toList = true) :
    ∀ (t : NT), ntAll (fun x => nameValid R x && elemPrefixOk x) t = true → validDoc R (ntNode t) = true :=
  fun t h => validCheck.node_of_single (valid_ntNodes R hjr [t] (ntAllL_single h))

theorem noBr_ntNodes : ∀ ts, ntAllL noBr ts = true → noBrKids (ntNodes ts) = true :=
  noBrCheck.ntNodes_ok () noBr (fun _ => rfl) fun _ t hn => noBrCheck_elem hn (tmplAttrs_noBr t)

theorem noBr_ntNode : ∀ (t : NT), ntAll noBr t = true → noBrTree (ntNode t) = true :=
  fun t h => noBrCheck.node_of_single (s := ()) (noBr_ntNodes [t] (ntAllL_single h))

theorem isDom_ntNodes (ts : List NT) : isDomKids (ntNodes ts) = true :=
  domCheck.ntNodes_ok () (fun _ => true) (fun _ => rfl) (fun _ t _ => tmplAttrs_nodup t) ts (ntAllL_true ts)

theorem isDom_ntNode : ∀ (t : NT), isDom (ntNode t) = true :=
  fun t => domCheck.node_of_single (s := ()) (isDom_ntNodes [t])

/-- `noReserved` as an element-wise check -/
def reservedCheck : TreeCheck Unit where
  node _ n := noReserved n
  kids _ ks := noReservedKids ks
  elem _ t a := tagFree t && a.all attrFree
  ext _ _ := ()
  ext_nil _ := rfl
  node_elem _ _ _ _ := rfl
  kids_nil _ := rfl
  kids_cons _ _ _ := rfl

theorem noReserved_ntNodes : ∀ ts, ntAllL tagFree ts = true → noReservedKids (ntNodes ts) = true :=
  reservedCheck.ntNodes_ok () tagFree (fun _ => rfl) fun n t hn => by
    show (tagFree n && _) = true
    rw [hn]
    cases t <;> decide

theorem noReserved_ntNode : ∀ (t : NT), ntAll tagFree t = true → noReserved (ntNode t) = true :=
  fun t h => reservedCheck.node_of_single (s := ()) (noReserved_ntNodes [t] (ntAllL_single h))

/-- **Form ∘ Assemble.**  The children of the primary instance root that the `Form` slice computes
    (`instKids false items`) are accepted by `validate_xml_document` below the root when every *name* of the element
    tree is a name for pyxform's regex whose prefix, if any, is declared and is not `xmlns`; `jr` (for `jr:template`)
    is always in scope. -/
theorem instance_children_valid (f : Fields) (items : List Item)
    (hnames : ∀ x ∈ allNamesL items, (nameValid (pyR f) x && elemPrefixOk x) = true) :
    validKids (pyR f) (ntNodes (instKids false items)) = true := by
  have hjr : (pyR f).contains "jr".toList = true :=
    contains_of_right _ _ _ (pyScope_static f static_jr)
  exact valid_ntNodes (pyR f) hjr _ (ntAll_instKids _ false items hnames)

/-- the same children are `]`-free / reserved-free when the names are, and are always DOM trees -/
theorem instance_children_side (items : List Item)
    (h1 : ∀ x ∈ allNamesL items, noBr x = true) (h2 : ∀ x ∈ allNamesL items, tagFree x = true) :
    noBrKids (ntNodes (instKids false items)) = true ∧ noReservedKids (ntNodes (instKids false items)) = true ∧
    isDomKids (ntNodes (instKids false items)) = true :=
  ⟨noBr_ntNodes _ (ntAll_instKids _ false items h1), noReserved_ntNodes _ (ntAll_instKids _ false items h2),
    isDom_ntNodes _⟩

/-- **rows → element tree → instance → accepted document**: `validator_complete` with the instance children taken
    from the `Form` model -/
theorem validator_complete_form (f : Fields) (items : List Item) (itext : Option (List Node)) (rest bk : List Node)
    (H : HeaderValid f) (hnames : ∀ x ∈ allNamesL items, (nameValid (pyR f) x && elemPrefixOk x) = true)
    (hitext : ∀ ks, itext = some ks → validKids (pyS f) ks = true)
    (hrest : validKids (pyS f) rest = true) (hbk : validKids (pyS f) bk = true) :
    validDoc [] (assemble f itext (ntNodes (instKids false items)) rest bk) = true :=
  validator_complete f itext _ rest bk H ⟨hitext, instance_children_valid f items hnames, hrest, hbk⟩

#print axioms validator_complete_form

-- non-vacuity: a group with a question, a repeat (template + instance), a prefixed name declared by the header
def exItems : List Item :=
  [ .q { name := "q".toList, bind := true, control := true, node := true },
    .sec .group "g".toList false [ .q { name := "esri:geo".toList, bind := true, control := true, node := true } ],
    .sec .rep "r".toList false [ .q { name := "k".toList, bind := true, control := true, node := true } ] ]
example : (ntNodes (instKids false exItems)).length = 4 := by decide +kernel
example : validDoc [] (assemble exFields none (ntNodes (instKids false exItems)) [] []) = true :=
  validator_complete_form exFields exItems none [] [] exHeaderValid
    (by simp only [pyR, pyS, exHtml_chars]; decide +kernel)
    (fun ks h => by cases h) (by decide +kernel) (by decide +kernel)

end Pyxv.C01
