import Pyxv.Proofs.ConvertC10Repeats
/-!
# C10 for the end-to-end composition: the repeats' setvalues read from the document's nodes

`nodeRepFacts` reads the Node tree: at every `<repeat nodeset=r>` element, its `<setvalue>` children as
(r, `ref`, `event`).  On the body of a converted document this equals the walk-level `repFactsL` of
`ConvertC10Repeats`, so `convert_c10_all_partial`'s repeat part becomes a statement about the document.
-/
namespace Pyxv.ConvertP
open Pyxv Pyxv.Form Pyxv.Rows Pyxv.Xml Pyxv.Asm Pyxv.Convert Pyxv.C01

/-- (nodeset of the enclosing `<repeat>`, `ref`, `event`) of a setvalue, as the document spells them -/
abbrev SFact := Str × Str × Str

def sfactOf (r : Str) (k : Node) : Option SFact := (factOf none k).map fun f => (r, f.2.1, f.2.2)

/-- a walk-level fact, its location rendered by `xpathStr` -/
def strFact (f : Fact) : SFact := (xpathStr (f.1.getD []), f.2.1, f.2.2)

mutual
/-- at every `<repeat nodeset=r>`: its `<setvalue>` children as (r, ref, event); inner repeats first -/
def nodeRepFacts : Node → List SFact
  | .text _ _ => []
  | .elem t a ks =>
    nodeRepFactsL ks ++ (if t = l!"repeat" then ks.filterMap (sfactOf ((lookup (l!"nodeset") a).getD [])) else [])
def nodeRepFactsL : List Node → List SFact
  | [] => []
  | k :: ks => nodeRepFacts k ++ nodeRepFactsL ks
end

theorem nodeRepFactsL_eq : ∀ l : List Node, nodeRepFactsL l = l.flatMap nodeRepFacts :=
  eq_flatMap_of_eqns rfl fun _ _ => rfl

theorem nodeRepFactsL_append (a b : List Node) : nodeRepFactsL (a ++ b) = nodeRepFactsL a ++ nodeRepFactsL b :=
  append_of_eqns rfl (fun _ _ => rfl) a b

theorem sfactOf_nonset (r t : Str) (a : List (Str × Str)) (ks : List Node) (h : t ≠ l!"setvalue") :
    sfactOf r (.elem t a ks) = none := by
  rw [sfactOf, factOf_ne h]; rfl

/-- a `<repeat>` reads the `<setvalue>`s among its own children, which is why every part below is shown to hold none
    (`h2`) -/
theorem nodeRepFacts_quiet (t : Str) (a : List (Str × Str)) (ks : List Node) (h1 : nodeRepFactsL ks = [])
    (h2 : ∀ r, ks.filterMap (sfactOf r) = []) : nodeRepFacts (.elem t a ks) = [] := by
  simp only [nodeRepFacts, h1, h2, List.nil_append]
  split <;> rfl

theorem nodeRepFacts_leaf (t : Str) (a : List (Str × Str)) : nodeRepFacts (.elem t a []) = [] :=
  nodeRepFacts_quiet t a [] rfl fun _ => rfl

theorem outputKids_quiet (ks : List Node) (h : ks.all outputKid = true) :
    nodeRepFactsL ks = [] ∧ ∀ r, ks.filterMap (sfactOf r) = [] := by
  have hk := fun k hk => outputKid_inv (List.all_eq_true.mp h k hk)
  refine ⟨?_, fun r => List.filterMap_eq_nil_iff.mpr fun k hm => ?_⟩
  · rw [nodeRepFactsL_eq, List.flatMap_eq_nil_iff]
    intro k hm
    rcases hk k hm with ⟨b, s, rfl⟩ | ⟨a, rfl⟩
    · rfl
    · exact nodeRepFacts_leaf _ _
  · rcases hk k hm with ⟨b, s, rfl⟩ | ⟨a, rfl⟩
    · rfl
    · exact sfactOf_nonset r _ a [] (by decide)

theorem textNode_quiet (els : List Refs.Chain) (path : List Str) (tag : Str) (cell : Option Str)
    (hs : tag ≠ l!"setvalue") :
    nodeRepFacts (textNode els path tag cell) = [] ∧ ∀ r, sfactOf r (textNode els path tag cell) = none := by
  obtain ⟨a, ks, he, hk⟩ := textNode_shape els path tag cell
  rw [he]
  obtain ⟨i1, i2⟩ := outputKids_quiet ks hk
  exact ⟨nodeRepFacts_quiet tag a ks i1 i2, fun r => sfactOf_nonset r tag a ks hs⟩

theorem labelAndHint_quiet (els : List Refs.Chain) (path : List Str) (r : Cells) :
    nodeRepFactsL (labelAndHint els path r) = [] ∧ ∀ x, (labelAndHint els path r).filterMap (sfactOf x) = [] := by
  obtain ⟨l1, l2⟩ := textNode_quiet els path (l!"label") (get r "label") (by decide)
  obtain ⟨h1, h2⟩ := textNode_quiet els path (l!"hint") (get r "hint") (by decide)
  unfold labelAndHint labelNode hintNode
  refine ⟨?_, fun x => ?_⟩
  · rw [nodeRepFactsL_append]
    split <;> split <;> simp only [nodeRepFactsL, l1, h1, List.append_nil]
  · rw [List.filterMap_append]
    split <;> split <;> simp only [List.filterMap_cons, List.filterMap_nil, l2 x, h2 x, List.append_nil]

theorem itemsetNodes_quiet (r : Cells) :
    nodeRepFactsL (itemsetNodes r) = [] ∧ ∀ x, (itemsetNodes r).filterMap (sfactOf x) = [] := by
  unfold itemsetNodes
  split
  · exact ⟨rfl, fun _ => rfl⟩
  · split
    · exact ⟨rfl, fun _ => rfl⟩
    · refine ⟨?_, fun x => ?_⟩
      · simp only [nodeRepFactsL, List.append_nil]
        unfold pyNode
        apply nodeRepFacts_quiet
        · simp only [nodeRepFactsL, nodeRepFacts_leaf, List.append_nil]
        · intro r'
          simp only [List.filterMap_cons, List.filterMap_nil]
          rw [sfactOf_nonset _ _ _ _ (by decide), sfactOf_nonset _ _ _ _ (by decide)]
      · simp only [List.filterMap_cons, List.filterMap_nil, pyNode]
        rw [sfactOf_nonset _ _ _ _ (by decide)]

theorem dynSetsL_quiet (els : List Refs.Chain) : ∀ (pre : List Str) (ds : List DItem),
    nodeRepFactsL (dynSetsL els pre ds) = [] := by
  intro pre ds
  rw [nodeRepFactsL_eq, List.flatMap_eq_nil_iff]
  intro n hn
  obtain ⟨ctx, dv, rfl⟩ := mem_dynSetsL els pre ds hn
  exact nodeRepFacts_leaf _ _

theorem dynSets_quiet (els : List Refs.Chain) : ∀ (pre : List Str) (d : DItem), nodeRepFactsL (dynSets els pre d) = [] :=
  fun pre d => by simpa only [dynSetsL, List.append_nil] using dynSetsL_quiet els pre [d]

theorem sfactOf_factOf (rp : List Str) (k : Node) : sfactOf (xpathStr rp) k = (factOf (some rp) k).map strFact := by
  cases k with
  | text _ _ => rfl
  | elem t a ks =>
    simp only [sfactOf, factOf]
    split <;> rfl

theorem filterMap_sfactOf (rp : List Str) (l : List Node) :
    l.filterMap (sfactOf (xpathStr rp)) = (l.filterMap (factOf (some rp))).map strFact := by
  rw [List.map_filterMap]
  exact congrArg (List.filterMap · l) (funext (sfactOf_factOf rp))

#print axioms filterMap_sfactOf
#print axioms labelAndHint_quiet

theorem group_ne_repeat : (l!"group" : Str) ≠ l!"repeat" := by decide
theorem nodeRepFacts_group (a : List (Str × Str)) (ks : List Node) :
    nodeRepFacts (.elem (l!"group") a ks) = nodeRepFactsL ks := by
  simp only [nodeRepFacts, if_neg group_ne_repeat, List.append_nil]
theorem group_ne_setvalue : (l!"group" : Str) ≠ l!"setvalue" := by decide

mutual
/-- **the document's repeats, read as nodes, say what the walk says** -/
theorem bodyNodes_repFacts (els : List Refs.Chain) : ∀ (pre : List Str) (d : DItem), ctlOk d = true →
    nodeRepFactsL (bodyNodes els pre d) = (repFacts els pre d).map strFact ∧
      ∀ r, (bodyNodes els pre d).filterMap (sfactOf r) = []
  | pre, .q d p, h => by
    simp only [ctlOk, Bool.and_eq_true, Bool.or_eq_true, Bool.not_eq_true'] at h
    simp only [bodyNodes, repFacts, List.map_nil]
    cases hc : d.control with
    | false => exact ⟨rfl, fun _ => rfl⟩
    | true =>
      have htag : controlTags.contains d.tag = true := h.1.resolve_left (by simp [hc])
      have hne : d.tag ≠ l!"setvalue" := by
        intro he; rw [he] at htag; revert htag; decide
      obtain ⟨a1, a2⟩ := labelAndHint_quiet els (pre ++ [d.name]) p.cells
      obtain ⟨b1, b2⟩ := itemsetNodes_quiet p.cells
      have hq : nodeRepFacts (pyNode d.tag ((l!"ref", xpathStr (pre ++ [d.name])) :: p.attrs)
          (labelAndHint els (pre ++ [d.name]) p.cells ++ itemsetNodes p.cells)) = [] := by
        unfold pyNode
        exact nodeRepFacts_quiet _ _ _ (by rw [nodeRepFactsL_append, a1, b1]; rfl)
          (fun r => by rw [List.filterMap_append, a2 r, b2 r]; rfl)
      refine ⟨by simp only [if_true, nodeRepFactsL, hq, List.append_nil], fun r => ?_⟩
      simp only [if_true, List.filterMap_cons, List.filterMap_nil, pyNode, sfactOf_nonset r _ _ _ hne]
  | pre, .sec .rep n b p ks, h => by
    simp only [ctlOk, Bool.and_eq_true] at h
    have hcl : cleanAttrs (Convert.subAttrs els (ctxOf els (pre ++ [n])) p.attrs) = true := by
      rw [cleanAttrs_subAttrs]; exact h.1
    obtain ⟨e1, _⟩ := head_attrs (l!"nodeset") (l!"ref") (xpathStr (pre ++ [n]))
      (Convert.subAttrs els (ctxOf els (pre ++ [n])) p.attrs) (clean_nodeset hcl) (clean_ref hcl) (by decide)
    obtain ⟨i1, i2⟩ := bodyNodesL_repFacts els (pre ++ [n]) ks h.2
    obtain ⟨l1, _⟩ := textNode_quiet els (pre ++ [n]) (l!"label") (get p.cells "label") (by decide)
    have hrep : nodeRepFacts (pyNode (l!"repeat")
        ((l!"nodeset", xpathStr (pre ++ [n])) :: subAttrs els (ctxOf els (pre ++ [n])) p.attrs)
        (bodyNodesL els (pre ++ [n]) ks ++ dynSetsL els (pre ++ [n]) ks)) =
        (repFactsL els (pre ++ [n]) ks).map strFact ++
          ((dynSetsL els (pre ++ [n]) ks).filterMap (factOf (some (pre ++ [n])))).map strFact := by
      simp only [pyNode, nodeRepFacts, if_true, e1, Option.getD_some, nodeRepFactsL_append, i1, dynSetsL_quiet,
        List.append_nil, List.filterMap_append, i2, List.nil_append, filterMap_sfactOf]
    refine ⟨?_, fun r => ?_⟩
    · simp only [bodyNodes, repFacts, List.map_append, nodeRepFactsL, List.append_nil]
      unfold pyNode at hrep ⊢
      rw [nodeRepFacts_group]
      simp only [nodeRepFactsL, List.append_nil]
      rw [hrep]
      unfold labelNode
      rw [l1]; rfl
    · simp only [bodyNodes, List.filterMap_cons, List.filterMap_nil, pyNode, sfactOf_nonset r _ _ _ group_ne_setvalue]
  | pre, .sec .group n b p ks, h | pre, .sec .loop n b p ks, h => by
    simp only [ctlOk, Bool.and_eq_true] at h
    obtain ⟨i1, i2⟩ := bodyNodesL_repFacts els (pre ++ [n]) ks h.2
    obtain ⟨l1, l2⟩ := textNode_quiet els (pre ++ [n]) (l!"label") (get p.cells "label") (by decide)
    refine ⟨?_, fun r => ?_⟩
    · simp only [bodyNodes, repFacts, nodeRepFactsL, List.append_nil, pyNode, nodeRepFacts, if_neg group_ne_repeat,
        nodeRepFactsL_append, i1]
      split
      · simp only [nodeRepFactsL, labelNode, l1, List.append_nil, List.nil_append]
      · simp only [nodeRepFactsL, List.nil_append]
    · simp only [bodyNodes, List.filterMap_cons, List.filterMap_nil, pyNode, sfactOf_nonset r _ _ _ group_ne_setvalue]
theorem bodyNodesL_repFacts (els : List Refs.Chain) : ∀ (pre : List Str) (ds : List DItem), ctlOkL ds = true →
    nodeRepFactsL (bodyNodesL els pre ds) = (repFactsL els pre ds).map strFact ∧
      ∀ r, (bodyNodesL els pre ds).filterMap (sfactOf r) = []
  | _, [], _ => ⟨rfl, fun _ => rfl⟩
  | pre, k :: ks, h => by
    simp only [ctlOkL, Bool.and_eq_true] at h
    obtain ⟨a1, a2⟩ := bodyNodes_repFacts els pre k h.1
    obtain ⟨b1, b2⟩ := bodyNodesL_repFacts els pre ks h.2
    refine ⟨?_, fun r => ?_⟩
    · simp only [bodyNodesL, repFactsL, nodeRepFactsL_append, a1, b1, List.map_append]
    · simp only [bodyNodesL, List.filterMap_append, a2 r, b2 r, List.append_nil]
end

#print axioms bodyNodesL_repFacts

theorem trace_c10_body {wb doc f lists rows drows o ditems} (T : Trace wb doc f lists rows drows o ditems) (sub : Defaults.Path → Str → Str) :
    nodeRepFactsL (bodyKidsOf doc) =
      ((Defaults.bodySetsL (Defaults.gen dynQ sub f.name (toDefL (dWithMeta f.name rows ditems))).body).map
        projFact).map strFact := by
  rw [trace_bodyKids T, (bodyNodesL_repFacts _ [f.name] ditems T.hctl).1, repFactsL_gen]

/-- **C10 for the whole conversion: every setvalue of the document** (location, `ref` and `event`; the `value`s are
    `convert_c03_exprs`).  Read from the document's nodes — the `<setvalue>` children of `<model>` and of every
    `<repeat nodeset=r>` of `<h:body>` — the setvalues are those of `Defaults.gen` on the element tree mapped into the
    `Defaults` slice's type, whose `setFacts` are a permutation of the specification `expSets`: exactly one per question
    with a dynamic default, in the nearest enclosing repeat (`<model>` if none) with the matching event, none otherwise.
    Existential closure of `trace_c10_model` / `trace_c10_body`: which tree `dall` is (the run's, with the meta block)
    is said there; here "one per question" is relative to a tree the statement does not tie to the workbook. -/
theorem convert_c10_setvalues (wb : Workbook) (doc : Node) (h : convertDoc wb = .ok doc)
    (sub : Defaults.Path → Str → Str) :
    ∃ (root : Str) (dall : List DItem) (g : Defaults.Out), g = Defaults.gen dynQ sub root (toDefL dall) ∧
      (modelKidsOf doc).filterMap (factOf none) = g.modelSets.map (fun s => projFact { loc := none, set := s }) ∧
      nodeRepFactsL (bodyKidsOf doc) = ((Defaults.bodySetsL g.body).map projFact).map strFact ∧
      Defaults.setFacts g = (g.modelSets.map fun s => { loc := none, set := s }) ++ Defaults.bodySetsL g.body ∧
      (Defaults.setFacts g).Perm (Defaults.expSets dynQ sub [root] none (toDefL dall)) := by
  obtain ⟨f, lists, rows, drows, o, ditems, T⟩ := convertDoc_trace wb doc h
  exact ⟨f.name, dWithMeta f.name rows ditems, _, rfl, trace_c10_model T sub, trace_c10_body T sub, rfl,
    C10.setvalues_exactly_once _ _ _ _⟩

#print axioms convert_c10_setvalues

-- a `<repeat>` element with one setvalue child and an inner repeat: both are read, inner first
example : nodeRepFacts (.elem (l!"repeat") [(l!"nodeset", l!"/data/r")]
    [.elem (l!"input") [(l!"ref", l!"/data/r/n")] [],
     .elem (l!"setvalue") [(l!"ref", l!"/data/r/n"), (l!"value", l!"now()"), (l!"event", evNewRepeat)] []]) =
    [(l!"/data/r", l!"/data/r/n", evNewRepeat)] := by decide +kernel
-- the body `bodyNodesL` writes for `exRep`, read as nodes, carries exactly that fact
example : nodeRepFactsL (bodyNodesL (elsOf (l!"data") exRep) [l!"data"] exRep) =
    [(l!"/data/r", l!"/data/r/n", evNewRepeat)] := by
  rw [(bodyNodesL_repFacts _ _ exRep (by decide)).1, exRep_repFacts]; rfl
-- the theorem applied to the example workbook
example : ∃ doc, convertDoc exWb = .ok doc ∧ ∃ root dall g, g = Defaults.gen dynQ (fun _ s => s) root (toDefL dall) ∧
    (modelKidsOf doc).filterMap (factOf none) = g.modelSets.map (fun s => projFact { loc := none, set := s }) ∧
    nodeRepFactsL (bodyKidsOf doc) = ((Defaults.bodySetsL g.body).map projFact).map strFact ∧
    Defaults.setFacts g = (g.modelSets.map fun s => { loc := none, set := s }) ++ Defaults.bodySetsL g.body ∧
    (Defaults.setFacts g).Perm (Defaults.expSets dynQ (fun _ s => s) [root] none (toDefL dall)) := by
  obtain ⟨doc, hd, -, -⟩ := ex_doc
  exact ⟨doc, hd, convert_c10_setvalues exWb doc hd _⟩

end Pyxv.ConvertP
