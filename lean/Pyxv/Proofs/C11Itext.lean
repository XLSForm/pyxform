import Pyxv.Proofs.C11
import Pyxv.Proofs.C07
/-!
# C11 ∘ C07: the `default_language` setting / argument reaches the itext block

Composition of this slice's `default_language_slot` (settings sheet, else the `default_language`
argument, else `default`) with the itext model's `Pyxv.C07.default_mark`: for any survey whose
`default_language` slot is the one the settings produce, a `<translation>` carries `default="true()"`
exactly when its language is the documented default language.
-/
namespace Pyxv.C11
open Pyxv Pyxv.Settings

/-- exactly the translations whose language equals the settings sheet's `default_language` (else the argument, else
`default`) are marked as default; no other setting or argument can move the mark -/
theorem default_translation {st : Dict} (hn : (keys st).Nodup) (a : Args) (x : Pyxv.Itext.Survey)
    (hx : x.defaultLanguage = defaultLanguageOf st a) :
    ∀ t ∈ (Pyxv.Itext.out x).translations,
      t.isDefault = (t.lang == Spec.defaultLanguage (sig st) a) := by
  rw [← default_language_slot hn a, ← hx]
  exact Pyxv.C07.default_mark x

/-- and when that language is among the translations, exactly one translation is marked -/
theorem default_translation_unique {st : Dict} (hn : (keys st).Nodup) (a : Args) (x : Pyxv.Itext.Survey)
    (hx : x.defaultLanguage = defaultLanguageOf st a)
    (hd : Spec.defaultLanguage (sig st) a ∈ (Pyxv.Itext.out x).translations.map (·.lang)) :
    ∃ pre t post, (Pyxv.Itext.out x).translations = pre ++ t :: post ∧
      t.lang = Spec.defaultLanguage (sig st) a ∧ t.isDefault = true ∧ ∀ u ∈ pre ++ post, u.isDefault = false := by
  rw [← default_language_slot hn a, ← hx] at hd ⊢
  exact Pyxv.C07.default_unique x hd

/-- non-vacuity: the argument `fr` with no `default_language` column; the column wins over the argument -/
example :
    Spec.defaultLanguage (sig []) { defaultLanguage := some (S "fr") } = S "fr" ∧
    defaultLanguageOf [(S "default_language", .s (S "en"))] { defaultLanguage := some (S "fr") } = S "en" ∧
    defaultLanguageOf [] {} = S "default" := by decide +kernel

end Pyxv.C11
