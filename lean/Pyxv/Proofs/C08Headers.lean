import Pyxv.Model.Headers
import Pyxv.Model.TextSpec
import Pyxv.Proofs.Literals
import Pyxv.Proofs.BaseLemmas
/-!
# C08 — header parsing: the model of `process_header` agrees with the spec's header reader

`Pyxv.Headers.processHeader` (the model of `sheet_headers.process_header` the driver runs) and
`Pyxv.TextSpec.readHeader` (the spec's own reading of a translatable column header) tokenise a header with the same
string primitives; what differs is how the first token is interpreted (alias / expected-column tables of the code vs the
spec's own spelling table).  `process_header_agrees_partial` proves that they agree on every header — any string, both
delimiter styles, any whitespace, any language — except when `process_header`'s second early exit fires.
-/
namespace Pyxv.C08
open Pyxv Pyxv.Headers

/-- the grouped-header tokens the text layer reads for a kind -/
def kindTokens (k : Str) : List Str :=
  if k = "constraint_message".toList then ["bind".toList, "jr:constraintMsg".toList]
  else if k = "required_message".toList then ["bind".toList, "jr:requiredMsg".toList]
  else if k = "image".toList ∨ k = "audio".toList ∨ k = "video".toList ∨ k = "big-image".toList then ["media".toList, k]
  else [k]

/-- what `process_header` makes of a first token `f` (already snake-cased): alias tokens, or the column itself -/
def headOf (al : List (Str × List Str)) (cols : List Str) (f : Str) : Option (List Str) :=
  match lookup f al with
  | some (a :: as) => some (a :: as)
  | _ => if cols.contains f then some [f] else none

/-- after tokenisation, `process_header` (no early exit) prepends `headOf` of the first token to the remaining tokens -/
theorem processHeader_of_tokens (h : Str) (d : Bool) (al : List (Str × List Str)) (cols : List Str) (t0 : Str) (rest hd : List Str)
    (hx1 : (cols.contains h && (lookup h al).isNone) = false)
    (hx2 : (cols.contains (toSnakeCase h) && (lookup (toSnakeCase h) al).isNone) = false)
    (ht : TextSpec.tokens d h = some (t0 :: rest)) (hh : headOf al cols (toSnakeCase t0) = some hd) :
    ∃ nh, processHeader h d al cols = .ok (nh, hd ++ rest) := by
  have htoks : (if d || isInfix "::".toList h then (Except.ok ((splitDC h).map strip) : Except Err (List Str))
      else fixJr ((splitOnChar ':' h).map strip)) = .ok (t0 :: rest) := by
    unfold TextSpec.tokens at ht
    split at ht
    · next hc => rw [if_pos (show (d || isInfix "::".toList h) = true from hc), Option.some.inj ht]
    · next hc =>
      rw [if_neg (show ¬ (d || isInfix "::".toList h) = true from hc)]
      split at ht
      · next t hf => rw [hf, Option.some.inj ht]
      · cases ht
  unfold processHeader
  simp only [hx1, hx2, Bool.false_eq_true, if_false, htoks]
  unfold headOf at hh
  split
  · next a as hl =>
    simp only [hl, Option.some.injEq] at hh
    subst hh
    exact ⟨_, rfl⟩
  · next hno =>
    split at hh
    · next a as hl => exact absurd hl (hno a as)
    · split at hh
      · next hc =>
        simp only [Option.some.injEq] at hh
        subst hh
        rw [if_pos hc]
        exact ⟨_, rfl⟩
      · cases hh

/-- the (kind, tokens left over) that `readHeader` computes from the first token and the rest: through the grouped table when
the second token names a `media` / `bind` sub-column, else through the spelling table -/
theorem kindAndTail (first : Str) (rest tail : List Str) (k : Str)
    (h : (match (match rest with
          | t1 :: rest' => (TextSpec.groupedKindOf.find? fun g => g.1 = first ∧ g.2.1 = t1).map fun g => (g.2.2, rest')
          | [] => none) with
        | some x => some x
        | none => (lookup first TextSpec.kindOf).map fun k => (k, rest)) = some (k, tail)) :
    (∃ t1 g, rest = t1 :: tail ∧ g ∈ TextSpec.groupedKindOf ∧ g.1 = first ∧ g.2.1 = t1 ∧ g.2.2 = k) ∨
      (rest = tail ∧ (first, k) ∈ TextSpec.kindOf) := by
  split at h
  · next x hgrouped =>
    cases h
    split at hgrouped
    · obtain ⟨g, hf, hgx⟩ := Option.map_eq_some_iff.mp hgrouped
      cases hgx
      have hg := List.find?_some hf
      simp only [decide_eq_true_eq] at hg
      exact Or.inl ⟨_, g, rfl, List.mem_of_find?_eq_some hf, hg.1, hg.2, rfl⟩
    · cases hgrouped
  · obtain ⟨k', hl, hkk⟩ := Option.map_eq_some_iff.mp h
    cases hkk
    exact Or.inr ⟨rfl, _root_.Pyxv.lookup_mem hl⟩

/-- what a successful `readHeader` says about the tokens: a first token, then either a `media`/`bind` sub-column token
found in the spec's grouped table or a first token found in its spelling table, then at most one language token -/
theorem readHeader_some (d : Bool) (h k : Str) (lopt : Option Str) (hr : TextSpec.readHeader d h = some (k, lopt)) :
    ∃ t0 rest, TextSpec.tokens d h = some (t0 :: rest) ∧
      ((∃ t1 g, rest = t1 :: lopt.toList ∧ g ∈ TextSpec.groupedKindOf ∧ g.1 = toSnakeCase t0 ∧ g.2.1 = t1 ∧ g.2.2 = k) ∨
       (rest = lopt.toList ∧ (toSnakeCase t0, k) ∈ TextSpec.kindOf)) := by
  unfold TextSpec.readHeader at hr
  split at hr
  · cases hr
  · cases hr
  · next t0 rest ht =>
    refine ⟨t0, rest, ht, ?_⟩
    simp only at hr
    split at hr
    · next hnone => cases hr; exact kindAndTail _ rest [] _ hnone
    · next l hone => cases hr; exact kindAndTail _ rest [l] _ hone
    · cases hr

/-- table facts (re-checked against the regenerated tables on every run; on `List Char` literals, see Literals.lean): for the
survey sheet the code's reading of every first token in the spec's spelling tables is the token list the text layer reads for
that kind -/
theorem survey_heads_agree :
    (TextSpec.groupedKindOf.all fun g =>
      decide (headOf surveyAliases surveyColumns g.1 = some [g.1]) && decide (kindTokens g.2.2 = [g.1, g.2.1])) = true ∧
    (TextSpec.kindOf.all fun e => decide (headOf surveyAliases surveyColumns e.1 = some (kindTokens e.2))) = true := by
  simp only [TextSpec.groupedKindOf, TextSpec.kindOf, TextSpec.s, kindTokens, surveyAliases, strTable, Gen.aliasSurveyHeader, surveyColumns, Gen.selectQuestionFields, List.map, toList_lit rfl]
  decide +kernel

/-- header parsing (survey sheet): for every header string `h` — both delimiter styles, arbitrary whitespace
around tokens, the `jr:` case, any language — that the spec reads as (kind, optional language), the model of `process_header`
returns the tokens the text layer reads for that kind, followed by the language.  `_partial`: `hx2` excludes `process_header`'s
second early exit (the snake-cased *whole* header is itself an un-aliased expected column: the case/space variants `Label`,
`Hint`, `Guidance Hint`, covered by `process_header_shapes` and the correspondence run); `hx1` is the first early exit, for
which `process_header_plain_columns` gives the same conclusion. -/
theorem process_header_agrees_partial (d : Bool) (h k : Str) (lopt : Option Str)
    (hx1 : (surveyColumns.contains h && (lookup h surveyAliases).isNone) = false)
    (hx2 : (surveyColumns.contains (toSnakeCase h) && (lookup (toSnakeCase h) surveyAliases).isNone) = false)
    (hr : TextSpec.readHeader d h = some (k, lopt)) :
    ∃ nh, processHeader h d surveyAliases surveyColumns = .ok (nh, kindTokens k ++ lopt.toList) := by
  obtain ⟨t0, rest, ht, hcase⟩ := readHeader_some d h k lopt hr
  have hF := survey_heads_agree
  rcases hcase with ⟨t1, g, hrest, hmem, hg1, hg2, hg3⟩ | ⟨hrest, hmem⟩
  · have := (List.all_eq_true.mp hF.1) g hmem
    simp only [Bool.and_eq_true, decide_eq_true_eq] at this
    obtain ⟨nh, hp⟩ := processHeader_of_tokens h d _ _ t0 rest [g.1] hx1 hx2 ht (hg1 ▸ this.1)
    refine ⟨nh, ?_⟩
    rw [hp, hrest, ← hg3, this.2, ← hg2]
    simp
  · have := (List.all_eq_true.mp hF.2) _ hmem
    simp only [decide_eq_true_eq] at this
    obtain ⟨nh, hp⟩ := processHeader_of_tokens h d _ _ t0 rest _ hx1 hx2 ht this
    exact ⟨nh, by rw [hp, hrest]⟩

/-- the first early exit: a header that is literally an un-aliased expected column and that the spec reads as a kind is that
kind's (single) token — checked over the regenerated column table -/
theorem process_header_plain_columns :
    (surveyColumns.all fun c => [true, false].all fun d =>
      match TextSpec.readHeader d c with
      | some (k, lopt) => !(lookup c surveyAliases).isNone || decide ([c] = kindTokens k ++ lopt.toList)
      | none => true) = true := by
  simp only [TextSpec.readHeader, TextSpec.tokens, TextSpec.groupedKindOf, TextSpec.kindOf, TextSpec.s, kindTokens, surveyAliases, strTable, Gen.aliasSurveyHeader, surveyColumns, Gen.selectQuestionFields, List.map, toList_lit rfl]
  decide +kernel

/-- `constraint message : French (fr)`: single colon, spaces, alias spelling -/
example : ∃ nh, processHeader "constraint message : French (fr)".toList false surveyAliases surveyColumns =
    .ok (nh, ["bind".toList, "jr:constraintMsg".toList, "French (fr)".toList]) :=
  process_header_agrees_partial false _ "constraint_message".toList (some "French (fr)".toList)
    (by simp only [surveyAliases, strTable, Gen.aliasSurveyHeader, surveyColumns, Gen.selectQuestionFields, List.map, toList_lit rfl]
        decide +kernel)
    (by simp only [surveyAliases, strTable, Gen.aliasSurveyHeader, surveyColumns, Gen.selectQuestionFields, List.map, toList_lit rfl]
        decide +kernel)
    (by simp only [TextSpec.readHeader, TextSpec.tokens, TextSpec.groupedKindOf, TextSpec.kindOf, TextSpec.s, toList_lit rfl]
        decide +kernel)

example : ∃ nh, processHeader "media::image :: fr".toList true surveyAliases surveyColumns =
    .ok (nh, ["media".toList, "image".toList, "fr".toList]) :=
  process_header_agrees_partial true _ "image".toList (some "fr".toList)
    (by simp only [surveyAliases, strTable, Gen.aliasSurveyHeader, surveyColumns, Gen.selectQuestionFields, List.map, toList_lit rfl]
        decide +kernel)
    (by simp only [surveyAliases, strTable, Gen.aliasSurveyHeader, surveyColumns, Gen.selectQuestionFields, List.map, toList_lit rfl]
        decide +kernel)
    (by simp only [TextSpec.readHeader, TextSpec.tokens, TextSpec.groupedKindOf, TextSpec.kindOf, TextSpec.s, toList_lit rfl]
        decide +kernel)

end Pyxv.C08
