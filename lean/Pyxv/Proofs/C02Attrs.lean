import Pyxv.Proofs.C02FlatInst
import Pyxv.Model.FormAttrs
/-!
# C02: no user-supplied column can move a ref / nodeset off the generated path

Element level (`emit*`), for every attribute dict: the reference attribute of an emitted element is the generated path
and nothing else, or the element is not emitted.  Row level (`rowEmit`): the same for one classified row.  Sheet level
(`formOutAttrs`): an accepted sheet has the output of the sheet without the four columns, so closure holds unchanged.
(`C17Reserved.lean` states the rejection of the same columns as a C17 catalogue entry.)
-/
namespace Pyxv.C02
open Pyxv Pyxv.Form Pyxv.Rows Pyxv.FormFlat Pyxv.FormAttrs

theorem setAttr_filter_ne (a : Attrs) (k v key : Str) (h : k ≠ key) :
    (setAttr a k v).filter (fun kv => kv.1 = key) = a.filter (fun kv => kv.1 = key) := by
  induction a with
  | nil => simp [setAttr, h]
  | cons x rest ih =>
    obtain ⟨k', v'⟩ := x
    simp only [setAttr]
    split
    · next hk => subst hk; simp [h]
    · simp [List.filter_cons, ih]

/-- the guarded loop never touches the attribute called `key` -/
theorem emitGuarded_keeps (key skip : Str) (mk : Str → FormAttrs.Err) (user acc out : Attrs)
    (h : emitGuarded key skip mk acc user = .ok out) :
    out.filter (fun kv => kv.1 = key) = acc.filter (fun kv => kv.1 = key) := by
  induction user generalizing acc with
  | nil => simp [emitGuarded] at h; subst h; rfl
  | cons x rest ih =>
    obtain ⟨k, v⟩ := x
    simp only [emitGuarded] at h
    split at h
    · cases h
    · next hk =>
      split at h
      · exact ih acc h
      · rw [ih _ h, setAttr_filter_ne _ _ _ _ hk]

/-- the guarded loop succeeds exactly when the dict has no item called `key` -/
theorem emitGuarded_ok_iff (key skip : Str) (mk : Str → FormAttrs.Err) (user acc : Attrs) :
    (∃ out, emitGuarded key skip mk acc user = .ok out) ↔ hasKey user key = false := by
  induction user generalizing acc with
  | nil => simp [emitGuarded, hasKey]
  | cons x rest ih =>
    obtain ⟨k, v⟩ := x
    simp only [emitGuarded, hasKey, List.any_cons]
    split
    · next hk => simp [hk]
    · next hk =>
      have : (decide (k = key)) = false := by simp [hk]
      simp only [this, Bool.false_or]
      split
      · exact ih acc
      · exact ih _

theorem emitGuarded_generated (key skip : Str) (mk : Str → FormAttrs.Err) (path : Str) (user out : Attrs)
    (h : emitGuarded key skip mk [(key, path)] user = .ok out) : onlyGenerated key path out := by
  unfold onlyGenerated
  rw [emitGuarded_keeps _ _ _ _ _ _ h]; simp

/-- an emitted bind has the generated path as its only `nodeset`, for every bind dict -/
theorem bind_nodeset_generated (path : Str) (user out : Attrs) (h : emitBind path user = .ok out) :
    onlyGenerated "nodeset".toList path out := emitGuarded_generated _ _ _ _ _ _ h

/-- the same for a question control and its `ref` -/
theorem question_ref_generated (path : Str) (user out : Attrs) (h : emitQuestionCtl path user = .ok out) :
    onlyGenerated "ref".toList path out := emitGuarded_generated _ _ _ _ _ _ h

/-- the same for an action element and its `ref` -/
theorem action_ref_generated (path : Str) (user out : Attrs) (h : emitAction path user = .ok out) :
    onlyGenerated "ref".toList path out := emitGuarded_generated _ _ _ _ _ _ h

/-- `bind::nodeset` / `body::ref` (question) / `action::ref`: the element is emitted iff the column is absent -/
theorem reserved_key_rejected (path : Str) (user : Attrs) :
    ((∃ out, emitBind path user = .ok out) ↔ hasKey user "nodeset".toList = false) ∧
    ((∃ out, emitQuestionCtl path user = .ok out) ↔ hasKey user "ref".toList = false) ∧
    ((∃ out, emitAction path user = .ok out) ↔ hasKey user "ref".toList = false) :=
  ⟨emitGuarded_ok_iff _ _ _ _ _, emitGuarded_ok_iff _ _ _ _ _, emitGuarded_ok_iff _ _ _ _ _⟩

theorem filter_key_of_not_hasKey (a : Attrs) (k : Str) (h : hasKey a k = false) : a.filter (fun kv => kv.1 = k) = [] :=
  List.filter_eq_nil_iff.mpr (List.any_eq_false.mp h)

/-- a group's `ref` is the generated path whatever `body::ref` says; a flat group has no `ref` at all -/
theorem group_ref_generated (path : Str) (user : Attrs) :
    onlyGenerated "ref".toList path (emitGroup false path user) ∧ noKey "ref".toList (emitGroup true path user) := by
  unfold onlyGenerated noKey emitGroup
  generalize "ref".toList = k
  simp

/-- an emitted repeat has the generated path as its only `nodeset` and no `ref`, for every control dict -/
theorem repeat_nodeset_generated (path : Str) (user out : Attrs) (h : emitRepeat path user = .ok out) :
    onlyGenerated "nodeset".toList path out ∧ noKey "ref".toList out := by
  have hne : "nodeset".toList ≠ "ref".toList := by decide
  unfold emitRepeat at h
  unfold onlyGenerated noKey
  generalize "nodeset".toList = kn, "ref".toList = kr at h hne ⊢
  split at h
  · cases h
  next h1 =>
  split at h
  · cases h
  next h2 =>
  cases h
  simp only [Bool.not_eq_true] at h1 h2
  simp [hne, filter_key_of_not_hasKey _ _ h1, filter_key_of_not_hasKey _ _ h2]

theorem optEmit_some (c : Bool) (e : Except FormAttrs.Err Attrs) (a : Attrs) (h : optEmit c e = .ok (some a)) : e = .ok a := by
  unfold optEmit at h
  split at h
  · split at h
    · cases h; rfl
    · cases h
  · cases h

/-- one row, whatever its `bind::` / `control::` / `action::` cells: the bind, every body element and the action it
    emits carry the generated path as their only reference attribute (a flat group: no `ref`) -/
theorem row_refs_generated (path : Str) (r : Cells) (fl : Bool) (k : RowK) (a : RowAttrs)
    (h : rowEmit path r fl k = .ok a) :
    (∀ b, a.bind = some b → onlyGenerated "nodeset".toList path b) ∧
    (∀ c ∈ a.ctl, onlyGenerated c.1 path c.2 ∨ (fl = true ∧ noKey "ref".toList c.2)) ∧
    (∀ b, a.action = some b → onlyGenerated "ref".toList path b) := by
  have hbind : ∀ {b b' : Attrs}, emitBind path (sub "bind" r) = .ok b → some b = some b' →
      onlyGenerated "nodeset".toList path b' := fun hb e => Option.some.inj e ▸ bind_nodeset_generated _ _ _ hb
  cases k with
  | q d other =>
    simp only [rowEmit] at h
    split at h; · cases h
    next b hb =>
    split at h; · cases h
    next act hact =>
    split at h; · cases h
    next c hc =>
    cases h
    refine ⟨fun _ => hbind hb, fun c' hc' => .inl ?_, fun b' hb' => ?_⟩
    · cases c with
      | none => cases hc'
      | some x =>
        obtain rfl := List.mem_singleton.mp hc'
        exact question_ref_generated _ _ _ (optEmit_some _ _ _ hc)
    · subst hb'; exact action_ref_generated _ _ _ (optEmit_some _ _ _ hact)
  | begin_ ct name bd helper =>
    simp only [rowEmit] at h
    split at h
    · split at h; · cases h
      next b hb =>
      split at h; · cases h
      next c hc =>
      cases h
      refine ⟨fun _ => hbind hb, fun c' hc' => .inl ?_, fun _ hb' => (nomatch hb')⟩
      simp only [List.mem_cons, List.not_mem_nil, or_false] at hc'
      rcases hc' with rfl | rfl
      · simp [onlyGenerated]
      · exact (repeat_nodeset_generated _ _ _ hc).1
    · split at h
      · next hfl =>
        cases h
        refine ⟨fun _ hb' => (nomatch hb'), fun c' hc' => .inr ?_, fun _ hb' => (nomatch hb')⟩
        obtain rfl := List.mem_singleton.mp hc'
        exact ⟨hfl, (group_ref_generated path _).2⟩
      · split at h; · cases h
        next b hb =>
        cases h
        refine ⟨fun _ => hbind hb, fun c' hc' => .inl ?_, fun _ hb' => (nomatch hb')⟩
        obtain rfl := List.mem_singleton.mp hc'
        exact (group_ref_generated path _).1
  | skip => cases h; simp
  | end_ ct => cases h; simp
  | bad e => cases h; simp

/-- the four columns are inert on every accepted sheet: its output is the output of the sheet without them.
    Only the first conjunct carries content: in the second `ks` is not tied to `classifyAll`, so `ks := []` satisfies it
    for every sheet. -/
theorem attrs_columns_inert (root : Str) (lists : List Str) (rows : List Cells) (settings : Cells) (o : FlatOut)
    (h : formOutAttrs root lists rows settings = .ok o) :
    formOutFlat root lists (rows.map dropAttrs) settings = .ok o ∧
    ∃ ks, checkRows rows (flagRows (rows.map dropAttrs) ks) = none := by
  unfold formOutAttrs at h
  simp only at h
  split at h; · cases h
  next o' ho =>
  split at h; · cases h
  next ks _ =>
  split at h; · cases h
  split at h; · cases h
  next hc =>
  injection h with h
  rw [walkOut_eq _ _ _ _ _ ho] at h
  exact ⟨h ▸ ho, ks, hc⟩

/-- closure on sheets that carry `body::ref` / `body::nodeset` / `bind::nodeset` / `action::ref` anywhere -/
theorem attrs_refs_resolve (root : Str) (lists : List Str) (rows : List Cells) (settings : Cells) (o : FlatOut)
    (h : formOutAttrs root lists rows settings = .ok o) :
    ∀ p ∈ o.binds ++ o.body, resolves o.inst p = true :=
  refs_resolve_flat root lists _ settings o (attrs_columns_inert root lists rows settings o h).1

/-! ### Non-vacuity -/

def cA (k v : String) : Str × Str := (k.toList, v.toList)

def exAttrs : List Cells := [
  [cA "type" "text", cA "name" "a", cA "label" "A", cA "control::nodeset" "/x/y"],
  [cA "type" "begin group", cA "name" "g", cA "label" "G", cA "control::ref" "/x/y", cA "action::ref" "zzz"],
  [cA "type" "begin group", cA "name" "f", cA "label" "F", cA "flat" "yes", cA "bind::nodeset" "/x", cA "control::ref" "/y"],
  [cA "type" "text", cA "name" "b", cA "label" "B"],
  [cA "type" "end group"],
  [cA "type" "end group"],
  [cA "type" "begin repeat", cA "name" "r", cA "label" "R", cA "action::ref" "zzz"],
  [cA "type" "text", cA "name" "c", cA "label" "C"],
  [cA "type" "end repeat"]]

-- accepted, with the generated paths only
example : (match formOutAttrs "data".toList [] exAttrs [] with
    | .ok o => o.body.map xpathStr == ["/data/a", "/data/g", "/data/g/b", "/data/r", "/data/r", "/data/r/c"].map String.toList
        && o.binds.length == 4
    | .error _ => false) = true := by decide +kernel
-- each rejected shape
example : (match formOutAttrs "data".toList [] ([cA "type" "text", cA "name" "q", cA "label" "Q", cA "control::ref" "/x"] :: exAttrs) [] with
    | .error (.attr 2 (.body _)) => true | _ => false) = true := by decide +kernel
example : (match formOutAttrs "data".toList [] ([cA "type" "integer", cA "name" "q", cA "label" "Q", cA "bind::nodeset" "/x"] :: exAttrs) [] with
    | .error (.attr 2 (.bind _)) => true | _ => false) = true := by decide +kernel
example : (match formOutAttrs "data".toList [] (exAttrs ++ [[cA "type" "begin repeat", cA "name" "s", cA "label" "S", cA "control::nodeset" "/x"],
      [cA "type" "text", cA "name" "d", cA "label" "D"], [cA "type" "end repeat"]]) [] with
    | .error (.attr 11 (.body _)) => true | _ => false) = true := by decide +kernel
-- element level: pass-through of other keys, overwrite by setAttribute, the guard
example : (emitQuestionCtl "/data/q".toList [cA "nodeset" "/x", cA "tag" "input", cA "nodeset" "/y"]).toOption
    = some [cA "ref" "/data/q", cA "nodeset" "/y"] := by decide +kernel
example : (match emitBind "/data/q".toList [cA "type" "string", cA "nodeset" "/x"] with
    | .error (.bind a) => a == "nodeset".toList | _ => false) = true := by decide +kernel
example : (match emitAction "/data/q".toList [cA "name" "odk:recordaudio", cA "ref" "/x"] with
    | .error (.action a) => a == "ref".toList | _ => false) = true := by decide +kernel
example : emitGroup false "/data/g".toList [cA "ref" "/x", cA "nodeset" "/y"] = [cA "nodeset" "/y", cA "ref" "/data/g"] := by decide +kernel
example : emitGroup true "/data/g".toList [cA "ref" "/x"] = [] := by decide +kernel
example : (emitRepeat "/data/r".toList [cA "appearance" "field-list"]).toOption = some [cA "nodeset" "/data/r", cA "appearance" "field-list"] := by decide +kernel
example : (rowEmit "/data/r".toList [cA "type" "begin repeat", cA "name" "r", cA "control::ref" "/x"] false (.begin_ .rep "r".toList false none)).toOption.isNone = true := by decide +kernel

end Pyxv.C02
