import Pyxv.Proofs.C05
import Pyxv.Proofs.HeadersLemmas
/-!
# Bridge: `Pyxv.Binds`' private copy of `process_header` agrees with `Pyxv.Headers` (the model of C08 and of C17's header rules)

The two are proved equal for every header, alias table and column set, so `header_to_bind`, `header_bind_double`,
`header_bind_single(_jr)` are theorems about `Pyxv.Headers.processHeader` as well.  The row level is
`processRow_bind_agrees` (C05Rows).  C13's `Spell.processHeader` is a third model; no equation ties it to these two.
-/
namespace Pyxv.C05
open Pyxv Pyxv.Binds

theorem toSnakeCase_eq (s : Str) : Binds.toSnakeCase s = Headers.toSnakeCase s := by
  unfold Binds.toSnakeCase Headers.toSnakeCase
  rw [Binds.splitWs_eq, Headers.splitWs_eq]

theorem splitDC_eq (s : Str) : Headers.splitDC s = splitOn2 ':' s := by
  fun_induction Headers.splitDC s with
  | case1 => rfl
  | case2 c => rfl
  | case3 c d rest h ih => rw [splitOn2_cons2, if_pos h, ih]
  | case4 c d rest h hs ih => rw [splitOn2_cons2, if_neg h, ← ih, hs]
  | case5 c d rest h f fs hs ih => rw [splitOn2_cons2, if_neg h, ← ih, hs]

theorem fixJr_eq : ∀ (l : List Str), jrFix l = (Headers.fixJr l).toOption := by
  intro l
  induction l with
  | nil => rfl
  | cons t ts ih =>
    unfold jrFix Headers.fixJr
    by_cases h : t = "jr".toList
    · rw [if_pos h, if_pos h]
      cases ts <;> rfl
    · rw [if_neg h, if_neg h, ih]
      cases Headers.fixJr ts <;> rfl

/-- The bind slice's `process_header` and `Pyxv.Headers.processHeader` return the same tokens and the same
    string-or-tuple `new_header`, or both hit the IndexError of a trailing `jr`. -/
theorem processHeader_agrees (udc : Bool) (al : List (Str × List Str)) (cols : List Str) (h : Str) :
    (Binds.processHeader udc al cols h).map (fun r => ((match r.1 with | .str s => some s | .tup => none), r.2)) =
      (match Headers.processHeader h udc al cols with
       | .ok r => some r
       | .error _ => none) := by
  unfold Binds.processHeader Headers.processHeader
  simp only [toSnakeCase_eq]
  split
  · rfl
  split
  · rfl
  -- the two token lists agree; what follows them is the same text in both functions
  have ht : (if (udc || isInfix "::".toList h) = true then some ((splitOn2 ':' h).map strip)
        else jrFix ((splitOnChar ':' h).map strip)) =
      (if (udc || isInfix "::".toList h) = true then .ok ((Headers.splitDC h).map strip)
        else Headers.fixJr ((splitOnChar ':' h).map strip)).toOption := by
    split
    · rw [splitDC_eq]; rfl
    · exact fixJr_eq _
  rw [ht]
  generalize (if (udc || isInfix "::".toList h) = true then Except.ok ((Headers.splitDC h).map strip)
        else Headers.fixJr ((splitOnChar ':' h).map strip)) = T
  cases T with
  | error e => rfl
  | ok toks0 =>
    cases toks0 with
    | nil => rfl
    | cons t0 rest =>
      simp only [Except.toOption]
      cases hl : lookup (Headers.toSnakeCase t0) al with
      | none => by_cases hc : Headers.toSnakeCase t0 ∈ cols <;> simp [hc]
      | some toks =>
        cases toks with
        | nil => by_cases hc : Headers.toSnakeCase t0 ∈ cols <;> simp [hc]
        | cons a as => cases as <;> simp

/-- the bridge on a concrete noisy spelling: both models give `(bind, readonly)` -/
example : (match Headers.processHeader " Read  ONLY ".toList true surveyAliases surveyColumns with
    | .ok r => some r | .error _ => none) = some (none, ["bind".toList, "readonly".toList]) ∧
    Binds.processHeader true surveyAliases surveyColumns " Read  ONLY ".toList =
      some (.tup, ["bind".toList, "readonly".toList]) := by
  rw [surveyAliasesC.2, surveyColumnsC.2]; decide +kernel

end Pyxv.C05
