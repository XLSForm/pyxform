import Pyxv.Proofs.ItextLemmas
/-!
# The rendering of itext ids is injective

`list-idx` for choices (`choiceId`, survey.py:381,802) and `xpath:display` for elements and osm tags
(`path`, `SurveyElement._translation_path`).  Different sources never render to the same string, so a
`<text id>` belongs to exactly one source: `ids_nodup` (unique dict keys) is then a statement about
distinct *sources*, not an accident of merging.
-/
namespace Pyxv.Itext
open Pyxv

theorem natStr_inj {i j : Nat} (h : (toString i).toList = (toString j).toList) : i = j := by
  rw [toList_toString, toList_toString] at h
  have := congrArg (fun l => Nat.ofDigitChars 10 l 0) h
  simpa using this

theorem dash_not_mem_toString (n : Nat) : '-' ∉ (toString n).toList := by
  intro h
  have := digits_toString h
  simp at this

theorem split_last {c : Char} {a b s t : Str} (h : a ++ c :: s = b ++ c :: t) (hs : c ∉ s) (ht : c ∉ t) :
    a = b ∧ s = t := by
  have hst : s = t := by
    have := congrArg (fun l => (splitOnChar c l).getLast?) h
    simpa only [splitOnChar_append, splitOnChar_of_not_mem c _ hs, splitOnChar_of_not_mem c _ ht,
      List.getLast?_append, List.getLast?_singleton, Option.some_or, Option.some.injEq] using this
  subst hst
  exact ⟨List.append_cancel_right h, rfl⟩

/-- whatever characters, including `-`, the list name contains -/
theorem choiceId_inj {n m : Str} {i j : Nat} (h : choiceId n i = choiceId m j) : n = m ∧ i = j := by
  unfold choiceId at h
  obtain ⟨h1, h2⟩ := split_last h (dash_not_mem_toString i) (dash_not_mem_toString j)
  exact ⟨h1, natStr_inj h2⟩

/-- the display elements `_translation_path` is called with -/
def displays : List String :=
  ["label", "hint", "jr:constraintMsg", "jr:requiredMsg", "jr:noAppErrorString"]

theorem display_suffixes :
    ∀ d ∈ displays, ∀ e ∈ displays, (':' :: e.toList).isSuffixOf (':' :: d.toList) = true → d = e := by
  decide +kernel

theorem path_eq (x : Str) (d : String) : path x d = x ++ ':' :: d.toList := rfl

theorem suffix_display {a : Str} {d e : String} (hd : d ∈ displays) (he : e ∈ displays)
    (hs : ':' :: d.toList = a ++ ':' :: e.toList) : a = [] ∧ d = e := by
  have hde := display_suffixes d hd e he (by rw [List.isSuffixOf_iff_suffix]; exact ⟨a, hs.symm⟩)
  subst hde
  have hl := congrArg List.length hs
  simp only [List.length_append, List.length_cons] at hl
  exact ⟨List.eq_nil_of_length_eq_zero (by omega), rfl⟩

/-- for any xpaths: names may contain `:` -/
theorem path_inj {x y : Str} {d e : String} (hd : d ∈ displays) (he : e ∈ displays)
    (h : path x d = path y e) : x = y ∧ d = e := by
  rw [path_eq, path_eq] at h
  -- one of the two `:display` tails is a suffix of the other, hence equal to it
  rcases List.append_eq_append_iff.mp h with ⟨a', hy, hs⟩ | ⟨c', hx, ht⟩
  · obtain ⟨rfl, rfl⟩ := suffix_display hd he hs
    exact ⟨by simpa using hy.symm, rfl⟩
  · obtain ⟨rfl, rfl⟩ := suffix_display he hd ht
    exact ⟨by simpa using hx, rfl⟩

theorem display_last : ∀ d ∈ displays, ∃ c, d.toList.getLast? = some c ∧ c.isDigit = false := by
  decide +kernel

/-- a choice id is never an element id: the former ends in a digit, the latter in a letter -/
theorem choiceId_ne_path (n : Str) (i : Nat) (x : Str) {d : String} (hd : d ∈ displays) :
    choiceId n i ≠ path x d := by
  intro h
  have h1 : (choiceId n i).getLast? = (toString i).toList.getLast? := by
    unfold choiceId
    rw [List.getLast?_append, List.getLast?_cons]
    cases hl : (toString i).toList.getLast? with
    | none => simp [List.getLast?_eq_none_iff] at hl
    | some c => simp
  obtain ⟨c, hc, hnd⟩ := display_last d hd
  have h2 : (path x d).getLast? = some c := by
    rw [path_eq, List.getLast?_append, List.getLast?_cons, hc]; simp
  rw [h, h2] at h1
  have hmem : c ∈ (toString i).toList := List.mem_of_getLast? h1.symm
  rw [digits_toString hmem] at hnd
  cases hnd

theorem mem_idsFrom {name r : Str} {os : List Opt} {k : Nat} :
    r ∈ idsFrom name k os ↔ ∃ j, j < os.length ∧ r = choiceId name (k + j) := by
  rw [mem_of_counted_eqns (g := fun i _ => [choiceId name i]) (gL := idsFrom name) (fun _ => rfl) fun _ _ _ => rfl]
  simp only [List.mem_singleton, List.getElem?_eq_some_iff]
  exact ⟨fun ⟨j, _, ⟨hj, _⟩, hr⟩ => ⟨j, hj, hr⟩, fun ⟨j, hj, hr⟩ => ⟨j, _, ⟨hj, rfl⟩, hr⟩⟩

theorem nodup_idsFrom (name : Str) : ∀ (os : List Opt) (k : Nat), (idsFrom name k os).Nodup
  | [], _ => by simp [idsFrom]
  | _ :: os, k => by
    simp only [idsFrom, List.nodup_cons]
    refine ⟨?_, nodup_idsFrom name os (k + 1)⟩
    intro h
    obtain ⟨j, _, he⟩ := mem_idsFrom.mp h
    have := (choiceId_inj he).2
    omega

theorem nodup_listIds (l : CList) : (listIds l).Nodup := by
  unfold listIds
  split
  · exact nodup_idsFrom _ _ _
  · simp

theorem mem_listIds_iff {l : CList} {r : Str} :
    r ∈ listIds l ↔ requiresItext l = true ∧ r ∈ idsFrom l.name 0 l.options :=
  List.mem_ite_nil_right

theorem mem_listIds {l : CList} {r : Str} (h : r ∈ listIds l) : ∃ i, r = choiceId l.name i := by
  obtain ⟨j, _, hr⟩ := mem_idsFrom.mp (mem_listIds_iff.mp h).2
  exact ⟨0 + j, hr⟩

theorem nodup_flatMap_listIds (ls : List CList) (h : (ls.map (·.name)).Nodup) : (ls.flatMap listIds).Nodup := by
  refine List.pairwise_flatMap.mpr ⟨fun l _ => nodup_listIds l, (List.pairwise_map.mp h).imp ?_⟩
  intro l l' hne a ha b hb hab
  obtain ⟨i, hi⟩ := mem_listIds ha
  obtain ⟨j, hj⟩ := mem_listIds hb
  exact hne (choiceId_inj (hi.symm.trans (hab ▸ hj))).1

end Pyxv.Itext
