import Pyxv.Proofs.ItextLemmas
/-!
# Value level of the translation table

`valueAt T lang id form` = `_translations[lang][id][form]`.  Last write wins (`ins` overwrites in place),
padding never overwrites (`pad` only adds missing keys with `-`), and nothing else ever appears in the table:
every value is the padding `-` or a text written for exactly that language, id and form.
-/
namespace Pyxv.Itext
open Pyxv

def valueAt (T : Table) (l p f : Str) : Option Str :=
  (lookup l T).bind fun ps => (lookup p ps).bind fun fs => lookup f fs

theorem valueAt_eq_some {T : Table} {l p f t : Str} :
    valueAt T l p f = some t ↔ ∃ ps fs, lookup l T = some ps ∧ lookup p ps = some fs ∧ lookup f fs = some t := by
  simp only [valueAt, Option.bind_eq_some_iff]
  exact ⟨fun ⟨ps, h1, fs, h2, h3⟩ => ⟨ps, fs, h1, h2, h3⟩, fun ⟨ps, fs, h1, h2, h3⟩ => ⟨ps, h1, fs, h2, h3⟩⟩

theorem valueAt_ins (T : Table) (e : Ent) (l p f : Str) :
    valueAt (ins T e) l p f =
      if l = e.lang ∧ p = e.path ∧ f = e.form then some e.text else valueAt T l p f := by
  unfold valueAt ins
  by_cases hl : l = e.lang
  · by_cases hp : p = e.path
    · by_cases hf : f = e.form
      · simp [lookup_upd, hl, hp, hf]
      · cases h1 : lookup e.lang T with
        | none => simp [lookup_upd, hl, hp, hf, h1, lookup]
        | some ps =>
          cases h2 : lookup e.path ps with
          | none => simp [lookup_upd, hl, hp, hf, h1, h2, lookup]
          | some fs => simp [lookup_upd, hl, hp, hf, h1, h2]
    · cases h1 : lookup e.lang T with
      | none => simp [lookup_upd, hl, hp, h1, lookup]
      | some ps => simp [lookup_upd, hl, hp, h1]
  · simp [lookup_upd, hl]

def sameKey (a b : Ent) : Prop := a.lang = b.lang ∧ a.path = b.path ∧ a.form = b.form

def lastWrite (es : List Ent) (l p f : Str) : Option Ent :=
  es.reverse.find? fun e => decide (l = e.lang ∧ p = e.path ∧ f = e.form)

theorem valueAt_foldl (l p f : Str) : ∀ (es : List Ent) (T : Table),
    valueAt (es.foldl ins T) l p f = ((lastWrite es l p f).map (·.text)).or (valueAt T l p f)
  | [], T => by simp [lastWrite]
  | e :: es, T => by
    rw [List.foldl_cons, valueAt_foldl l p f es, valueAt_ins]
    simp only [lastWrite, List.reverse_cons, List.find?_append, List.find?_singleton]
    cases List.find? (fun e => decide (l = e.lang ∧ p = e.path ∧ f = e.form)) es.reverse with
    | some e' => rfl
    | none => by_cases h : l = e.lang ∧ p = e.path ∧ f = e.form <;> simp [h]

theorem valueAt_setup (es : List Ent) (l p f : Str) : valueAt (setup es) l p f = (lastWrite es l p f).map (·.text) := by
  rw [setup, valueAt_foldl]
  cases lastWrite es l p f <;> rfl

theorem lastWrite_mem {es : List Ent} {l p f : Str} {e : Ent} (h : lastWrite es l p f = some e) :
    e ∈ es ∧ l = e.lang ∧ p = e.path ∧ f = e.form :=
  ⟨List.mem_reverse.mp (List.mem_of_find?_eq_some h), by simpa using List.find?_some h⟩

theorem lastWrite_isSome {es : List Ent} {e : Ent} (h : e ∈ es) : ∃ e', lastWrite es e.lang e.path e.form = some e' :=
  Option.isSome_iff_exists.mp (List.find?_isSome.mpr ⟨e, List.mem_reverse.mpr h, by simp⟩)

theorem valueAt_setup_last (pre post : List Ent) (e : Ent)
    (h : ∀ e' ∈ post, ¬ sameKey e e') :
    valueAt (setup (pre ++ e :: post)) e.lang e.path e.form = some e.text := by
  rw [valueAt_setup, lastWrite, List.reverse_append, List.reverse_cons, List.append_assoc, List.find?_append,
    List.find?_eq_none.mpr fun e' he' => by simpa [sameKey] using h e' (List.mem_reverse.mp he')]
  simp

theorem valueAt_setup_agree {es : List Ent} {e : Ent} (he : e ∈ es)
    (hag : ∀ e' ∈ es, sameKey e e' → e'.text = e.text) :
    valueAt (setup es) e.lang e.path e.form = some e.text := by
  obtain ⟨e', he'⟩ := lastWrite_isSome he
  obtain ⟨hm, hk⟩ := lastWrite_mem he'
  rw [valueAt_setup, he', Option.map_some, hag e' hm hk]

theorem path_filed {es : List Ent} {e : Ent} (he : e ∈ es) : ∃ lps ∈ setup es, lps.1 = e.lang ∧ e.path ∈ keys lps.2 := by
  obtain ⟨e', he'⟩ := lastWrite_isSome he
  obtain ⟨ps, fs, h1, h2, _⟩ := valueAt_eq_some.mp ((valueAt_setup es e.lang e.path e.form).trans (congrArg _ he'))
  exact ⟨(e.lang, ps), lookup_mem h1, rfl, mem_keys_of_mem (lookup_mem h2)⟩

theorem lookup_keepForms (cs : List (Str × Unit)) (fs : Forms) (f t : Str) (h : lookup f fs = some t) :
    lookup f (keepForms cs fs) = some t := by
  obtain ⟨v, hv, rfl⟩ := foldl_upd_keep (fun c : Str × Unit => c.1) (fun _ o3 => o3.getD dashStr) (· = t) f cs fs
    (fun _ _ _ _ hv => hv) ⟨t, h, rfl⟩
  exact hv

theorem lookup_padLang_some (P : List (Str × List (Str × Unit))) (ps : Paths) (p f t : Str) (fs : Forms)
    (h1 : lookup p ps = some fs) (h2 : lookup f fs = some t) :
    ∃ fs', lookup p (padLang P ps) = some fs' ∧ lookup f fs' = some t := by
  unfold padLang
  exact foldl_upd_keep (fun pc : Str × List (Str × Unit) => pc.1)
    (fun pc o => keepForms pc.2 (o.getD []))
    (fun fs => lookup f fs = some t) p P ps (fun pc _ _ v hv => lookup_keepForms pc.2 v f t hv) ⟨fs, h1, h2⟩

theorem valueAt_pad (lists : List CList) (T : Table) (l p f t : Str) (h : valueAt T l p f = some t) :
    valueAt (pad lists T) l p f = some t := by
  obtain ⟨ps, fs, h1, h2, h3⟩ := valueAt_eq_some.mp h
  obtain ⟨fs', hf1, hf2⟩ := lookup_padLang_some (allPathsC lists T) ps p f t fs h2 h3
  refine valueAt_eq_some.mpr ⟨_, fs', ?_, hf1, hf2⟩
  unfold pad
  rw [lookup_map_values (padLang (allPathsC lists T)), h1]
  rfl

/-- every value of the table is `-` or the text of a leaf assignment for exactly this (lang, id, form) -/
def Sound (es : List Ent) (T : Table) : Prop :=
  ∀ lps ∈ T, ∀ pf ∈ lps.2, ∀ ft ∈ pf.2, ft.2 = dashStr ∨ (⟨lps.1, pf.1, ft.1, ft.2⟩ : Ent) ∈ es

theorem sound_mono {es es' : List Ent} {T : Table} (h : Sound es T) (hs : ∀ e ∈ es, e ∈ es') : Sound es' T := by
  intro lps hl pf hp ft hf
  rcases h lps hl pf hp ft hf with h | h
  · exact Or.inl h
  · exact Or.inr (hs _ h)

theorem sound_ins {es : List Ent} {T : Table} (e : Ent) (h : Sound es T) (he : e ∈ es) : Sound es (ins T e) := by
  unfold ins
  -- the invariant of each dict level survives the `upd` of that level
  refine upd_inv (fun l (ps : Paths) => ∀ pf ∈ ps, ∀ ft ∈ pf.2, ft.2 = dashStr ∨ (⟨l, pf.1, ft.1, ft.2⟩ : Ent) ∈ es)
    _ _ T h fun o ho => ?_
  refine upd_inv (fun p (fs : Forms) => ∀ ft ∈ fs, ft.2 = dashStr ∨ (⟨e.lang, p, ft.1, ft.2⟩ : Ent) ∈ es)
    _ _ _ ?_ fun o2 ho2 => ?_
  · cases o with
    | none => intro _ h; cases h
    | some ps => exact ho ps rfl
  · refine upd_inv (fun f (t : Str) => t = dashStr ∨ (⟨e.lang, e.path, f, t⟩ : Ent) ∈ es) _ _ _ ?_ fun _ _ => Or.inr he
    cases o2 with
    | none => intro _ h; cases h
    | some fs => exact ho2 fs rfl

theorem sound_setup (es : List Ent) : Sound es (setup es) :=
  List.foldlRecOn (motive := Sound es) es ins (by intro lps hl; cases hl) fun _ hT e he => sound_ins e hT he

theorem mem_keepForms (cs : List (Str × Unit)) (fs : Forms) {ft : Str × Str}
    (h : ft ∈ keepForms cs fs) : ft ∈ fs ∨ ft.2 = dashStr :=
  foldl_upd_inv (fun c : Str × Unit => c.1) (fun _ o3 => o3.getD dashStr) (fun k v => (k, v) ∈ fs ∨ v = dashStr) cs fs
    (fun _ hkv => Or.inl hkv)
    (fun _ _ o ho => by
      cases o with
      | none => exact Or.inr rfl
      | some v => exact ho v rfl)
    ft h

theorem padLang_mem (P : List (Str × List (Str × Unit))) (ps : Paths) {pf : Str × Forms} (h : pf ∈ padLang P ps) :
    ∀ ft ∈ pf.2, ft.2 = dashStr ∨ ∃ fs, (pf.1, fs) ∈ ps ∧ ft ∈ fs := by
  unfold padLang at h
  refine foldl_upd_inv (fun pc : Str × List (Str × Unit) => pc.1)
    (fun pc o => keepForms pc.2 (o.getD []))
    (fun p fs' => ∀ ft ∈ fs', ft.2 = dashStr ∨ ∃ fs, (p, fs) ∈ ps ∧ ft ∈ fs) P ps
    (fun kv hkv ft hft => Or.inr ⟨kv.2, hkv, hft⟩) (fun pc _ o ho ft hft => ?_) pf h
  rcases mem_keepForms _ _ hft with hft | hft
  · cases o with
    | none => cases hft
    | some v => exact ho v rfl ft hft
  · exact Or.inl hft

theorem sound_pad {es : List Ent} {T : Table} (lists : List CList) (h : Sound es T) : Sound es (pad lists T) := by
  intro lps hl pf hp ft hf
  obtain ⟨lps0, hl0, rfl⟩ := mem_pad.mp hl
  rcases padLang_mem _ _ hp ft hf with h1 | ⟨fs, hfs, hin⟩
  · exact Or.inl h1
  · exact h lps0 hl0 (pf.1, fs) hfs ft hin

end Pyxv.Itext
