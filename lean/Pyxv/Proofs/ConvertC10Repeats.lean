import Pyxv.Proofs.ConvertC10
/-!
# C10 for the end-to-end composition, beyond `<model>`: the setvalues inside repeats

`Convert.bodyNodes` appends to each `<repeat>` the setvalues of the dynamic defaults of its descendants that are not
inside a nested repeat (`dynSetsL`, the counterpart of `Defaults.helperSets`).  `dynSetsL` finds an element's chain by
its path (`ctxOf els path`); the membership fact it needs — every element of the walk is one of `elsOf`'s chains —
holds because `elsOf` *is* the chain list of the same tree.  With it all setvalue facts of the conversion are
`Defaults.setFacts (Defaults.gen …)`, the list `C10.setvalues_exactly_once` is about.
-/
namespace Pyxv.ConvertP
open Pyxv Pyxv.Form Pyxv.Rows Pyxv.Xml Pyxv.Asm Pyxv.Convert Pyxv.C01

/-- some chain with that path is found, not necessarily `c` -/
theorem ctxOf_path_of_mem (els : List Refs.Chain) (c : Refs.Chain) (hc : c ∈ els) :
    (ctxOf els c.path).path = c.path := by
  unfold ctxOf
  cases hf : els.find? (fun x => x.path == c.path) with
  | none =>
    have := List.find?_eq_none.1 hf c hc
    simp at this
  | some x =>
    have := List.find?_some hf
    simpa using this

/-- a hypothesis on all chains of a walk, restricted to the walk of the children / the first item / the rest -/
theorem chains_kids {S : Refs.Chain → Prop} {pc : Refs.Chain} {ct n b p ks}
    (h : ∀ c ∈ (toEl (.sec ct n b p ks)).chains pc, S c) : ∀ c ∈ Refs.chainsL (pc ++ [(n, kindOf ct)]) (toElL ks), S c :=
  fun c hc => h c (by simp only [toEl, Refs.El.chains, List.mem_cons]; exact Or.inr hc)

theorem chains_head {S : Refs.Chain → Prop} {pc : Refs.Chain} {k : DItem} {ks : List DItem}
    (h : ∀ c ∈ Refs.chainsL pc (toElL (k :: ks)), S c) : ∀ c ∈ (toEl k).chains pc, S c :=
  fun c hc => h c (by simp only [toElL, Refs.chainsL, List.mem_append]; exact Or.inl hc)

theorem chains_tail {S : Refs.Chain → Prop} {pc : Refs.Chain} {k : DItem} {ks : List DItem}
    (h : ∀ c ∈ Refs.chainsL pc (toElL (k :: ks)), S c) : ∀ c ∈ Refs.chainsL pc (toElL ks), S c :=
  fun c hc => h c (by simp only [toElL, Refs.chainsL, List.mem_append]; exact Or.inr hc)

mutual
/-- **setvalues appended to a `<repeat>`** = `Defaults.helperSets` of the mapped tree -/
theorem dynSets_facts (els : List Refs.Chain) (sub : Defaults.Path → Str → Str) (rp : List Str) :
    ∀ (pc : Refs.Chain) (d : DItem), (∀ c ∈ (toEl d).chains pc, c ∈ els) →
    (dynSets els pc.path d).filterMap (factOf (some rp)) =
      (Defaults.helperSets dynQ sub pc.path [toDef d]).map fun s => projFact { loc := some rp, set := s }
  | pc, .q d p, h => by
    have hm : pc ++ [(d.name, Refs.Kind.q)] ∈ els := h _ (by simp [toEl, Refs.El.chains])
    have hctx : (ctxOf els (pc.path ++ [d.name])).path = pc.path ++ [d.name] := by
      rw [← path_snoc pc d.name .q]; exact ctxOf_path_of_mem els _ hm
    have := dynSetOf_fact els (ctxOf els (pc.path ++ [d.name])) d p pc.path (some rp) sub hctx
    simp only [Option.isSome_some] at this
    simp only [dynSets, toDef, Defaults.helperSets, List.append_nil, this]
  | pc, .sec .rep n b p ks, _ => by
    simp only [dynSets, toDef, Defaults.helperSets, List.filterMap_nil, List.map_nil]
  | pc, .sec .group n b p ks, h | pc, .sec .loop n b p ks, h => by
    have := dynSetsL_facts els sub rp (pc ++ [(n, kindOf _)]) ks (chains_kids h)
    rw [path_snoc] at this
    simp only [dynSets, toDef, Defaults.helperSets, List.append_nil, this]
theorem dynSetsL_facts (els : List Refs.Chain) (sub : Defaults.Path → Str → Str) (rp : List Str) :
    ∀ (pc : Refs.Chain) (ds : List DItem), (∀ c ∈ Refs.chainsL pc (toElL ds), c ∈ els) →
    (dynSetsL els pc.path ds).filterMap (factOf (some rp)) =
      (Defaults.helperSets dynQ sub pc.path (toDefL ds)).map fun s => projFact { loc := some rp, set := s }
  | _, [], _ => by simp [dynSetsL, toDefL, Defaults.helperSets]
  | pc, k :: ks, h => by
    have h1 := dynSets_facts els sub rp pc k (chains_head h)
    have h2 := dynSetsL_facts els sub rp pc ks (chains_tail h)
    simp only [dynSetsL, List.filterMap_append, h1, h2, toDefL]
    rw [Defaults.helperSets_cons dynQ sub pc.path (toDef k) (toDefL ks), List.map_append]
end

mutual
/-- the setvalue facts of the body walk: at each repeat, the facts of the setvalues `bodyNodes` appends to its
    `<repeat>` element, located at the repeat's path -/
def repFacts (els : List Refs.Chain) (pre : List Str) : DItem → List Fact
  | .q _ _ => []
  | .sec .rep n _ _ ks =>
    repFactsL els (pre ++ [n]) ks ++ (dynSetsL els (pre ++ [n]) ks).filterMap (factOf (some (pre ++ [n])))
  | .sec .group n _ _ ks => repFactsL els (pre ++ [n]) ks
  | .sec .loop n _ _ ks => repFactsL els (pre ++ [n]) ks
def repFactsL (els : List Refs.Chain) (pre : List Str) : List DItem → List Fact
  | [] => []
  | k :: ks => repFacts els pre k ++ repFactsL els pre ks
end

mutual
theorem repFacts_body (els : List Refs.Chain) (sub : Defaults.Path → Str → Str) (paths : Str → Defaults.Path)
    (tbl : List Defaults.Trig) : ∀ (pc : Refs.Chain) (d : DItem), (∀ c ∈ (toEl d).chains pc, c ∈ els) →
    repFacts els pc.path d = (Defaults.bodySetsL (Defaults.body dynQ sub paths tbl pc.path [toDef d])).map projFact
  | pc, .q d p, _ => by
    simp only [repFacts, toDef, Defaults.body, List.append_nil, Defaults.bodySetsL_qCtl, List.map_nil]
  | pc, .sec .rep n b p ks, h => by
    have h' : ∀ c ∈ Refs.chainsL (pc ++ [(n, kindOf .rep)]) (toElL ks), c ∈ els := chains_kids h
    have h1 := repFactsL_body els sub paths tbl (pc ++ [(n, kindOf .rep)]) ks h'
    have h2 := dynSetsL_facts els sub (pc.path ++ [n]) (pc ++ [(n, kindOf .rep)]) ks h'
    rw [path_snoc] at h1 h2
    simp only [repFacts, toDef, Defaults.body, Defaults.bodySetsL, Defaults.bodySets, List.append_nil, h1, h2,
      List.map_append, List.map_map]
    rfl
  | pc, .sec .group n b p ks, h | pc, .sec .loop n b p ks, h => by
    have h1 := repFactsL_body els sub paths tbl (pc ++ [(n, kindOf _)]) ks (chains_kids h)
    rw [path_snoc] at h1
    simp only [repFacts, toDef, Defaults.body, Defaults.bodySetsL, Defaults.bodySets, List.append_nil, h1]
theorem repFactsL_body (els : List Refs.Chain) (sub : Defaults.Path → Str → Str) (paths : Str → Defaults.Path)
    (tbl : List Defaults.Trig) : ∀ (pc : Refs.Chain) (ds : List DItem), (∀ c ∈ Refs.chainsL pc (toElL ds), c ∈ els) →
    repFactsL els pc.path ds =
      (Defaults.bodySetsL (Defaults.body dynQ sub paths tbl pc.path (toDefL ds))).map projFact
  | _, [], _ => by simp [repFactsL, toDefL, Defaults.body, Defaults.bodySetsL]
  | pc, k :: ks, h => by
    have h1 := repFacts_body els sub paths tbl pc k (chains_head h)
    have h2 := repFactsL_body els sub paths tbl pc ks (chains_tail h)
    simp only [repFactsL, toDefL, h1, h2]
    rw [Defaults.body_cons dynQ sub paths tbl pc.path (toDef k) (toDefL ks), Defaults.bodySetsL_append, List.map_append]
end

#print axioms repFactsL_body

/-! ## the meta block contributes no setvalue -/

theorem repFactsL_append (els : List Refs.Chain) (pre : List Str) (a b : List DItem) :
    repFactsL els pre (a ++ b) = repFactsL els pre a ++ repFactsL els pre b :=
  append_of_eqns rfl (fun _ _ => rfl) a b

theorem repFactsL_map_q (els : List Refs.Chain) (pre : List Str) (f : QData → Pay) (mk : List QData) :
    repFactsL els pre (mk.map fun d => DItem.q d (f d)) = [] := by
  induction mk with
  | nil => simp [repFactsL]
  | cons x xs ih => simp only [List.map_cons, repFactsL, repFacts, ih, List.append_nil]

theorem repFactsL_dWithMeta (els : List Refs.Chain) (root : Str) (rows : List Cells) (ditems : List DItem) :
    repFactsL els [root] (dWithMeta root rows ditems) = repFactsL els [root] ditems := by
  unfold dWithMeta
  simp only []
  split
  · rfl
  · rw [repFactsL_append]
    simp only [repFactsL, repFacts, repFactsL_map_q, List.append_nil]

/-- `elsOf` is the chain list of the very tree that is walked, so every chain of the walk is found in it -/
theorem repFactsL_gen (root : Str) (rows : List Cells) (ditems : List DItem) (sub : Defaults.Path → Str → Str) :
    repFactsL (elsOf root (dWithMeta root rows ditems)) [root] ditems =
      (Defaults.bodySetsL (Defaults.gen dynQ sub root (toDefL (dWithMeta root rows ditems))).body).map projFact := by
  have hbody := repFactsL_body (elsOf root (dWithMeta root rows ditems)) sub
    (Defaults.pathOf (Defaults.qPaths [root] (toDefL (dWithMeta root rows ditems))))
    (Defaults.trigTable (toDefL (dWithMeta root rows ditems))) [(root, .group)] (dWithMeta root rows ditems)
    (fun c hc => by simp only [elsOf, Refs.El.chains, List.nil_append, List.mem_cons]; exact Or.inr hc)
  rw [show Refs.Chain.path [(root, Refs.Kind.group)] = [root] from rfl, repFactsL_dWithMeta] at hbody
  rw [hbody]
  rfl

theorem trace_c10_all {wb doc f lists rows drows o ditems} (T : Trace wb doc f lists rows drows o ditems) (sub : Defaults.Path → Str → Str) :
    (modelKidsOf doc).filterMap (factOf none) ++
        repFactsL (elsOf f.name (dWithMeta f.name rows ditems)) [f.name] ditems =
      (Defaults.setFacts (Defaults.gen dynQ sub f.name (toDefL (dWithMeta f.name rows ditems)))).map projFact := by
  rw [trace_c10_model T sub, repFactsL_gen f.name rows ditems sub]
  simp only [Defaults.setFacts, Defaults.gen, List.map_append, List.map_map]
  rfl

/-- **C10 for the whole conversion: all setvalues** (`_partial`: the repeats' part is read from the body *walk*,
    `repFactsL`, not from the document's nodes; that is `convert_c10_setvalues`).  The setvalue facts (location, `ref`,
    `event`) of `<model>` followed by those of the repeats are the facts of `Defaults.gen` on the element tree mapped
    into the `Defaults` slice's type, hence a permutation of the specification `Defaults.expSets`: one setvalue per
    question whose default is dynamic, at its nearest repeat ancestor (`<model>` if none) with the matching event, none
    otherwise.  Existential closure of `trace_c10_all`: that `root`, `ditems`, `dall` are the run's is said there. -/
theorem convert_c10_all_partial (wb : Workbook) (doc : Node) (h : convertDoc wb = .ok doc)
    (sub : Defaults.Path → Str → Str) :
    ∃ (root : Str) (ditems dall : List DItem) (els : List Refs.Chain),
      els = elsOf root dall ∧ bodyKidsOf doc = bodyNodesL els [root] ditems ∧
      (modelKidsOf doc).filterMap (factOf none) ++ repFactsL els [root] ditems =
        (Defaults.setFacts (Defaults.gen dynQ sub root (toDefL dall))).map projFact ∧
      (Defaults.setFacts (Defaults.gen dynQ sub root (toDefL dall))).Perm
        (Defaults.expSets dynQ sub [root] none (toDefL dall)) := by
  obtain ⟨f, lists, rows, drows, o, ditems, T⟩ := convertDoc_trace wb doc h
  exact ⟨f.name, ditems, dWithMeta f.name rows ditems, _, rfl, trace_bodyKids T, trace_c10_all T sub,
    C10.setvalues_exactly_once _ _ _ _⟩

#print axioms convert_c10_all_partial

/-- a repeat holding a question with a dynamic default (and one with a static default) -/
def exRep : List DItem :=
  [.sec .rep (l!"r") false {}
    [.q { name := l!"n", bind := true, control := true, node := true, tag := l!"input" }
        { cells := [(l!"type", l!"text"), (l!"name", l!"n"), (l!"default", l!"now()")] },
     .q { name := l!"m", bind := true, control := true, node := true, tag := l!"input" }
        { cells := [(l!"type", l!"text"), (l!"name", l!"m"), (l!"default", l!"abc")] }]]

theorem exRep_repFacts : repFactsL (elsOf (l!"data") exRep) [l!"data"] exRep =
    [(some [l!"data", l!"r"], l!"/data/r/n", evNewRepeat)] := by
  simp only [exRep, repFactsL, repFacts, dynSetsL, dynSets, dynSetOf, isDynDefault, defaultDyn_pinned]
  decide +kernel

-- the walk reads exactly one setvalue, inside the repeat, with the new-repeat event
example : repFactsL (elsOf (l!"data") exRep) [l!"data"] exRep =
    [(some [l!"data", l!"r"], l!"/data/r/n", evNewRepeat)] := exRep_repFacts
-- … and that node is the last child of the `<repeat>` element `bodyNodes` writes
example : dynSetsL (elsOf (l!"data") exRep) [l!"data", l!"r"] (match exRep with | [.sec _ _ _ _ ks] => ks | _ => []) =
    [setvalueNode (elsOf (l!"data") exRep) [(l!"data", .group), (l!"r", .rep), (l!"n", .q)] (l!"now()") true] := by
  simp only [exRep, dynSetsL, dynSets, dynSetOf, isDynDefault, defaultDyn_pinned]
  decide +kernel
example : ctxOf (elsOf (l!"data") exRep) [l!"data", l!"r", l!"n"] = [(l!"data", .group), (l!"r", .rep), (l!"n", .q)] := by
  decide +kernel
-- the theorem applied to the example workbook
example : ∃ doc, convertDoc exWb = .ok doc ∧ ∃ root ditems dall els,
    els = elsOf root dall ∧ bodyKidsOf doc = bodyNodesL els [root] ditems ∧
    (modelKidsOf doc).filterMap (factOf none) ++ repFactsL els [root] ditems =
      (Defaults.setFacts (Defaults.gen dynQ (fun _ s => s) root (toDefL dall))).map projFact ∧
    (Defaults.setFacts (Defaults.gen dynQ (fun _ s => s) root (toDefL dall))).Perm
      (Defaults.expSets dynQ (fun _ s => s) [root] none (toDefL dall)) := by
  obtain ⟨doc, hd, -, -⟩ := ex_doc
  exact ⟨doc, hd, convert_c10_all_partial exWb doc hd _⟩

end Pyxv.ConvertP
