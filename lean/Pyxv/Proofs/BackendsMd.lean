import Pyxv.Model.BackendsGuards
import Pyxv.Proofs.BackendsLemmas
/-!
# Markdown backend: `md_to_dict (renderMd wb) = toBook wb`

A rendered cell is escaped and padded: it holds no bare pipe and survives `_md_strp_cell`; a rendered line passes the
regexes of `_md_table_to_ss_structure` untouched and splits back into its cells; so `mdStructure` reads the sheets back
one by one, and `mdProcess` (`process_md_data`) turns them into the dict container under the guard `MdOK`.
-/
namespace Pyxv.Backends.Md
open Pyxv

@[simp] theorem mdEscape_nil : mdEscape [] = [] := rfl

theorem mdEscape_cons (ch : Char) (c : Str) :
    mdEscape (ch :: c) = (if ch = '|' then ['\\', '|'] else [ch]) ++ mdEscape c := by
  simp [mdEscape]

theorem mdEscape_append (a b : Str) : mdEscape (a ++ b) = mdEscape a ++ mdEscape b := by
  simp [mdEscape]

theorem mdEscape_not_pipe (c r : Str) : mdEscape c ≠ '|' :: r := by
  cases c with
  | nil => simp
  | cons ch c =>
    rw [mdEscape_cons]
    by_cases h : ch = '|'
    · subst h; simp
    · simp [h]

theorem unescPipe_mdEscape (c : Str) : unescPipe (mdEscape c) = c := by
  induction c with
  | nil => rfl
  | cons ch c ih =>
    rw [mdEscape_cons]
    by_cases h : ch = '|'
    · subst h; simp [unescPipe, ih]
    · simp only [h, if_false, List.singleton_append]
      rw [unescPipe.eq_def]
      split
      · rename_i heq
        simp only [List.cons.injEq] at heq
        exact absurd heq.2 (mdEscape_not_pipe _ _)
      · rename_i heq
        simp only [List.cons.injEq] at heq
        rw [← heq.1, ← heq.2, ih]
      · rename_i heq; simp at heq

theorem splitPipes_ne_nil (pb : Bool) (s : Str) : splitPipes pb s ≠ [] := by
  induction s generalizing pb with
  | nil => simp [splitPipes]
  | cons c cs ih =>
    rw [splitPipes]
    split
    · simp
    · split <;> simp

theorem splitPipes_cons_plain (pb : Bool) (c : Char) (cs f : Str) (fs : List Str)
    (hc : (c = '|' && !pb) = false) (h : splitPipes (c = '\\') cs = f :: fs) :
    splitPipes pb (c :: cs) = (c :: f) :: fs := by
  rw [splitPipes]
  simp only [hc]
  simp [h]

/-- every pipe inside `mdEscape c` follows a backslash: the escaped cell and its padding space stay in the first field -/
theorem splitPipes_escape (c : Str) (pb : Bool) (rest f : Str) (fs : List Str)
    (h : splitPipes false rest = f :: fs) :
    splitPipes pb (mdEscape c ++ ' ' :: rest) = (mdEscape c ++ ' ' :: f) :: fs := by
  induction c generalizing pb with
  | nil =>
    simp only [mdEscape_nil, List.nil_append]
    apply splitPipes_cons_plain
    · simp
    · simpa using h
  | cons ch c ih =>
    rw [mdEscape_cons]
    by_cases hp : ch = '|'
    · subst hp
      simp only [if_true, List.cons_append, List.nil_append]
      apply splitPipes_cons_plain
      · simp
      · apply splitPipes_cons_plain
        · simp
        · exact ih _
    · simp only [hp, if_false, List.cons_append, List.nil_append]
      apply splitPipes_cons_plain
      · simp [hp]
      · exact ih _

theorem splitPipes_pad (c : Str) (pb : Bool) (rest f : Str) (fs : List Str)
    (h : splitPipes false rest = f :: fs) :
    splitPipes pb (mdCellPad c ++ rest) = (mdCellPad c ++ f) :: fs := by
  unfold mdCellPad
  simp only [List.cons_append, List.append_assoc, List.nil_append]
  apply splitPipes_cons_plain
  · simp
  · have : decide (' ' = '\\') = false := by decide
    rw [this]
    exact splitPipes_escape c false rest f fs h

theorem splitPipes_line (cells : List Str) (h : cells ≠ []) :
    splitPipes false (joinWith ['|'] (cells.map mdCellPad)) = cells.map mdCellPad :=
  split_joinWith (splitPipes false) ['|'] (fun x => ∃ c, x = mdCellPad c)
    (fun x z ⟨c, hc⟩ => by
      subst hc
      rw [List.append_assoc]
      simpa using splitPipes_pad c false (['|'] ++ z) [] (splitPipes false z)
        (by rw [List.singleton_append, splitPipes]; simp))
    (fun x ⟨c, hc⟩ => by
      subst hc
      simpa using splitPipes_pad c false [] [] [] (by simp [splitPipes]))
    _ (fun x hx => by obtain ⟨c, _, rfl⟩ := List.mem_map.1 hx; exact ⟨c, rfl⟩) (by simpa using h)

theorem length_lstrip_le (s : Str) : (lstrip s).length ≤ s.length := Pyxv.length_lstrip_le s

theorem tight_mdEscape (c : Str) (h : Tight c) : Tight (mdEscape c) := by
  obtain ⟨⟨a, t, hx1, ha⟩, ⟨u, b, hx2, hb⟩⟩ := h
  constructor
  · rw [hx1, mdEscape_cons]
    by_cases hp : a = '|'
    · exact ⟨'\\', '|' :: mdEscape t, by simp [hp], by decide⟩
    · exact ⟨a, mdEscape t, by simp [hp], ha⟩
  · rw [hx2, mdEscape_append, mdEscape_cons]
    by_cases hp : b = '|'
    · exact ⟨mdEscape u ++ ['\\'], '|', by simp [hp], by decide⟩
    · exact ⟨mdEscape u, b, by simp [hp], hb⟩

theorem allSpace_pad_false (x : Str) (h : Tight x) : allSpace (' ' :: x ++ [' ']) = false := by
  obtain ⟨⟨a, t, hx1, ha⟩, _⟩ := h
  subst hx1
  simp [allSpace, ha]

theorem mdStrp_pad (c : Str) (hs : strip c = c) (hne : c ≠ []) : mdStrp (mdCellPad c) = some c := by
  have he := tight_mdEscape c (tight_of_strip hs hne)
  unfold mdStrp mdCellPad
  rw [allSpace_pad_false _ he, show strip (' ' :: mdEscape c ++ [' ']) = mdEscape c from
    he.strip_pad (pre := [' ']) (by decide) (by decide), unescPipe_mdEscape]
  simp

theorem mdStrp_pad_nil : mdStrp (mdCellPad []) = none := by decide

theorem mdStrp_pad_toOpt (c : Str) (hs : strip c = c) : mdStrp (mdCellPad c) = toOpt c := by
  unfold toOpt
  by_cases h : c = []
  · subst h; simp [mdStrp_pad_nil]
  · simp [h, mdStrp_pad c hs h]

theorem dropWhile_space_lineOf (cells : List Str) : (mdLineOf cells).dropWhile pyIsSpace = mdLineOf cells :=
  lstrip_cons_of_not '|' _ (by decide)

theorem mdIsComment_lineOf (cells : List Str) : mdIsComment (mdLineOf cells) = false := by
  unfold mdIsComment
  rw [dropWhile_space_lineOf]
  rfl

theorem mdInline_lineOf (cells : List Str) : mdInline (mdLineOf cells) = none := by
  unfold mdInline mdLineOf
  simp

theorem mdCellGroup_lineOf (cells : List Str) :
    mdCellGroup (mdLineOf cells) = some (joinWith ['|'] (cells.map mdCellPad)) := by
  unfold mdCellGroup
  rw [dropWhile_space_lineOf]
  unfold mdLineOf
  simp

theorem mdSeparator_line (cells : List Str) (h : cells ≠ []) :
    mdSeparator (joinWith ['|'] (cells.map mdCellPad)) = false := by
  obtain ⟨c, cs, rfl⟩ := List.exists_cons_of_ne_nil h
  -- the line starts with the padding space of its first cell
  obtain ⟨r, hr⟩ : ∃ r, joinWith ['|'] ((c :: cs).map mdCellPad) = ' ' :: r := joinWith_head _ _ _ _
  rw [hr]; simp [mdSeparator]

theorem mem_mdEscape {x : Char} {c : Str} (h : x ∈ mdEscape c) : x ∈ c ∨ x = '\\' := by
  obtain ⟨ch, hc, hx⟩ := List.mem_flatMap.1 h
  split at hx
  · rename_i hp
    -- `ch = '|'` is rendered as `\|`
    rcases List.mem_cons.1 hx with rfl | hx
    · exact .inr rfl
    · exact .inl (List.mem_singleton.1 hx ▸ hp ▸ hc)
  · exact .inl (List.mem_singleton.1 hx ▸ hc)

theorem nl_notin_lineOf (cells : List Str) (h : ∀ c ∈ cells, '\n' ∉ c) : '\n' ∉ mdLineOf cells := by
  have hj : '\n' ∉ joinWith ['|'] (cells.map mdCellPad) := not_mem_joinWith (by decide) fun l hl hx => by
    obtain ⟨c, hc, rfl⟩ := List.mem_map.1 hl
    -- the padding is two spaces, and escaping adds backslashes only
    have hm : '\n' ∈ mdEscape c := by simpa [mdCellPad] using hx
    exact (mem_mdEscape hm).elim (h c hc) (by decide)
  simpa [mdLineOf] using hj

def NoNl (wb : Workbook) : Prop :=
  ∀ s ∈ wb, '\n' ∉ s.name ∧ (∀ c ∈ s.header, '\n' ∉ c) ∧ ∀ r ∈ s.rows, ∀ c ∈ r, '\n' ∉ c

instance (wb : Workbook) : Decidable (NoNl wb) := by unfold NoNl; infer_instance

theorem nl_notin_mdLines (wb : Workbook) (h : NoNl wb) : ∀ l ∈ mdLines wb, '\n' ∉ l := by
  intro l hl
  unfold mdLines at hl
  simp only [List.mem_flatMap, List.mem_cons, List.mem_map] at hl
  obtain ⟨s, hs, hl⟩ := hl
  obtain ⟨h1, h2, h3⟩ := h s hs
  rcases hl with rfl | rfl | ⟨r, hr, rfl⟩
  · exact nl_notin_lineOf _ (by simpa using h1)
  · exact nl_notin_lineOf _ (by simpa using h2)
  · exact nl_notin_lineOf _ (by simpa using h3 r hr)

theorem mdLines_ne_nil (wb : Workbook) (h : wb ≠ []) : mdLines wb ≠ [] := by
  cases wb with
  | nil => exact absurd rfl h
  | cons s wb => simp [mdLines]

/-- `hne`: the empty workbook renders to `""`, which splits into one empty line, not into no line -/
theorem splitOnChar_renderMd (wb : Workbook) (hne : wb ≠ []) (h : NoNl wb) :
    splitOnChar '\n' (renderMd wb) = mdLines wb :=
  splitOnChar_joinWith '\n' _ (mdLines_ne_nil wb hne) (nl_notin_mdLines wb h)

theorem mdLine_name (st : MdSt) (n : Str) (hs : strip n = n) (hne : n ≠ []) :
    mdLine st (mdLineOf [n]) = ⟨some n, some [], dset (some n) (some []) st.sheets⟩ := by
  unfold mdLine
  rw [mdIsComment_lineOf, mdInline_lineOf]
  simp only [Option.getD_none, mdCellGroup_lineOf, mdSeparator_line [n] (by simp),
    splitPipes_line [n] (by simp)]
  simp [mdStrp_pad n hs hne]

/-- a line `| | c1 | c2 |` below a sheet-name line is appended when it has a non-empty cell (the header line) or the sheet
already has a row (every data line, blank or not) -/
theorem mdLine_row (n : Str) (arr : List MdRow) (S : List (Option Str × Option (List MdRow)))
    (r : List Str) (hs : ∀ c ∈ r, strip c = c) (hne : (∃ c ∈ r, c ≠ []) ∨ arr ≠ []) :
    mdLine ⟨some n, some arr, S⟩ (mdLineOf ([] :: r)) =
      ⟨some n, some (arr ++ [r.map toOpt]), dset (some n) (some (arr ++ [r.map toOpt])) S⟩ := by
  have hrow : (r.map mdCellPad).map mdStrp = r.map toOpt := by
    rw [List.map_map]
    exact List.map_congr_left fun c hc => mdStrp_pad_toOpt c (hs c hc)
  unfold mdLine
  rw [mdIsComment_lineOf, mdInline_lineOf]
  simp only [Option.getD_none, mdCellGroup_lineOf, mdSeparator_line ([] :: r) (by simp),
    splitPipes_line ([] :: r) (by simp)]
  simp only [List.map_cons, mdStrp_pad_nil, hrow]
  rcases hne with hne | hne
  · have hany : (r.map toOpt).any Option.isSome = true := by
      obtain ⟨c, hc, hcne⟩ := hne
      simp only [List.any_map, List.any_eq_true]
      exact ⟨c, hc, by simp [toOpt, hcne]⟩
    simp [hany]
  · cases arr with
    | nil => exact absurd rfl hne
    | cons a arr => simp

def optRows (rows : List (List Str)) : List MdRow := rows.map fun r => r.map toOpt

theorem foldl_rows (n : Str) (S : List (Option Str × Option (List MdRow))) (rows : List (List Str))
    (arr : List MdRow) (harr : arr ≠ []) (h : ∀ r ∈ rows, ∀ c ∈ r, strip c = c) :
    (rows.map fun r => mdLineOf ([] :: r)).foldl mdLine ⟨some n, some arr, dset (some n) (some arr) S⟩ =
      ⟨some n, some (arr ++ optRows rows), dset (some n) (some (arr ++ optRows rows)) S⟩ := by
  induction rows generalizing arr with
  | nil => simp [optRows]
  | cons r rows ih =>
    have h1 := h r (by simp)
    simp only [List.map_cons, List.foldl_cons]
    rw [mdLine_row n arr _ r h1 (.inr harr), dset_dset,
      ih _ (by simp) (fun r' hr' => h r' (by simp [hr']))]
    simp [optRows]

/-- what `_md_table_to_ss_structure` holds for a sheet (cells `""` ↦ `None`) -/
def sheetStruct (s : Sheet) : Option Str × Option (List MdRow) :=
  (some s.name, some (optRows (s.header :: s.rows)))

def sheetLines (s : Sheet) : List Str :=
  mdLineOf [s.name] :: (s.header :: s.rows).map fun r => mdLineOf ([] :: r)

theorem mdLines_cons (s : Sheet) (wb : Workbook) : mdLines (s :: wb) = sheetLines s ++ mdLines wb := by
  simp [mdLines, sheetLines]

/-- Prop form of the per-sheet guard for the structure level -/
def SheetP (s : Sheet) : Prop :=
  strip s.name = s.name ∧ s.name ≠ [] ∧ (∀ c ∈ s.header, strip c = c) ∧ (∃ c ∈ s.header, c ≠ []) ∧
    ∀ r ∈ s.rows, ∀ c ∈ r, strip c = c

theorem foldl_sheet (st : MdSt) (s : Sheet) (h : SheetP s) :
    (sheetLines s).foldl mdLine st =
      ⟨some s.name, some (optRows (s.header :: s.rows)),
        dset (some s.name) (some (optRows (s.header :: s.rows))) st.sheets⟩ := by
  obtain ⟨h1, h2, h3, h4, h5⟩ := h
  unfold sheetLines
  rw [List.foldl_cons, mdLine_name st s.name h1 h2, List.map_cons, List.foldl_cons,
    mdLine_row s.name [] _ s.header h3 (.inl h4), dset_dset,
    foldl_rows s.name st.sheets s.rows _ (by simp) h5]
  simp [optRows]

/-- invariant of the fold: the names in the structure and those to come are pairwise different, so every sheet opens a new entry -/
theorem foldl_mdLines (wb : Workbook) (st : MdSt) (hok : ∀ s ∈ wb, SheetP s)
    (hd : (st.sheets.map (·.1) ++ wb.map fun s => some s.name).Nodup) :
    ((mdLines wb).foldl mdLine st).sheets = st.sheets ++ wb.map sheetStruct := by
  induction wb generalizing st with
  | nil => simp [mdLines]
  | cons s wb ih =>
    have hfresh : some s.name ∉ st.sheets.map (·.1) := fun hm =>
      (List.nodup_append.1 hd).2.2 _ hm _ (by simp) rfl
    rw [mdLines_cons, List.foldl_append, foldl_sheet st s (hok s (by simp)),
      ih _ (fun s' hs' => hok s' (by simp [hs']))]
    · simp [dset_fresh _ _ _ hfresh, sheetStruct]
    · simpa [dset_fresh _ _ _ hfresh] using hd

theorem mdRowDict_zip (header row : List Str) (acc : KRow) (hh : ∀ c ∈ header, c ≠ []) :
    mdRowDict (header.map toOpt) (row.map toOpt) acc = zipDict header row acc := by
  induction row generalizing header acc with
  | nil => cases header <;> simp [mdRowDict, zipDict]
  | cons v vs ih =>
    cases header with
    | nil => simp [mdRowDict, zipDict]
    | cons h hs =>
      have hh' : ∀ c ∈ hs, c ≠ [] := fun c hc => hh c (by simp [hc])
      have hhne : h ≠ [] := hh h (by simp)
      by_cases hv : v = []
      · subst hv
        simp only [List.map_cons, toOpt, if_true, mdRowDict, zipDict]
        exact ih hs acc hh'
      · simp only [List.map_cons, toOpt, hv, hhne, if_false, mdRowDict, zipDict]
        exact ih hs _ hh'

theorem mdRows_zip (header : List Str) (rows : List (List Str)) (hh : ∀ c ∈ header, c ≠ []) :
    mdRows (header.map toOpt) (optRows rows) = rows.map (sheetRow header) := by
  simp only [mdRows, optRows, List.map_map]
  exact List.map_congr_left fun r _ => mdRowDict_zip header r [] hh

theorem map_optStr_toOpt (header : List Str) (hh : ∀ c ∈ header, c ≠ []) :
    (header.map toOpt).map optStr = header := by
  rw [List.map_map]
  exact (List.map_congr_left fun c hc => by simp [toOpt, hh c hc, optStr]).trans (List.map_id _)

/-- under `noTrailingBlank` the trailing trim of `md_to_dict` removes nothing -/
theorem stripTrailing_optRows (hdr : List Str) (rows : List (List Str))
    (h : stripTrailing (·.isEmpty) (rows.map (sheetRow hdr)) = rows.map (sheetRow hdr)) :
    stripTrailing (fun r : MdRow => !r.any Option.isSome) (optRows rows) = optRows rows := by
  rcases List.eq_nil_or_concat rows with rfl | ⟨l, x, rfl⟩
  · rfl
  · rw [List.concat_eq_append] at h ⊢
    have hx : (sheetRow hdr x).isEmpty = false :=
      stripTrailing_last_not _ (l := (l ++ [x]).map (sheetRow hdr)) (by rw [h, List.map_append]; rfl)
    have hany : (x.map toOpt).any Option.isSome = true := by
      cases hany : (x.map toOpt).any Option.isSome with
      | true => rfl
      | false =>
        have hall : ∀ c ∈ x, c = [] := by simpa [toOpt] using hany
        simp [sheetRow, zipDict_blank hdr x [] hall] at hx
    have : optRows (l ++ [x]) = optRows l ++ [x.map toOpt] := by simp [optRows]
    rw [this]
    exact stripTrailing_snoc_neg _ _ _ (by simp [hany])

theorem mdSheet_zip (key : Str) (s : Sheet) (b : Book) (hh : ∀ c ∈ s.header, c ≠ [])
    (hnt : noTrailingBlank s = true) :
    mdSheet key (optRows (s.header :: s.rows)) b =
      dset (key ++ headerSuffix) (.header (l2dl s.header)) (dset key (.rows (dictRows s)) b) := by
  have h1 := mdRows_zip s.header s.rows hh
  have h2 := stripTrailing_optRows s.header s.rows ((noTrailingBlank_iff s).1 hnt)
  show mdSheet key (s.header.map toOpt :: optRows s.rows) b = _
  rw [mdSheet]
  simp only [h2, h1, map_optStr_toOpt s.header hh, dictRows]

/-- Prop form of the per-sheet guard for the book level -/
def SheetQ (s : Sheet) : Prop :=
  isAscii s.name = true ∧ lw s ∈ supported ∧ (∀ c ∈ s.header, c ≠ []) ∧ noTrailingBlank s = true

theorem mdProcess_render (single : Bool) (wb pre : Workbook) (hok : ∀ s ∈ wb, SheetQ s)
    (hpre : ∀ p ∈ pre, lw p ∈ supported) (hd : ((pre ++ wb).map lw).Nodup) :
    mdProcess single (wb.map sheetStruct) (toBook pre) = .ok (toBook (pre ++ wb)) := by
  induction wb generalizing pre with
  | nil => simp [mdProcess]
  | cons s wb ih =>
    obtain ⟨h1, h2, h3, h4⟩ := hok s (by simp)
    obtain ⟨hfresh, hpre', hd'⟩ := keys_step hpre h2 hd
    simp only [List.map_cons, sheetStruct]
    rw [mdProcess]
    simp only [h1, Bool.not_true, Bool.false_eq_true, if_false, List.contains_iff_mem.2 h2, if_true]
    rw [mdSheet_zip _ s _ h3 h4, toBook_add pre s hpre h2 hfresh,
      ih (pre ++ [s]) (fun s' hs' => hok s' (by simp [hs'])) hpre' hd']
    simp

theorem cellOK_iff (c : Str) : cellOK c = true ↔ strip c = c ∧ '\n' ∉ c := by
  simp [cellOK]

theorem sheetOK_unpack (s : Sheet) (h : sheetOK s = true) :
    SheetP s ∧ SheetQ s ∧
      ('\n' ∉ s.name ∧ (∀ c ∈ s.header, '\n' ∉ c) ∧ ∀ r ∈ s.rows, ∀ c ∈ r, '\n' ∉ c) := by
  simp only [sheetOK, nameOK, rowOK, Bool.and_eq_true, List.all_eq_true,
    cellOK_iff, bne_iff_ne, ne_eq, List.contains_eq_mem, decide_eq_true_eq] at h
  obtain ⟨⟨⟨⟨⟨⟨⟨⟨n1, n2⟩, n3⟩, n4⟩, n5⟩, h1⟩, h2⟩, h3⟩, h4⟩ := h
  refine ⟨⟨n1, n3, fun c hc => (h2 c hc).1.1, ?_, fun r hr c hc => (h3 r hr c hc).1⟩,
    ⟨n4, n5, fun c hc => (h2 c hc).2, h4⟩,
    ⟨n2, fun c hc => (h2 c hc).1.2, fun r hr c hc => (h3 r hr c hc).2⟩⟩
  cases hh : s.header with
  | nil => exact absurd hh h1
  | cons c t => exact ⟨c, by simp, (h2 c (by simp [hh])).2⟩

theorem MdOK_unpack {wb : Workbook} (h : MdOK wb = true) :
    (∀ s ∈ wb, SheetP s ∧ SheetQ s ∧
      ('\n' ∉ s.name ∧ (∀ c ∈ s.header, '\n' ∉ c) ∧ ∀ r ∈ s.rows, ∀ c ∈ r, '\n' ∉ c)) ∧
    (wb.map lw).Nodup := by
  simp only [MdOK, Bool.and_eq_true, List.all_eq_true] at h
  exact ⟨fun s hs => sheetOK_unpack s (h.1 s hs), (distinctB_iff _).1 h.2⟩

theorem noNl_of_MdOK (wb : Workbook) (h : MdOK wb = true) : NoNl wb :=
  fun s hs => let ⟨_, _, hnl⟩ := (MdOK_unpack h).1 s hs; hnl

theorem supported_of_MdOK (wb : Workbook) (h : MdOK wb = true) : ∀ s ∈ wb, lowerAscii s.name ∈ supported :=
  fun s hs => let ⟨_, ⟨_, hsup, _, _⟩, _⟩ := (MdOK_unpack h).1 s hs; hsup

/-- `_md_table_to_ss_structure` reads the rendered workbook back sheet by sheet -/
theorem mdStructure_render (wb : Workbook) (hne : wb ≠ []) (h : MdOK wb = true) :
    mdStructure (renderMd wb) = wb.map sheetStruct := by
  obtain ⟨hok, hd⟩ := MdOK_unpack h
  unfold mdStructure
  -- the names are pairwise different because their lower-cased forms are (`lw s = lowerAscii ((some s.name).getD [])`)
  rw [splitOnChar_renderMd wb hne (noNl_of_MdOK wb h), foldl_mdLines wb _ (fun s hs => (hok s hs).1)
    (nodup_of_map (fun o : Option Str => lowerAscii (o.getD [])) _ (by simpa [Function.comp_def] using hd))]
  simp

theorem renderMd_nil : renderMd [] = [] := rfl

theorem md_roundtrip (wb : Workbook) (h : MdOK wb = true)
    (hm : isMarkdownTable (renderMd wb) = true) : mdToDict (renderMd wb) = .ok (toBook wb) := by
  have hne : wb ≠ [] := by
    intro e; subst e
    exact absurd hm (by decide)
  have hs := mdStructure_render wb hne h
  obtain ⟨hok, hd⟩ := MdOK_unpack h
  unfold mdToDict
  have hemp : (wb.map sheetStruct).isEmpty = false := by
    cases wb with
    | nil => exact absurd rfl hne
    | cons _ _ => rfl
  simp only [hm, Bool.not_true, Bool.false_eq_true, if_false, hs, hemp]
  have := mdProcess_render (decide ((wb.map sheetStruct).length = 1)) wb []
    (fun s hs => (hok s hs).2.1) (by simp) hd
  simpa [toBook] using this

section Examples

/-- (`Except` has no `DecidableEq` instance in core) -/
local instance {ε α} [DecidableEq ε] [DecidableEq α] : DecidableEq (Except ε α)
  | .ok a, .ok b => if h : a = b then isTrue (h ▸ rfl) else isFalse (fun e => h (Except.ok.inj e))
  | .error a, .error b =>
    if h : a = b then isTrue (h ▸ rfl) else isFalse (fun e => h (Except.error.inj e))
  | .ok _, .error _ => isFalse (fun e => nomatch e)
  | .error _, .ok _ => isFalse (fun e => nomatch e)

/-- a label with an escaped pipe, an empty cell, a short row, mixed-case sheet name -/
def exWb : Workbook :=
  [ { name := "Survey".toList,
      header := ["type".toList, "name".toList, "label".toList],
      rows := [["text".toList, "q1".toList, "a | b \\| c".toList],
               ["note".toList, [], "only label".toList],
               ["integer".toList, "q3".toList]] },
    { name := "choices".toList,
      header := ["list_name".toList, "name".toList],
      rows := [["l".toList, "x|".toList]] } ]

example : unescPipe (mdEscape "a | b \\| c\\".toList) = "a | b \\| c\\".toList :=
  unescPipe_mdEscape _
example : mdEscape "a|b".toList = "a\\|b".toList := by decide_chars
example : splitPipes false (joinWith ['|'] (["a|b".toList, [], "|".toList].map mdCellPad)) =
    [" a\\|b ".toList, "  ".toList, " \\| ".toList] := by decide_chars
example : splitPipes false (joinWith ['|'] (["a|b".toList, [], "|".toList].map mdCellPad)) =
    ["a|b".toList, [], "|".toList].map mdCellPad := splitPipes_line _ (by simp)
example : mdStrp (mdCellPad "|x y|".toList) = some "|x y|".toList :=
  mdStrp_pad _ (by decide) (by simp)
example : mdStrp (mdCellPad []) = none := mdStrp_pad_nil
example : mdStrp (mdCellPad " x".toList) ≠ some " x".toList := by decide_chars  -- `strip c = c` is needed
example : mdLineOf ["a|b".toList, []] = "| a\\|b |  |".toList := by decide_chars
example : mdIsComment (mdLineOf ["#x".toList]) = false := mdIsComment_lineOf _
example : mdIsComment "  # | a |".toList = true := by decide_chars
example : splitOnChar ',' (joinWith [','] ["a".toList, [], "b".toList]) = ["a".toList, [], "b".toList] :=
  splitOnChar_joinWith _ _ (by simp) (by decide)
example : splitOnChar '\n' (renderMd []) ≠ mdLines [] := by decide +kernel  -- the empty workbook is excluded
example : mdCellGroup (mdLineOf ["a|b".toList, []]) = some " a\\|b |  ".toList := by decide_chars
example : mdSeparator " a\\|b |  ".toList = false := mdSeparator_line ["a|b".toList, []] (by simp)
example : mdSeparator "--|--".toList = true := by decide_chars
example : mdInline "| a | # c".toList = some "| a | ".toList := by decide_chars
example : mdInline (mdLineOf ["#x".toList]) = none := mdInline_lineOf _
theorem exWb_ok : MdOK exWb = true := by unfold exWb; decide_chars
theorem exWb_table : isMarkdownTable (renderMd exWb) = true := by unfold exWb; decide_chars
example : splitOnChar '\n' (renderMd exWb) = mdLines exWb :=
  splitOnChar_renderMd exWb (by decide) (noNl_of_MdOK exWb exWb_ok)
example : MdOK exWb = true := exWb_ok
example : isMarkdownTable (renderMd exWb) = true := exWb_table
example : mdStructure (renderMd exWb) = exWb.map sheetStruct :=
  mdStructure_render exWb (by decide) exWb_ok
example : mdToDict (renderMd exWb) = .ok (toBook exWb) := md_roundtrip exWb exWb_ok exWb_table
/-- the same, by evaluation of the model alone -/
example : mdToDict (renderMd exWb) = .ok (toBook exWb) := by unfold exWb; decide_chars
example : supportedKeysOK = true := supported_keys_ok

/-- blank rows inside the data: a row of empty cells and a row with no cell at all (`|  |`) -/
def exBlank : Workbook :=
  [ { name := "survey".toList, header := ["type".toList, "name".toList],
      rows := [["text".toList, "q".toList], [[], []], [], ["note".toList, "n".toList]] } ]
def exBlankLast : Workbook :=
  [ { name := "survey".toList, header := ["type".toList, "name".toList],
      rows := [["text".toList, "q".toList], [[], []]] } ]
def exNbsp : Workbook :=
  [ { name := "survey".toList, header := ["type".toList, "label".toList],
      rows := [["note".toList, ['a', Char.ofNat 160, 'b']]] } ]
def exLong : Workbook :=
  [ { name := "survey".toList, header := ["type".toList, "name".toList],
      rows := [["text".toList, "q".toList, "x".toList]] } ]
def exNone : Workbook :=
  [ { name := "survey".toList, header := ["type".toList, []],
      rows := [["text".toList, "q".toList]] } ]

-- blank rows inside the data are kept and read as `{}` (F16)
theorem exBlank_ok : MdOK exBlank = true := by unfold exBlank; decide_chars
theorem exBlank_rt : mdToDict (renderMd exBlank) = .ok (toBook exBlank) :=
  md_roundtrip exBlank exBlank_ok (by unfold exBlank; decide_chars)
example : MdOK exBlank = true ∧ mdToDict (renderMd exBlank) = .ok (toBook exBlank) :=
  ⟨exBlank_ok, exBlank_rt⟩
example : mdToDict (renderMd exBlank) = .ok (toBook exBlank) := exBlank_rt
example : mdStructure (renderMd exBlank) = exBlank.map sheetStruct :=
  mdStructure_render exBlank (by decide) exBlank_ok
example : dget "survey".toList (toBook exBlank) =
    some (.rows [[(some "type".toList, "text".toList), (some "name".toList, "q".toList)], [], [],
      [(some "type".toList, "note".toList), (some "name".toList, "n".toList)]]) := by unfold exBlank; decide_chars
-- a trailing blank row is dropped by `md_to_dict`, and is outside the guard
example : MdOK exBlankLast = false ∧
    mdToDict (renderMd exBlankLast) ≠ .ok (toBook exBlankLast) := by unfold exBlankLast; decide_chars
example : exBlankLast.all noTrailingBlank = false := by unfold exBlankLast; decide_chars
-- U+00A0 inside a cell is read as a space, by `md_to_dict` as by the dict container
theorem exNbsp_ok : MdOK exNbsp = true ∧ isMarkdownTable (renderMd exNbsp) = true := by unfold exNbsp; decide_chars
example : MdOK exNbsp = true ∧ isMarkdownTable (renderMd exNbsp) = true := exNbsp_ok
example : mdToDict (renderMd exNbsp) = .ok (toBook exNbsp) := md_roundtrip exNbsp exNbsp_ok.1 exNbsp_ok.2
example : dget "survey".toList (toBook exNbsp) =
    some (.rows [[(some "type".toList, "note".toList), (some "label".toList, "a b".toList)]]) := by
  unfold exNbsp; decide_chars
-- a cell beyond the header is ignored, as by the dict container (F27)
theorem exLong_ok : MdOK exLong = true := by unfold exLong; decide_chars
theorem exLong_rt : mdToDict (renderMd exLong) = .ok (toBook exLong) :=
  md_roundtrip exLong exLong_ok (by unfold exLong; decide_chars)
example : MdOK exLong = true ∧ mdToDict (renderMd exLong) = .ok (toBook exLong) := ⟨exLong_ok, exLong_rt⟩
example : mdToDict (renderMd exLong) = .ok (toBook exLong) := exLong_rt
-- text with pipes but no table row is "not Markdown"
example : isMarkdownTable "a|b|c|d|e|f".toList = true ∧
    mdToDict "a|b|c|d|e|f".toList = .error .readError := by decide_chars
-- an empty header cell becomes the key `None`
example : MdOK exNone = false ∧ mdToDict (renderMd exNone) ≠ .ok (toBook exNone) := by unfold exNone; decide_chars

end Examples

end Pyxv.Backends.Md
