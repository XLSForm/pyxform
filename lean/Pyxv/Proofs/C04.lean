import Pyxv.Proofs.RowsLemmas
/-!
# C04 — survey rows map one-to-one, in order and nesting, onto instance and body

The names under which the property's sentences are cited; several restate a lemma of `FormLemmas`.
-/
namespace Pyxv.C04
open Pyxv Pyxv.Form Pyxv.Rows

/-- **Refinement**: the begin/end stack machine of `workbook_to_json` equals the recursive-descent (grammar) reading of
    the sheet: same tree on success, same located error otherwise. -/
theorem stack_refines_nest (rows : List (Nat × RowK)) : parseRows rows = nest rows :=
  parseRows_eq_nest rows

/-- **Instance shape**: ignoring `jr:template` copies, the children of the primary instance are the element tree: one
    node per element, in sheet order, nested as begin/end nest. -/
theorem instance_shape (app : Bool) (its : List Item) : eraseL (instKids app its) = plainL its :=
  erase_instKids its app

/-- Disabled, blank, comment and settings-type rows contribute nothing: neither to the tree nor to the error. -/
theorem skip_rows_vanish (rows : List (Nat × RowK)) :
    parseRows (rows.filter notSkip) = parseRows rows := by
  unfold parseRows
  rw [run_skip_irrelevant]

/-- a top-level repeat is preceded by exactly its template -/
theorem repeat_template_toplevel (n : Str) (b : Bool) (ks rest : List Item) :
    instKids false (.sec .rep n b ks :: rest) =
      tmpl n ks :: NT.node n false (instKids true ks) :: instKids false rest := by
  simp [instKids, tmpl]

/-- inside a repeat's ordinary copy no further template is generated (nested templates live in the outer template) -/
theorem repeat_no_template_inside (n : Str) (b : Bool) (ks rest : List Item) :
    instKids true (.sec .rep n b ks :: rest) = NT.node n false (instKids true ks) :: instKids true rest := by
  simp [instKids]

/-- `<repeat>_count` immediately before its repeat (in the grammar reading `items`) -/
theorem count_helper_before_repeat (f : Nat) (n : Nat) (ct : Ctl) (name : Str) (b : Bool) (h : QData)
    (rs : List (Nat × RowK)) (kids ts : List Item) (n' : Nat) (rest rest' : List (Nat × RowK))
    (h1 : items f rs = .ok (kids, (n', .end_ ct) :: rest)) (h2 : items f rest = .ok (ts, rest')) :
    items (f + 1) ((n, .begin_ ct name b (some h)) :: rs) = .ok (.q h :: .sec ct name b kids :: ts, rest') := by
  simp [items, h1, h2, optItem]

/-- `<select>_other` immediately after its select (in the grammar reading `items`) -/
theorem other_after_select (f : Nat) (n : Nat) (d o : QData) (rs : List (Nat × RowK)) (ts : List Item)
    (rest : List (Nat × RowK)) (h1 : items f rs = .ok (ts, rest)) :
    items (f + 1) ((n, .q d (some o)) :: rs) = .ok (.q d :: .q o :: ts, rest) := by
  simp [items, h1, optItem]

/-- **Body shape**: the refs of the body controls (`bodyCtlL`: one control per element that has one, a `group` per group,
    `group`+`repeat` per repeat) are, in the same order, the body paths that `C02.refs_resolve` shows to resolve. -/
theorem body_controls_cover_paths (pre : List Str) (its : List Item) :
    (bodyCtlL pre its).map (·.2) = bodyPathsL pre its := by
  rw [bodyCtlL_eq_nodes, bodyPathsL_eq_nodes, List.map_flatMap]

theorem bodyCtl_paths (pre : List Str) (it : Item) : (bodyCtl pre it).map (·.2) = bodyPaths pre it := by
  simpa [bodyCtlL, bodyPathsL] using body_controls_cover_paths pre [it]

/-! ### Non-vacuity -/
def q (s : String) : QData := { name := s.toList, bind := true, control := true, node := true }

def exRows : List (Nat × RowK) :=
  [(2, .q (q "a") none), (3, .begin_ .group "g".toList false none), (4, .skip),
   (5, .begin_ .rep "r".toList false (some (q "r_count"))), (6, .q (q "s") (some (q "s_other"))),
   (7, .end_ .rep), (8, .end_ .group), (9, .q (q "z") none)]

example : (match parseRows exRows with
    | .ok its => eraseL (instKids false its) == plainL its && its.length == 3
    | .error _ => false) = true := by decide +kernel

example : (match parseRows [(2, .q (q "a") none), (3, .end_ .group)] with
    | .error (.unmatchedEnd 3) => true | _ => false) = true := by decide +kernel
example : (match parseRows [(2, .begin_ .group "g".toList false none), (3, .end_ .rep)] with
    | .error (.unmatchedEnd 3) => true | _ => false) = true := by decide +kernel
example : (match parseRows [(2, .begin_ .group "g".toList false none), (3, .q (q "a") none)] with
    | .error (.unmatchedBegin .group _) => true | _ => false) = true := by decide +kernel

end Pyxv.C04
