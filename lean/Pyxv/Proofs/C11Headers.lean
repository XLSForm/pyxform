import Pyxv.Proofs.C11
import Pyxv.Proofs.BaseLemmas
import Pyxv.Proofs.SpellLemmas
/-!
# C11: settings headers under every spelling the header normaliser accepts

`to_snake_case` = `"_".join(value.split()).lower()`.  For all strings: the words of a header are found whatever Unicode
whitespace (blank, TAB, line break, NBSP, …) separates and surrounds them, however much of it — so a setting's header
reads as that setting under every such spelling.
-/
namespace Pyxv.C11
open Pyxv Pyxv.Settings

def IsWs (s : Str) : Prop := ∀ c ∈ s, pyIsSpace c = true
def IsWord (w : Str) : Prop := w ≠ [] ∧ ∀ c ∈ w, pyIsSpace c = false

/-- a header written as words with whitespace around them: `(whitespace before the word, word)…`, then
    trailing whitespace -/
def noisy : List (Str × Str) → Str → Str
  | [], trail => trail
  | (sp, w) :: r, trail => sp ++ w ++ noisy r trail

theorem splitWs_word_noisy (trail : Str) (ht : IsWs trail) : ∀ (r : List (Str × Str)) (w : Str), IsWord w →
    (∀ p ∈ r, IsWs p.1 ∧ p.1 ≠ [] ∧ IsWord p.2) → Spell.splitWs (w ++ noisy r trail) = w :: r.map (·.2)
  | [], w, hw, _ => by
    rw [noisy, Spell.splitWs_append_ws w trail ht, Spell.splitWs_word w hw.1 hw.2]
    rfl
  | (sp, w1) :: r, w, hw, hr => by
    obtain ⟨hsp, hne, hw1⟩ := hr (sp, w1) (by simp)
    obtain ⟨s, sp', rfl⟩ := List.exists_cons_of_ne_nil hne
    -- the first whitespace character ends `w`; the rest of the gap is skipped
    rw [noisy, List.cons_append, List.cons_append, Spell.splitWs_append_space w s _ (hsp s (by simp)),
      Spell.splitWs_word w hw.1 hw.2, List.append_assoc, Spell.splitWs_ws_append sp' _ (fun c hc => hsp c (by simp [hc])),
      splitWs_word_noisy trail ht r w1 hw1 (fun p hp => hr p (by simp [hp]))]
    rfl

/-- `str.split()` finds exactly the words, whatever whitespace separates them and surrounds the header -/
theorem split_noisy (sp0 w0 : Str) (r : List (Str × Str)) (trail : Str) (h0 : IsWs sp0) (hw0 : IsWord w0)
    (ht : IsWs trail) (hr : ∀ p ∈ r, IsWs p.1 ∧ p.1 ≠ [] ∧ IsWord p.2) :
    splitWs (noisy ((sp0, w0) :: r) trail) = w0 :: r.map (·.2) := by
  rw [splitWs_eq, noisy, List.append_assoc, Spell.splitWs_ws_append sp0 _ h0, splitWs_word_noisy trail ht r w0 hw0 hr]

/-- `to_snake_case` of such a header is the words joined by `_`, lower-cased -/
theorem snake_noisy (sp0 w0 : Str) (r : List (Str × Str)) (trail : Str) (h0 : IsWs sp0) (hw0 : IsWord w0)
    (ht : IsWs trail) (hr : ∀ p ∈ r, IsWs p.1 ∧ p.1 ≠ [] ∧ IsWord p.2) :
    toSnakeCase (noisy ((sp0, w0) :: r) trail) = lowerAscii (joinWith ['_'] (w0 :: r.map (·.2))) := by
  unfold toSnakeCase
  rw [split_noisy sp0 w0 r trail h0 hw0 ht hr]

/-- `process_header` on a header that is not itself a slot name but normalises to a (non-alias) slot -/
theorem processHeader_of_snake (dc : Bool) (h : Str) (h1 : (isColumn h && (aliasOf h).isNone) = false)
    (h2 : isColumn (toSnakeCase h) = true) (h3 : aliasOf (toSnakeCase h) = none) :
    processHeader dc h = (toSnakeCase h, [toSnakeCase h]) := by
  simp [processHeader, h1, h2, h3]

/-- every whitespace / case spelling of a setting's name reads as that setting:
    if the lower-cased `_`-joined words are a (non-alias) `Survey` slot `n`, `process_header` returns `n`.
    `hself`: the header as written is not itself a slot name (the first test of `process_header`; `omit_instanceID` is
    read there, not through its snake case). -/
theorem noisy_header_reads (dc : Bool) (sp0 w0 : Str) (r : List (Str × Str)) (trail : Str) (h0 : IsWs sp0)
    (hw0 : IsWord w0) (ht : IsWs trail) (hr : ∀ p ∈ r, IsWs p.1 ∧ p.1 ≠ [] ∧ IsWord p.2)
    (hcol : isColumn (lowerAscii (joinWith ['_'] (w0 :: r.map (·.2)))) = true)
    (hal : aliasOf (lowerAscii (joinWith ['_'] (w0 :: r.map (·.2)))) = none)
    (hself : (isColumn (noisy ((sp0, w0) :: r) trail) && (aliasOf (noisy ((sp0, w0) :: r) trail)).isNone) = false) :
    processHeader dc (noisy ((sp0, w0) :: r) trail) =
      (lowerAscii (joinWith ['_'] (w0 :: r.map (·.2))), [lowerAscii (joinWith ['_'] (w0 :: r.map (·.2)))]) := by
  have hs := snake_noisy sp0 w0 r trail h0 hw0 ht hr
  have := processHeader_of_snake dc _ hself (by rw [hs]; exact hcol) (by rw [hs]; exact hal)
  rw [this, hs]

theorem toSnakeCase_strip (h : Str) : toSnakeCase (strip h) = toSnakeCase h := by
  unfold toSnakeCase
  rw [splitWs_eq, splitWs_eq, Spell.splitWs_strip]

/-- `process_header` on a header without `:` whose normal form is a settings alias -/
theorem processHeader_alias (h : Str) (hc : ':' ∉ h) (h1 : (isColumn h && (aliasOf h).isNone) = false)
    (c : Char) (cs : Str)
    (hal : aliasOf (toSnakeCase h) = some (c :: cs)) :
    processHeader false h = (c :: cs, [c :: cs]) := by
  simp only [processHeader, h1, Bool.false_eq_true, if_false, Bool.false_or,
    isInfix_eq_false_of_not_mem (p := S "::") (by decide) hc, splitOnChar_of_not_mem ':' h hc, List.map_cons, List.map_nil,
    toSnakeCase_strip, hal]
  simp

/-- every whitespace / case spelling of a settings *alias* (`form_title`,
    `set_form_id`, …) reads as the aliased setting, in a sheet without `::` headers -/
theorem noisy_alias_reads (sp0 w0 : Str) (r : List (Str × Str)) (trail : Str) (h0 : IsWs sp0)
    (hw0 : IsWord w0) (ht : IsWs trail) (hr : ∀ p ∈ r, IsWs p.1 ∧ p.1 ≠ [] ∧ IsWord p.2)
    (hcolon : ':' ∉ noisy ((sp0, w0) :: r) trail) (c : Char) (cs : Str)
    (hal : aliasOf (lowerAscii (joinWith ['_'] (w0 :: r.map (·.2)))) = some (c :: cs))
    (hself : (isColumn (noisy ((sp0, w0) :: r) trail) && (aliasOf (noisy ((sp0, w0) :: r) trail)).isNone) = false) :
    processHeader false (noisy ((sp0, w0) :: r) trail) = (c :: cs, [c :: cs]) := by
  have hs := snake_noisy sp0 w0 r trail h0 hw0 ht hr
  exact processHeader_alias _ hcolon hself c cs (by rw [hs]; exact hal)

/-- non-vacuity: `version` written as NBSP + `VERSION` + line break, and `instance name` with a TAB and
    an ideographic space between the words, a leading blank and a trailing NBSP -/
example :
    processHeader false ([Char.ofNat 0xA0] ++ S "VERSION" ++ ['\n']) = (S "version", [S "version"]) ∧
    processHeader true (noisy [(S " ", S "instance"), (['\t', Char.ofNat 0x3000], S "Name")] [Char.ofNat 0xA0])
      = (S "instance_name", [S "instance_name"]) ∧
    processHeader false (S "form" ++ [Char.ofNat 0xA0] ++ S "title") = (S "title", [S "title"]) ∧
    processHeader false (S "form\ttitle") = (S "title", [S "title"]) ∧
    IsWs ['\t', Char.ofNat 0x3000] ∧ IsWord (S "Name") := by
  -- reassociated so that the four readings are one conjunct, decided by one evaluation
  refine (and_assoc.mp ∘ and_assoc.mp ∘ and_assoc.mp) ⟨?_, ?_, ?_⟩
  · simp only [processHeader, isColumn, aliasOf, Pyxv.Gen.surveyFields, Pyxv.Gen.aliasSettingsHeader, List.any_cons,
      List.any_nil, List.map_cons, List.map_nil, toList_lit rfl]
    decide +kernel
  · intro c hc; simp at hc; rcases hc with rfl | rfl <;> decide
  · refine ⟨by decide, ?_⟩
    intro c hc
    have : c ∈ ['N', 'a', 'm', 'e'] := hc
    simp at this
    rcases this with rfl | rfl | rfl | rfl <;> decide

end Pyxv.C11
