import Pyxv.Proofs.EntitiesLemmas
/-!
# C19 — entity declarations follow the documented create/update decision table

`Pyxv.Entities.convert` and its parts — the interpreter of `Model/Entities.lean` applied to the IR that
`harness/translate_entities.py` regenerates from /repo's `entities_parsing.py` / `entity_declaration.py` on every run —
compared with the independent specification `Pyxv.Entities.Spec`.  The reference substitution `sub` (C03's mechanism),
the expressions, names, rows and trees are universally quantified.
-/
namespace Pyxv.C19
open Pyxv Pyxv.Entities Pyxv.Gen

/-- xpath of the declaration: `/<root>/meta/entity` -/
def entityPath (root : Str) : Str := Form.xpathStr [root, Spec.S "meta", Spec.S "entity"]

/-- For a one-row entities sheet with only known columns and a valid dataset name, and for *all* cell contents (the
    four presence flags are the truthiness of the four cells): the form is rejected exactly when the documented table
    (plus the label rule) says so, and otherwise `meta/entity` and the binds / setvalue are exactly the documented ones. -/
theorem entity_table (root : Str) (sub : Str → Str) (row : Cells) (ds : Str)
    (hcols : extraColumns row = [])
    (hds : lookup "dataset".toList row = some ds)
    (hname : Spec.validDatasetName ds = true) :
    let idE := lookup "entity_id".toList row
    let cE := lookup "create_if".toList row
    let uE := lookup "update_if".toList row
    let lE := lookup "label".toList row
    match Spec.decision (truthy idE) (truthy cE) (truthy uE) (truthy lE) with
    | .error _ => ∃ m, getEntityDeclaration row [] = .error (.msg m)
    | .ok a =>
      ∃ ps, getEntityDeclaration row [] = .ok ps ∧
        instanceNode ps = Spec.entityNode ds (truthy lE) a ∧
        bindings (entityPath root) sub ps =
          .ok (Spec.entityNodes (entityPath root) sub ds (idE.getD []) (cE.getD []) (uE.getD []) (lE.getD []) (truthy lE) a) := by
  intro idE cE uE lE
  have hcall1 : declCall row "validate_entities_columns" = .ok () := by simp [declCall, hcols]
  have hcall2 : declCall row "get_validated_dataset_name" = .ok () := by
    simp [declCall, (dataset_checks row ds hds).1 hname]
  have hchk := decl_checks (rowEnv row 1) (declCall row) rfl hcall1 hcall2
  simp only [rowEnv_val] at hchk
  cases hd : Spec.decision (truthy idE) (truthy cE) (truthy uE) (truthy lE) with
  | error r =>
    obtain ⟨m, hm⟩ := hchk.2 r hd
    exact ⟨m, by simp [getEntityDeclaration, hm]⟩
  | ok a =>
    have hok := hchk.1 a hd
    obtain ⟨p1, p2, p3, p4, p5⟩ := paramEnv_val row
    refine ⟨declParams row, by simp only [getEntityDeclaration, List.length_nil, Nat.zero_add, hok], ?_, ?_⟩
    · have := instance_table (paramEnv (declParams row)) ds a (by rw [p1]; exact hds)
        (by rw [p2, p3, p4, p5]; exact hd)
      rw [p5] at this
      exact this
    · have := bindings_table (paramEnv (declParams row)) (entityPath root) sub ds a (by rw [p1]; exact hds)
        (by rw [p2, p3, p4, p5]; exact hd)
      rw [p2, p3, p4, p5] at this
      exact this

/-- non-vacuity: the "always create" row -/
example : ∃ ps, getEntityDeclaration [("dataset".toList, "trees".toList), ("label".toList, "${a}".toList)] [] = .ok ps ∧
    (instanceNode ps).attrs = [("create", "1".toList), ("dataset", "trees".toList), ("id", [])] := by
  simp only [toList_lit rfl]
  refine ⟨_, rfl, ?_⟩
  decide +kernel

/-- Any column besides the five documented ones rejects the (single-row)
    sheet, naming exactly the offending columns. -/
theorem unknown_columns_rejected (row : Cells) (h : extraColumns row ≠ []) :
    getEntityDeclaration row [] = .error (.columns (extraColumns row)) := by
  have hc : declCall row "validate_entities_columns" = .error (.columns (extraColumns row)) := by
    unfold declCall
    cases he : extraColumns row with
    | nil => exact absurd he h
    | cons x xs => simp
  simp [getEntityDeclaration, Gen.entityDeclBody, runBody, evalB, rowEnv, hc]

example : getEntityDeclaration [("dataset".toList, "t".toList), ("foo".toList, "x".toList)] [] =
    .error (.columns ["foo".toList]) := errVal_elim _ _ (by simp only [toList_lit rfl]; decide +kernel)

/-- More than one row is rejected whatever the rows contain. -/
theorem multiple_rows_rejected (row r2 : Cells) (rest : List Cells) :
    ∃ m, getEntityDeclaration row (r2 :: rest) = .error (.msg m) := by
  have hl : (rowEnv row ((r2 :: rest).length + 1)).len "entities_sheet" > 1 := by simp [rowEnv]
  unfold getEntityDeclaration
  simp only [Gen.entityDeclBody, runBody, evalB, hl, decide_true, if_true]
  exact ⟨_, rfl⟩

example : ∃ m, getEntityDeclaration [("dataset".toList, "t".toList), ("label".toList, "x".toList)]
    [[("dataset".toList, "u".toList), ("label".toList, "y".toList)]] = .error (.msg m) :=
  multiple_rows_rejected _ _ _

theorem dataset_call_rejected (row : Cells) (m : Str) (hcols : extraColumns row = [])
    (hm : validatedDatasetName row = .error (.msg m)) : getEntityDeclaration row [] = .error (.msg m) := by
  have hcall1 : declCall row "validate_entities_columns" = .ok () := by simp [declCall, hcols]
  have hcall2 : declCall row "get_validated_dataset_name" = .error (.msg m) := by simp [declCall, hm]
  simp [getEntityDeclaration, Gen.entityDeclBody, runBody, evalB, rowEnv, hcall1, hcall2]

/-- A one-row sheet without unknown columns whose dataset name starts with `__`,
    contains a period or is not an XML name is rejected. -/
theorem name_rules_dataset_rejected (row : Cells) (ds : Str) (hcols : extraColumns row = [])
    (hds : lookup "dataset".toList row = some ds) (hbad : Spec.validDatasetName ds = false) :
    ∃ m, getEntityDeclaration row [] = .error (.msg m) := by
  obtain ⟨m, hm⟩ := (dataset_checks row ds hds).2 hbad
  exact ⟨m, dataset_call_rejected row m hcols hm⟩

/-- conversely: an accepted declaration has a valid dataset name -/
theorem name_rules_dataset_accepted (row : Cells) (rest : List Cells) (ps : Params)
    (h : getEntityDeclaration row rest = .ok ps) :
    rest = [] ∧ extraColumns row = [] ∧ ∃ ds, lookup "dataset".toList row = some ds ∧ Spec.validDatasetName ds = true := by
  have hrest : rest = [] := by
    cases rest with
    | nil => rfl
    | cons r2 rest => obtain ⟨m, hm⟩ := multiple_rows_rejected row r2 rest; rw [hm] at h; cases h
  subst hrest
  have hcols : extraColumns row = [] := by
    by_cases hc : extraColumns row = []
    · exact hc
    · rw [unknown_columns_rejected row hc] at h; cases h
  refine ⟨rfl, hcols, ?_⟩
  cases hds : lookup "dataset".toList row with
  | none =>
    obtain ⟨m, hm⟩ := dataset_missing row hds
    rw [dataset_call_rejected row m hcols hm] at h
    cases h
  | some ds =>
    refine ⟨ds, rfl, ?_⟩
    cases hv : Spec.validDatasetName ds with
    | true => rfl
    | false => obtain ⟨m, hm⟩ := name_rules_dataset_rejected row ds hcols hds hv; rw [hm] at h; cases h

example : ∃ m, getEntityDeclaration [("dataset".toList, "a.b".toList), ("label".toList, "x".toList)] [] = .error (.msg m) :=
  name_rules_dataset_rejected _ "a.b".toList (by simp only [toList_lit rfl]; decide +kernel) (by simp only [toList_lit rfl]; decide +kernel) (by simp only [toList_lit rfl]; decide +kernel)

/-- Whatever the row loop accepts: the `(nodeset, entities:saveto)` pairs are exactly those the spec reads off the
    sheet — one per question row with a save_to cell, on that question's own xpath, in sheet order. -/
theorem saveto_bind (decl : Bool) (root : Str) (rows : List Cells) (out : List (Str × Str))
    (h : walk decl root 2 [] rows = .ok out) : Spec.saveto decl root [] rows = some out :=
  agrees_ok (h ▸ walk_agrees decl root rows 2 [])

example : walk true "data".toList 2 []
    [[("type".toList, "begin group".toList), ("name".toList, "g".toList)],
     [("type".toList, "text".toList), ("name".toList, "q".toList), ("bind::entities:saveto".toList, "p".toList)],
     [("type".toList, "end group".toList)]] = .ok [("/data/g/q".toList, "p".toList)] := okVal_elim _ _ (by simp only [toList_lit rfl]; decide +kernel)

/-- an accepted row of the spec's reading adds nothing, or is a question row whose allowed cell heads the output -/
theorem saveto_cons_some (decl : Bool) (root : Str) (st : List (Str × Bool)) (r : Cells) (rs : List Cells)
    (out : List (Str × Str)) (h : Spec.saveto decl root st (r :: rs) = some out) :
    ∃ st' out', Spec.saveto decl root st' rs = some out' ∧
      ((out = out' ∧
          (truthy (Spec.savetoCell r) && (Spec.rowKind ((Rows.get r "type").getD []) == .question)) = false) ∨
       (∃ x a p, out = (x, a :: p) :: out' ∧ Spec.savetoCell r = some (a :: p) ∧
          Spec.rowKind ((Rows.get r "type").getD []) = .question ∧
          Spec.savetoAllowed decl (st.any (·.2)) (a :: p) = true)) := by
  simp only [Spec.saveto] at h
  cases hk : Spec.rowKind ((Rows.get r "type").getD []) with
  | end_ | meta_ => simp only [hk] at h; exact ⟨_, out, h, Or.inl ⟨rfl, by simp⟩⟩
  | beginGroup | beginRepeat =>
    simp only [hk] at h
    split at h
    · cases h
    · rename_i ht; exact ⟨_, out, h, Or.inl ⟨rfl, by simp [ht]⟩⟩
  | question =>
    simp only [hk] at h
    split at h
    · rename_i a p hc
      split at h
      · rename_i hall
        obtain ⟨o, ho, rfl⟩ := Option.map_eq_some_iff.1 h
        exact ⟨_, o, ho, Or.inr ⟨_, a, p, rfl, hc, rfl, hall⟩⟩
      · cases h
    · rename_i hc
      refine ⟨_, out, h, Or.inl ⟨rfl, ?_⟩⟩
      rcases truthy_cases (Spec.savetoCell r) with ⟨ht, _⟩ | ⟨a, p, hc', _⟩
      · simp [ht]
      · exact absurd hc' (hc a p)

/-- the spec loses no cell: the values it binds are, in order, the truthy save_to cells of the question rows -/
theorem spec_saveto_complete (decl : Bool) (root : Str) : ∀ (rows : List Cells) (st : List (Str × Bool)) (out : List (Str × Str)),
    Spec.saveto decl root st rows = some out →
    out.map (·.2) = (rows.filter fun r =>
        truthy (Spec.savetoCell r) && (Spec.rowKind ((Rows.get r "type").getD []) == .question)).map
      fun r => (Spec.savetoCell r).getD [] := by
  intro rows
  induction rows with
  | nil => intro st out h; simp [Spec.saveto] at h; simp [h]
  | cons r rs ih =>
    intro st out h
    obtain ⟨st', out', ho, ⟨rfl, hf⟩ | ⟨x, a, p, rfl, hc, hk, _⟩⟩ := saveto_cons_some decl root st r rs out h
    · simpa [List.filter_cons, hf] using ih _ _ ho
    · simp [hc, hk, ih _ _ ho]

/-- every save_to value that reaches a bind is a valid property name, and an entity is declared -/
theorem spec_saveto_valid (decl : Bool) (root : Str) : ∀ (rows : List Cells) (st : List (Str × Bool)) (out : List (Str × Str)),
    Spec.saveto decl root st rows = some out → ∀ pv ∈ out, Spec.validPropertyName pv.2 = true ∧ decl = true := by
  intro rows
  induction rows with
  | nil => intro st out h; simp [Spec.saveto] at h; simp [h]
  | cons r rs ih =>
    intro st out h
    obtain ⟨st', out', ho, ⟨rfl, _⟩ | ⟨x, a, p, rfl, _, _, hall⟩⟩ := saveto_cons_some decl root st r rs out h
    · exact ih _ _ ho
    · intro pv hpv
      rcases List.mem_cons.1 hpv with rfl | hpv
      · simp only [Spec.savetoAllowed, Bool.and_eq_true] at hall
        exact ⟨hall.2, hall.1.1⟩
      · exact ih _ _ ho pv hpv
theorem name_rules_property (decl : Bool) (root : Str) (rows : List Cells) (out : List (Str × Str))
    (h : walk decl root 2 [] rows = .ok out) : ∀ pv ∈ out, Spec.validPropertyName pv.2 = true ∧ decl = true :=
  spec_saveto_valid decl root rows [] out (saveto_bind decl root rows out h)

example : ∃ m, walk true "data".toList 2 []
    [[("type".toList, "text".toList), ("name".toList, "q".toList), ("bind::entities:saveto".toList, "Label".toList)]] =
      .error (.msg m) := isMsg_elim _ (by simp only [toList_lit rfl]; decide +kernel)

/-- In *every* state of the row loop: a row that is not an `end` row, has a name and carries a save_to cell is
    rejected if it opens a group or repeat, or if any enclosing section is a repeat. -/
theorem saveto_in_repeat_or_on_group_rejected (decl : Bool) (root : Str) (n : Nat) (st : List Frame)
    (r : Cells) (rs : List Cells) (t name : Str)
    (ht : Rows.get r "type" = some t) (he : Rows.matchControl "end" false t = none) (haud : t ≠ auditType)
    (hn : Rows.get r "name" = some name) (hcell : truthy (lookup savetoKey r) = true)
    (hbad : inRepeat st = true ∨ ∃ c, Rows.matchControl "begin" true t = some c) :
    ∃ m, walk decl root n st (r :: rs) = .error (.msg m) := by
  have hp : savetoPasses decl st t (lookup savetoKey r) = false := by
    rcases hbad with h | ⟨c, hc⟩
    · simp [savetoPasses, hcell, h]
    · simp [savetoPasses, hcell, hc]
  obtain ⟨m, hm⟩ := (saveto_checks decl n st r t).2 hp
  exact ⟨m, by simp only [walk, ht, he, haud, if_false, hn, hm]⟩

example : ∃ m, walk true "data".toList 2 []
    [[("type".toList, "begin repeat".toList), ("name".toList, "r".toList)],
     [("type".toList, "text".toList), ("name".toList, "q".toList), ("bind::entities:saveto".toList, "p".toList)],
     [("type".toList, "end repeat".toList)]] = .error (.msg m) := isMsg_elim _ (by simp only [toList_lit rfl]; decide +kernel)

/-- Every sheet the row loop rejects is one the spec rejects. -/
theorem saveto_rejections (decl : Bool) (root : Str) (rows : List Cells) (m : Str)
    (h : walk decl root 2 [] rows = .error (.msg m)) : Spec.saveto decl root [] rows = none :=
  agrees_msg (h ▸ walk_agrees decl root rows 2 [])

theorem walk_error {decl : Bool} {root : Str} {n : Nat} {st : List Frame} {rows : List Cells} {e : Rej}
    (h : walk decl root n st rows = .error e) : (∃ w, e = .unsupported w) ∨ ∃ m, e = .msg m :=
  agrees_error (h ▸ walk_agrees decl root rows n st)

/-- finding F25: `select_one age_group` with save_to gets its bind -/
example : okVal (walk true "data".toList 2 []
    [[("type".toList, "select_one age_group".toList), ("name".toList, "s".toList),
      ("bind::entities:saveto".toList, "p".toList)]]) = some [("/data/s".toList, "p".toList)] := by
  simp only [toList_lit rfl]
  decide +kernel

/-! table facts, re-checked against the current source on every run -/
theorem features_on : Gen.entityFeatures.isEmpty = false := by decide
theorem entities_prefix_eq : entitiesPrefix = Spec.entitiesNs.1 := rfl
theorem version_attr_eq : Gen.entitiesVersionAttr = Spec.versionAttr := rfl
theorem entity_name_eq : entityName = Spec.S "entity" := rfl
/-- the `save_to` column is the bind attribute `entities:saveto` -/
theorem saveto_header_eq : Gen.savetoHeader = ("save_to", ["bind", "entities:saveto"]) := rfl
theorem instance_tag_eq : Gen.entityInstanceTag = "entity" := rfl

theorem xmlns_with_entity (namespaces : Option Str) :
    ((lookup entitiesPrefix (nsExtra namespaces true)).map fun u => (entitiesPrefix, u)) = some Spec.entitiesNs := by
  rw [entities_ns_declared, entities_prefix_eq]
  rfl

/-- the two shapes of a converted form: no entities row, or one declaration with its version attribute and namespace -/
theorem convert_ok_cases (root : Str) (sub : Str → Str) (settings : Cells) (entities survey : List Cells) (o : Out)
    (h : convert root sub settings entities survey = .ok o) :
    (entities = [] ∧ o.entity = none ∧ o.version = none ∧
      o.xmlns = userEntitiesNs (Rows.get settings "namespaces") ∧ o.metaKids = metaChildren settings survey false) ∨
    (entities ≠ [] ∧ o.entity.isSome = true ∧ o.version = some (Spec.versionAttr, Gen.entitiesOfflineVersion) ∧
      o.xmlns = some Spec.entitiesNs ∧ o.metaKids = metaChildren settings survey true) := by
  unfold convert at h
  cases entities with
  | nil =>
    simp only at h
    split at h
    · cases h
    · cases h; exact Or.inl ⟨rfl, rfl, rfl, rfl, rfl⟩
  | cons row rest =>
    simp only at h
    split at h
    · cases h
    · split at h
      · cases h
      · split at h
        · cases h
        · cases h
          refine Or.inr ⟨by simp, rfl, ?_, ?_, rfl⟩
          · simp [features_on, version_attr_eq]
          · simp only [features_on, Bool.not_false, xmlns_with_entity]

/-- In every converted form, for *every* value of the settings `namespaces` cell: `meta/entity` exists iff the
    entities sheet has a row; `entities:entities-version` is on the model iff it exists; then the `entities` prefix is
    declared with the entities URI whatever the user's string contains, otherwise only if the user's string declares it. -/
theorem namespace_iff_entity (root : Str) (sub : Str → Str) (settings : Cells) (entities survey : List Cells) (o : Out)
    (h : convert root sub settings entities survey = .ok o) :
    (o.entity.isSome ↔ entities ≠ []) ∧ (o.version.isSome ↔ o.entity.isSome) ∧
    (o.entity.isSome → o.xmlns = some Spec.entitiesNs ∧ o.version = some (Spec.versionAttr, Gen.entitiesOfflineVersion)) ∧
    (o.entity = none → o.xmlns = userEntitiesNs (Rows.get settings "namespaces")) := by
  rcases convert_ok_cases root sub settings entities survey o h with ⟨he, h1, h2, h3, _⟩ | ⟨he, h1, h2, h3, _⟩
  · simp [he, h1, h2, h3]
  · obtain ⟨e, he'⟩ := Option.isSome_iff_exists.1 h1
    simp [he, he', h2, h3]

/-- corollary: unless the user's own `namespaces` cell declares the prefix `entities`, the entities namespace
    is declared exactly when an entity is declared -/
theorem namespace_iff_entity_user (root : Str) (sub : Str → Str) (settings : Cells) (entities survey : List Cells) (o : Out)
    (huser : lookup entitiesPrefix (nsExtra (Rows.get settings "namespaces") false) = none)
    (h : convert root sub settings entities survey = .ok o) : (o.xmlns.isSome ↔ o.entity.isSome) := by
  obtain ⟨_, _, h3, h4⟩ := namespace_iff_entity root sub settings entities survey o h
  cases he : o.entity with
  | none => simp [h4 he, userEntitiesNs, huser]
  | some e => simp [(h3 (by simp [he])).1]

example : (okVal (convert "data".toList id [("namespaces".toList, "ex=\"http://example.com/x\"".toList)] []
      [[("type".toList, "text".toList), ("name".toList, "q".toList)]])).map
    (fun o => (o.entity.isSome, o.xmlns.isSome, o.version.isSome)) = some (false, false, false) := by
  simp only [toList_lit rfl]
  decide +kernel
example : (okVal (convert "data".toList id [("namespaces".toList, "ex=\"http://example.com/x\"".toList)]
      [[("dataset".toList, "t".toList), ("label".toList, "x".toList)]]
      [[("type".toList, "text".toList), ("name".toList, "q".toList)]])).map
    (fun o => (o.entity.isSome, o.xmlns, o.version.isSome)) = some (true, some Spec.entitiesNs, true) :=
  okVal_map_eq _ _ _ (by simp only [toList_lit rfl]; decide +kernel) fun o h => by
    rcases convert_ok_cases _ _ _ _ _ o h with ⟨he, _⟩ | ⟨_, h1, h2, h3, _⟩
    · cases he
    · simp [h1, h2, h3]

/-- what happens when the user's own `namespaces` cell declares the prefix `entities`: without an entity the
    root carries the user's URI; with an entity the appended declaration wins -/
example : (okVal (convert "data".toList id [("namespaces".toList, "entities=\"http://example.com/mine\"".toList)] []
      [[("type".toList, "text".toList), ("name".toList, "q".toList)]])).map (·.xmlns) =
    some (some ("entities".toList, "http://example.com/mine".toList)) := by
  simp only [toList_lit rfl]
  decide +kernel
example : (okVal (convert "data".toList id [("namespaces".toList, "entities=\"http://example.com/mine\"".toList)]
      [[("dataset".toList, "t".toList), ("label".toList, "x".toList)]]
      [[("type".toList, "text".toList), ("name".toList, "q".toList)]])).map (·.xmlns) =
    some (some Spec.entitiesNs) :=
  okVal_map_eq _ _ _ (by simp only [toList_lit rfl]; decide +kernel) fun o h => by
    rcases convert_ok_cases _ _ _ _ _ o h with ⟨he, _⟩ | ⟨_, _, _, h3, _⟩
    · cases he
    · exact h3

/-- one-row sheets: the declaration function and the spec's reading of the row agree in every case -/
theorem declaration_agrees (root : Str) (sub : Str → Str) (row : Cells) :
    match getEntityDeclaration row [] with
    | .ok ps => ∃ ns, bindings (entityPath root) sub ps = .ok ns ∧
        Spec.entityRow (entityPath root) sub row = some (instanceNode ps, ns)
    | .error (.unsupported _) => False
    | .error _ => Spec.entityRow (entityPath root) sub row = none := by
  by_cases hcols : extraColumns row = []
  · have hany := (extraColumns_nil_iff row).1 hcols
    cases hds : lookup "dataset".toList row with
    | none =>
      obtain ⟨m, hm⟩ := dataset_missing row hds
      rw [dataset_call_rejected row m hcols hm]
      simp [Spec.entityRow, Spec.S, toList_lit rfl ▸ hds]
    | some ds =>
      -- the spec spells its keys `Spec.S "…"`: both spellings are brought to character lists
      have hds' := hds
      simp only [toList_lit rfl] at hds'
      cases hv : Spec.validDatasetName ds with
      | false =>
        obtain ⟨m, hm⟩ := name_rules_dataset_rejected row ds hcols hds hv
        rw [hm]
        simp [Spec.entityRow, Spec.S, hds', hv]
      | true =>
        have ht := entity_table root sub row ds hcols hds hv
        simp only at ht
        cases hd : Spec.decision (truthy (lookup "entity_id".toList row)) (truthy (lookup "create_if".toList row))
            (truthy (lookup "update_if".toList row)) (truthy (lookup "label".toList row)) with
        | error r =>
          rw [hd] at ht
          obtain ⟨m, hm⟩ := ht
          rw [hm]
          simp only [toList_lit rfl] at hd
          simp [Spec.entityRow, Spec.S, hds', hv, hd]
        | ok a =>
          rw [hd] at ht
          obtain ⟨ps, hps, hi, hb⟩ := ht
          rw [hps]
          refine ⟨_, hb, ?_⟩
          simp only [toList_lit rfl] at hd hi
          simp [Spec.entityRow, Spec.S, hds', hv, hd, hi]
          simpa using hany
  · rw [unknown_columns_rejected row hcols]
    have : row.any (fun kv => !Spec.knownColumns.contains kv.1) = true := by
      cases h : row.any (fun kv => !Spec.knownColumns.contains kv.1) with
      | true => rfl
      | false => exact absurd ((extraColumns_nil_iff row).2 h) hcols
    unfold Spec.entityRow
    rw [if_pos this]

/-- the three facts about sheet and settings that shape the meta block, read as C04's `Rows.metaKids` reads them -/
def metaCfg (settings : Cells) (survey : List Cells) : Spec.MetaCfg :=
  { audit := (survey.filter Rows.isAuditRow).length
    omitInstanceID := match Rows.get settings "omit_instanceID" with | some v => Rows.yesNoTrue v | none => false
    instanceName := Rows.has settings "instance_name" }

theorem audit_names (l : List Cells) :
    ((l.map fun _ => Rows.auditQ).map fun d => d.name) = List.replicate l.length (Spec.S "audit") :=
  (List.map_map ..).trans List.map_const'

/-- The children of the generated meta group are one `audit` per enabled audit row (converted forms have at most
    one: `Pyxv.C02.at_most_one_audit`), then `instanceID` unless omitted, then `instanceName` if set (`Rows.metaKids`,
    C04), then the entity declaration iff an entity is declared. -/
theorem meta_children_table (settings : Cells) (survey : List Cells) (e : Bool) :
    metaChildren settings survey e =
      Spec.metaKids (metaCfg settings survey).audit (metaCfg settings survey).omitInstanceID
        (metaCfg settings survey).instanceName e := by
  unfold metaChildren Rows.metaKids Spec.metaKids metaCfg
  rw [entity_name_eq]
  simp only [List.map_append, audit_names]
  generalize Rows.has settings "instance_name" = c
  cases hget : Rows.get settings "omit_instanceID" with
  | none => cases c <;> cases e <;> rfl
  | some v =>
    simp only
    rcases Bool.eq_false_or_eq_true (Rows.yesNoTrue v) with hb | hb <;> simp only [hb] <;>
      cases c <;> cases e <;> rfl

/-- In every converted form the declaration is a child of `meta` iff an entity is declared, and then it is the
    *last* child, whatever the settings and audit rows are. -/
theorem entity_in_meta (root : Str) (sub : Str → Str) (settings : Cells) (entities survey : List Cells) (o : Out)
    (h : convert root sub settings entities survey = .ok o) :
    (o.entity.isSome → o.metaKids.getLast? = some (Spec.S "entity") ∧
        o.metaKids.dropLast = (Rows.metaKids survey settings).map (·.name)) ∧
    (o.entity = none → o.metaKids = (Rows.metaKids survey settings).map (·.name)) := by
  rcases convert_ok_cases root sub settings entities survey o h with ⟨_, h1, _, _, hm⟩ | ⟨_, h1, _, _, hm⟩
  · simp [h1, hm, metaChildren]
  · obtain ⟨e, he⟩ := Option.isSome_iff_exists.1 h1
    simp [he, hm, metaChildren, entity_name_eq]

example : (okVal (convert "data".toList id [("omit_instanceID".toList, "yes".toList)]
      [[("dataset".toList, "t".toList), ("label".toList, "x".toList)]]
      [[("type".toList, "text".toList), ("name".toList, "q".toList)]])).map (·.metaKids) =
    some ["entity".toList] := by
  simp only [toList_lit rfl]
  decide +kernel
example : (okVal (convert "data".toList id [("instance_name".toList, "x".toList)]
      [[("dataset".toList, "t".toList), ("label".toList, "x".toList)]]
      [[("type".toList, "audit".toList), ("name".toList, "audit".toList)],
       [("type".toList, "text".toList), ("name".toList, "q".toList)]])).map (·.metaKids) =
    some ["audit".toList, "instanceID".toList, "instanceName".toList, "entity".toList] := by
  simp only [toList_lit rfl]
  decide +kernel
example : (okVal (convert "data".toList id [("omit_instanceID".toList, "true".toList)] []
      [[("type".toList, "text".toList), ("name".toList, "q".toList)]])).map (·.metaKids) = some [] := by
  simp only [toList_lit rfl]
  decide +kernel

/-- a one-row sheet whose row the spec refuses is refused as a form -/
theorem form_of_row_none {root : Str} {sub : Str → Str} {v : String} {u : Option (Str × Str)} {m : Spec.MetaCfg}
    {row : Cells} {survey : List Cells} (h : Spec.entityRow (entityPath root) sub row = none) :
    Spec.form root sub v u m [row] survey = none := by
  unfold entityPath at h
  simp only [Spec.form, h]

/-- The whole mechanism (entities sheet → declaration → nodes; survey rows → saveto binds; namespace and version)
    equals the documented specification on every input the model answers: what it converts is exactly what the spec
    demands, and what it rejects the spec rejects. -/
theorem convert_eq_spec (root : Str) (sub : Str → Str) (settings : Cells) (entities survey : List Cells) :
    match convert root sub settings entities survey with
    | .ok o => Spec.form root sub Gen.entitiesOfflineVersion (userEntitiesNs (Rows.get settings "namespaces"))
        (metaCfg settings survey) entities survey = some o
    | .error (.unsupported _) => True
    | .error _ => Spec.form root sub Gen.entitiesOfflineVersion (userEntitiesNs (Rows.get settings "namespaces"))
        (metaCfg settings survey) entities survey = none := by
  unfold convert
  cases entities with
  | nil =>
    simp only
    cases hres : walk false root 2 [] survey with
    | ok sv => simp [Spec.form, saveto_bind _ _ _ _ hres, meta_children_table]
    | error e =>
      rcases walk_error hres with ⟨w, rfl⟩ | ⟨m, rfl⟩
      · trivial
      · simp [Spec.form, saveto_rejections _ _ _ _ hres]
  | cons row rest =>
    simp only
    cases rest with
    | cons r2 rest =>
      obtain ⟨m, hm⟩ := multiple_rows_rejected row r2 rest
      rw [hm]
      simp [Spec.form]
    | nil =>
      have hdecl := declaration_agrees root sub row
      cases hres : getEntityDeclaration row [] with
      | error e =>
        rw [hres] at hdecl
        cases e with
        | unsupported w => trivial
        -- any other refusal of the declaration: the spec refuses the row too
        | msg _ | columns _ | internal _ => exact form_of_row_none hdecl
      | ok ps =>
        rw [hres] at hdecl
        obtain ⟨ns, hns, hspec⟩ := hdecl
        simp only [entityPath] at hspec
        simp only
        have hpath : Form.xpathStr [root, "meta".toList, entityName] = entityPath root := by
          rw [entity_name_eq]; rfl
        cases hwr : walk true root 2 [] survey with
        | error e =>
          rcases walk_error hwr with ⟨w, rfl⟩ | ⟨m, rfl⟩
          · trivial
          · simp [Spec.form, hspec, saveto_rejections _ _ _ _ hwr]
        | ok sv =>
          simp only [hpath, hns]
          simp [Spec.form, hspec, saveto_bind _ _ _ _ hwr, features_on, version_attr_eq, xmlns_with_entity,
            meta_children_table]

example : (okVal (convert "data".toList id [] [[("dataset".toList, "trees".toList), ("label".toList, "x".toList)]]
    [[("type".toList, "text".toList), ("name".toList, "q".toList), ("bind::entities:saveto".toList, "p".toList)]])).map
    (·.saveto) = some [("/data/q".toList, "p".toList)] := by
  simp only [toList_lit rfl]
  decide +kernel

end Pyxv.C19
