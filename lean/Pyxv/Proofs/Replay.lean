/-!
# Replaying writes on a store that already holds every last write changes nothing

Stated over a small interface: a write `wr`, when two writes go to the same place (`same`), when a write finds its place
(`present`), and three laws — a write overwrites an earlier one to the same place, writes to different places commute
when the first finds its place, and places stay.  Instances: Python dict assignment on a flat dict
(`Process.asetAll_idem`) and on the nested `_translations` table (`C14.second_setup_noop`).
-/
namespace Pyxv

section replay
variable {S W : Type} (wr : S → W → S) (same : W → W → Prop) (present : S → W → Prop)
  (h_over : ∀ A x y, same x y → wr (wr A x) y = wr A y)
  (h_comm : ∀ A x m, present A x → ¬ same x m → wr (wr A x) m = wr (wr A m) x)
  (h_keep : ∀ A x m, present A x → present (wr A m) x)
include h_over h_comm h_keep

theorem replay_overwritten {x e1 : W} (hk : same x e1) : ∀ (ms : List W) (A : S), present A x →
    (ms ++ [e1]).foldl wr (wr A x) = (ms ++ [e1]).foldl wr A
  | [], A, _ => by simp only [List.nil_append, List.foldl_cons, List.foldl_nil]; exact h_over A x e1 hk
  | m :: ms, A, hp => by
    simp only [List.cons_append, List.foldl_cons]
    by_cases hs : same x m
    · rw [h_over A x m hs]
    · rw [h_comm A x m hp hs]
      exact replay_overwritten hk ms (wr A m) (h_keep A x m hp)

theorem replay_id : ∀ (ws : List W) (A : S), (∀ w ∈ ws, present A w) →
    (∀ pre w post, ws = pre ++ w :: post → (∀ w' ∈ post, ¬ same w w') → wr A w = A) → ws.foldl wr A = A
  | [], _, _, _ => rfl
  | e :: rest, A, hp, hf => by
    have ih := replay_id rest A (fun e' he' => hp e' (List.mem_cons_of_mem _ he'))
      fun pre e' post hr hfin => hf (e :: pre) e' post (by rw [hr]; rfl) hfin
    rw [List.foldl_cons]
    by_cases hfin : ∀ e' ∈ rest, ¬ same e e'
    · rw [hf [] e rest rfl hfin]
      exact ih
    · -- a later write to the same place overwrites this one
      obtain ⟨e1, he1, hk⟩ : ∃ e1 ∈ rest, same e e1 :=
        Classical.byContradiction fun hn => hfin fun e' he' hs => hn ⟨e', he', hs⟩
      obtain ⟨ms, post, rfl⟩ := List.append_of_mem he1
      have h1 := replay_overwritten wr same present h_over h_comm h_keep hk ms A (hp e List.mem_cons_self)
      rw [show ms ++ e1 :: post = (ms ++ [e1]) ++ post by simp, List.foldl_append] at ih ⊢
      rw [h1]
      exact ih

end replay
end Pyxv
