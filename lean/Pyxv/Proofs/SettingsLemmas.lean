import Pyxv.Model.SettingsRows
import Pyxv.Proofs.DictLemmas
import Pyxv.Proofs.SpellLemmas
/-!
# Lemmas for the settings slice (C11): its dicts, the root dict, the `Survey` slots, the sheet's loops

The model's own dict operations `aget` / `aset` / `aupdate`, and the specification's `agetLast`, are the shared
`AList.get` / `set` / `update` of `DictLemmas` (`aget_eq` … `agetLast_eq`); the dict facts below are read off from that theory.
Then the root dict key by key, the slot readers as the table's `Spec.txt` / `Spec.opt`, and what one accepted step of the
settings sheet's loops does.
-/
namespace Pyxv.Settings
open Pyxv

section AList
variable {κ β : Type} [DecidableEq κ]

def keys (l : List (κ × β)) : List κ := l.map (·.1)

@[simp] theorem aget_nil (k : κ) : aget k ([] : List (κ × β)) = none := rfl

theorem aget_cons (k k' : κ) (v : β) (r : List (κ × β)) :
    aget k ((k', v) :: r) = if k = k' then some v else aget k r := rfl

theorem aget_eq (k : κ) : ∀ l : List (κ × β), aget k l = AList.get k l :=
  AList.get_of_eqns rfl fun _ _ _ => rfl

theorem aset_eq (k : κ) (v : β) : ∀ l : List (κ × β), aset k v l = AList.set k v l :=
  AList.set_of_eqns rfl fun _ _ _ => rfl

theorem aupdate_eq (d e : List (κ × β)) : aupdate d e = AList.update d e := by
  simp only [aupdate, AList.update, aset_eq]

theorem agetLast_eq (k : κ) (l : List (κ × β)) : agetLast k l = AList.get k l.reverse := by
  induction l with
  | nil => rfl
  | cons p r ih =>
    rw [agetLast, ih, List.reverse_cons, AList.get_append, AList.get_cons]
    cases AList.get k r.reverse <;> rfl

theorem aget_aset (q k : κ) (v : β) (l : List (κ × β)) :
    aget q (aset k v l) = if q = k then some v else aget q l := by
  simp only [aget_eq, aset_eq, AList.get_set]

theorem aget_none_of_not_mem {k : κ} {l : List (κ × β)} (h : k ∉ keys l) : aget k l = none :=
  aget_eq k l ▸ AList.get_eq_none_iff.2 h

theorem aget_isSome_of_mem {k : κ} {l : List (κ × β)} (h : k ∈ keys l) : (aget k l).isSome :=
  aget_eq k l ▸ AList.get_isSome_iff.2 h

theorem aget_mem {k : κ} {v : β} {l : List (κ × β)} (h : aget k l = some v) : (k, v) ∈ l :=
  AList.mem_of_get (aget_eq k l ▸ h)

theorem aget_aupdate (q : κ) (d e : List (κ × β)) :
    aget q (aupdate d e) = match agetLast q e with | some x => some x | none => aget q d := by
  rw [aget_eq, aupdate_eq, agetLast_eq, aget_eq, AList.get_update]
  cases AList.get q e.reverse <;> rfl

theorem agetLast_eq_aget {k : κ} {l : List (κ × β)} (hn : (keys l).Nodup) : agetLast k l = aget k l := by
  rw [agetLast_eq, aget_eq, AList.get_reverse hn]

theorem nodup_aset {k : κ} {v : β} {l : List (κ × β)} (h : (keys l).Nodup) : (keys (aset k v l)).Nodup :=
  aset_eq k v l ▸ AList.nodup_set h

theorem nodup_aupdate {d e : List (κ × β)} (h : (keys d).Nodup) : (keys (aupdate d e)).Nodup :=
  aupdate_eq d e ▸ AList.nodup_update e h

theorem aset_of_aget_none {k : κ} {v : β} {l : List (κ × β)} (h : aget k l = none) :
    aset k v l = l ++ [(k, v)] := by
  rw [aset_eq, AList.set_of_not_mem v (AList.get_eq_none_iff.1 (aget_eq k l ▸ h))]

theorem agetLast_filter_key {κ β : Type} [DecidableEq κ] (P : κ → Bool) (q : κ) (l : List (κ × β)) :
    agetLast q (l.filter fun kv => P kv.1) = if P q then agetLast q l else none := by
  rw [agetLast_eq, agetLast_eq, ← List.filter_reverse, AList.get_filter]

end AList

theorem agetLast_none_of_no_key {k : Str} {l : Dict} (h : ∀ p ∈ l, p.1 ≠ k) : agetLast k l = none := by
  rw [agetLast_eq, AList.get_eq_none_iff]
  intro hm
  obtain ⟨p, hp, e⟩ := List.mem_map.1 hm
  exact h p (List.mem_reverse.1 hp) e

theorem aget_append_single {k k' : Str} {v : Str} (l : List (Str × Str)) :
    aget k (l ++ [(k', v)]) = match aget k l with | some x => some x | none => if k = k' then some v else none := by
  rw [aget_eq, aget_eq, AList.get_append]
  cases AList.get k l <;> rfl

theorem aget_setOpt (q : Str) (k : String) (v : Option Str) (l : List (Str × Str)) :
    aget q (setOpt aset k v l) = if q = k.toList ∧ v.isSome then v else aget q l := by
  cases v with
  | none => simp [setOpt]
  | some x =>
    simp only [setOpt, aget_aset]
    by_cases h : q = k.toList <;> simp [h]


theorem aget_jsonRoot {st : Dict} (hn : (keys st).Nodup) (a : Args) (k : Str) :
    aget k (jsonRoot st a) = match aget k st with | some x => some x | none => aget k (defaults st a) := by
  rw [jsonRoot, aget_aupdate, agetLast_eq_aget hn]
  cases aget k st <;> rfl

theorem slotOpt_eq (d : Dict) (k : String) : slotOpt d k = Spec.opt (aget k.toList d) := by
  unfold slotOpt Spec.opt
  split <;> simp_all

theorem slotStr_eq (d : Dict) (k : String) : slotStr d k = Spec.txt (aget k.toList d) := by
  unfold slotStr Spec.txt
  split <;> simp_all

theorem txt_jsonRoot2 {st : Dict} (hn : (keys st).Nodup) (a : Args) (ss : List (Str × Option Str)) (k : Str) {d : SVal}
    (hd : aget k (defaults st a) = some d) :
    Spec.txt (aget k (jsonRoot2 st a ss)) =
      match agetLast k (surveyAssigns ss) with
      | some x => Spec.txt (some x)
      | none => match aget k st with | some x => Spec.txt (some x) | none => Spec.txt (some d) := by
  rw [jsonRoot2, aget_aupdate, aget_jsonRoot hn, hd]
  cases agetLast k (surveyAssigns ss) <;> cases aget k st <;> rfl

theorem defaultFormName_eq : Pyxv.Gen.defaultFormName.toList = S "data" := by decide

theorem keys_cleanD (st : Dict) : keys (cleanD st) = keys st := by
  simp [keys, cleanD, List.map_map, Function.comp_def]

theorem aget_cleanD (t : Str) (d : Dict) : aget t (cleanD d) = (aget t d).map cleanSV := by
  rw [aget_eq, aget_eq]
  exact AList.get_map (fun _ => cleanSV) t d

theorem mergeAttr_ok {out out' : Dict} {k v : Str} (h : mergeAttr out k v = .ok out') :
    ∃ kv, (aget (S "attribute") out = none ∧ kv = [] ∨ aget (S "attribute") out = some (.d kv) ∧ aget k kv = none) ∧
      out' = aset (S "attribute") (.d (kv ++ [(k, v)])) out := by
  unfold mergeAttr at h
  split at h
  · cases h; exact ⟨[], .inl ⟨‹_›, rfl⟩, rfl⟩
  · split at h
    · cases h; exact ⟨_, .inr ⟨‹_›, ‹_›⟩, rfl⟩
    · cases h
  · cases h

theorem rowStep_ok {ks : Keys} {out out' : Dict} {hv : Str × Str} (h : rowStep ks out hv = .ok out') :
    (∃ t, aget hv.1 ks.hk = some [t] ∧ ((isColumn t && !isModelled t) || t == S "fields") = false ∧
      out' = aset t (.s hv.2) out) ∨
    (∃ k kv, aget hv.1 ks.hk = some [S "attribute", k] ∧
      (aget (S "attribute") out = none ∧ kv = [] ∨ aget (S "attribute") out = some (.d kv) ∧ aget k kv = none) ∧
      out' = aset (S "attribute") (.d (kv ++ [(k, hv.2)])) out) := by
  unfold rowStep at h
  split at h
  · cases h
  · split at h
    · cases h
    · cases h
    next t hk =>  -- one token: a scalar setting
      split at h
      · cases h
      next hc => cases h; exact .inl ⟨t, hk, Bool.eq_false_iff.mpr hc, rfl⟩
    next a k hk =>  -- two tokens: the `attribute` group
      split at h
      next ha =>
        rw [beq_iff_eq] at ha
        subst ha
        obtain ⟨kv, hkv, rfl⟩ := mergeAttr_ok h
        exact .inr ⟨k, kv, hk, hkv, rfl⟩
      · cases h
    · cases h

theorem headerStep_hk {useDC : Bool} {ks ks' : Keys} {h0 : Str} (h : headerStep useDC ks h0 = .ok ks') :
    ks'.hk = if (aget h0 ks.hk).isSome then ks.hk else aset h0 (processHeader useDC h0).2 ks.hk := by
  unfold headerStep at h
  split at h
  · cases h
  · split at h
    · cases h; simp [*]
    · rename_i hnone
      simp only [hnone, Option.isSome_none, Bool.false_eq_true, if_false]
      dsimp only at h
      split at h
      · split at h
        · cases h
        · cases h; rfl
      · cases h; rfl

theorem splitWs_eq (s : Str) : splitWs s = Spell.splitWs s :=
  Spell.splitWs_acc splitWsAux (fun _ => rfl) (fun _ _ _ => rfl) s

end Pyxv.Settings
