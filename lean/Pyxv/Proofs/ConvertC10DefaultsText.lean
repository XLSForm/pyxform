import Pyxv.Proofs.ConvertC10Defaults
/-!
# C10 for the end-to-end composition: the text the instance carries at a question's path

`lookup_instText`: under the hypothesis C10's own `exactly_once` carries (paths of questions pairwise different),
the text `Convert.instNode` writes into every childless node at a question's path — `lookupPath path defs`, absent
read as empty — is `Defaults.instText dynQ` of that question: the stored default iff it is static.
-/
namespace Pyxv.ConvertP
open Pyxv Pyxv.Form Pyxv.Rows Pyxv.Xml Pyxv.Asm Pyxv.Convert Pyxv.C01

theorem mem_defaultAt {x : DNode} {P : List Str} {v : Str} (h : (P, v) ∈ defaultAt x) :
    ∃ y ∈ qAt x, y.1 = P ∧ y.2.default = v := by
  obtain ⟨c, hd, p⟩ := x
  cases hd with
  | sec ct n b => cases h
  | q d =>
    refine ⟨(c.path, toQ d p), List.mem_singleton.2 rfl, ?_⟩
    simp only [defaultAt] at h
    split at h
    · next dv hdv =>
      split at h
      · cases List.mem_singleton.1 h
        exact ⟨rfl, by simp only [toQ, hdv, Option.getD_some]⟩
      · cases h
    · cases h

theorem mem_defaultsOfL_any : ∀ (pre : List Str) (ds : List DItem) (p : List Str) (v : Str),
    (p, v) ∈ defaultsOfL pre ds → ∃ x ∈ Defaults.qwp pre (toDefL ds), x.1 = p ∧ x.2.default = v := by
  intro pre ds p v h
  rw [← path_groups pre] at h ⊢
  rw [defaultsOfL_walk, List.mem_flatMap] at h
  obtain ⟨x, hx, h⟩ := h
  obtain ⟨y, hy, e⟩ := mem_defaultAt h
  exact ⟨y, by rw [qwp_toDefL, List.mem_flatMap]; exact ⟨x, hx, hy⟩, e⟩

theorem mem_defaultsOf_any : ∀ (pre : List Str) (d : DItem) (p : List Str) (v : Str), (p, v) ∈ defaultsOf pre d →
    ∃ x ∈ Defaults.qwp pre [toDef d], x.1 = p ∧ x.2.default = v :=
  fun pre d p v h => by
    simpa only [toDefL] using mem_defaultsOfL_any pre [d] p v (by rw [defaultsOfL, defaultsOfL, List.append_nil]; exact h)

theorem lookupPath_eq (p : List Str) : ∀ defs : List (List Str × Str), lookupPath p defs = AList.get p defs :=
  AList.get_of_eqns rfl fun _ _ _ => rfl

/-- **the text looked up at a question's path is the `Defaults` slice's `instText`** -/
theorem lookup_instText (pre : List Str) (ds : List DItem)
    (huniq : ((Defaults.qwp pre (toDefL ds)).map (·.1)).Nodup)
    (x : Defaults.Path × Defaults.Q) (hx : x ∈ Defaults.qwp pre (toDefL ds)) :
    (lookupPath x.1 (defaultsOfL pre ds)).getD [] = Defaults.instText dynQ x.2 := by
  rw [lookupPath_eq]
  cases hl : AList.get x.1 (defaultsOfL pre ds) with
  | none =>
    simp only [Option.getD_none]
    cases ht : Defaults.instText dynQ x.2 with
    | nil => rfl
    | cons c cs =>
      exfalso
      exact AList.get_eq_none_iff.1 hl (List.mem_map_of_mem (f := (·.1))
        ((mem_defaultsOfL_iff pre ds x.1 (c :: cs) (by simp)).2 ⟨x, hx, rfl, ht⟩))
  | some v =>
    simp only [Option.getD_some]
    have hm := AList.mem_of_get hl
    cases v with
    | nil =>
      obtain ⟨x', hx', h1, h2⟩ := mem_defaultsOfL_any pre ds _ _ hm
      have : x' = x := eq_of_map_nodup (·.1) huniq hx' hx h1
      subst this
      simp [Defaults.instText, h2]
    | cons c cs =>
      obtain ⟨x', hx', h1, h2⟩ := (mem_defaultsOfL_iff pre ds x.1 (c :: cs) (by simp)).1 hm
      have : x' = x := eq_of_map_nodup (·.1) huniq hx' hx h1
      subst this
      exact h2.symm

#print axioms lookup_instText

/-- **C10, instance text of the converted document** (`_partial`: question paths pairwise different is a hypothesis;
    `convert_c10_defaults`, ConvertC10DefaultsFull, derives it from `Rows17.validate17` and says the rest).  The tie of
    `ditems` / `defs` to the run is in `lookup_instText` at `defs = defaultsOfL [root] ditems`, not in this statement. -/
theorem convert_c10_defaults_text_partial (wb : Workbook) (doc : Node) (h : convertDoc wb = .ok doc) :
    ∃ (root : Str) (ditems : List DItem) (defs : List (List Str × Str)) (nts : List NT) (rt : Node),
      primaryRoot doc = some rt ∧ kidsOf rt = instNodes defs [root] nts ∧ ntOfL (kidsOf rt) = nts ∧
      (((Defaults.qwp [root] (toDefL ditems)).map (·.1)).Nodup →
        ∀ x ∈ Defaults.qwp [root] (toDefL ditems),
          (lookupPath x.1 defs).getD [] = Defaults.instText dynQ x.2) := by
  obtain ⟨f, lists, rows, drows, o, ditems, T⟩ := convertDoc_trace wb doc h
  obtain ⟨rt, h1, h2, h3⟩ := trace_instance T
  exact ⟨f.name, ditems, _, _, rt, h1, h2, h3, fun hu x hx => lookup_instText _ _ hu x hx⟩

#print axioms convert_c10_defaults_text_partial

-- `exDefs`: question paths are pairwise different, and the lookups give abc / nothing (dynamic) / 7
example : ((Defaults.qwp [l!"data"] (toDefL exDefs)).map (·.1)) =
    [[l!"data", l!"a"], [l!"data", l!"r", l!"n"], [l!"data", l!"r", l!"m"]] := by
  simp [exDefs, toDefL, toDef, toQ, Defaults.qwp]
example : lookupPath [l!"data", l!"a"] (defaultsOfL [l!"data"] exDefs) = some (l!"abc") ∧
    lookupPath [l!"data", l!"r", l!"n"] (defaultsOfL [l!"data"] exDefs) = none ∧
    lookupPath [l!"data", l!"r", l!"m"] (defaultsOfL [l!"data"] exDefs) = some (l!"7") := by
  rw [exDefs_table]; decide +kernel
-- the theorem applied to the example workbook
example : ∃ doc, convertDoc exWb = .ok doc ∧ ∃ root ditems defs nts rt,
    primaryRoot doc = some rt ∧ kidsOf rt = instNodes defs [root] nts ∧ ntOfL (kidsOf rt) = nts ∧
    (((Defaults.qwp [root] (toDefL ditems)).map (·.1)).Nodup →
      ∀ x ∈ Defaults.qwp [root] (toDefL ditems),
        (lookupPath x.1 defs).getD [] = Defaults.instText dynQ x.2) := by
  obtain ⟨doc, hd, -, -⟩ := ex_doc
  exact ⟨doc, hd, convert_c10_defaults_text_partial exWb doc hd⟩

end Pyxv.ConvertP
