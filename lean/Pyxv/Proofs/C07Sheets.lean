import Pyxv.Proofs.C07Rows
import Pyxv.Proofs.Literals
/-!
# C07 from the sheets, general form

`C07Rows` covers the one-level text columns of a flat form.  Here the composition with the header layer (C08) covers everything
the itext model reads from a row: the text columns, the media columns `media::<type>[::language]` and the bind-message columns
`bind::<key>[::language]` (the group column is `None` or a dict with unique keys none of whose values is `None`, each key holding
a flat value: `groupInv_colFold`), in nested sections of any depth, with selects and any number of lists.  `refs_exist_rows`:
every row meets C08's hypotheses ⟹ the survey built from the grouped rows satisfies all of C07.
-/
namespace Pyxv.C07Sheets
open Pyxv Pyxv.Headers Pyxv.C08 Pyxv.Itext Pyxv.C07Rows

theorem merge_ne_none (dk : Str) (a w : V) (hw : w.falsy = false) : merge dk a w ≠ .none := by
  have hwn : w ≠ .none := by rintro rfl; simp [V.falsy] at hw
  cases a with
  | none => rwa [merge_none_left]
  | str s =>
    -- an empty string gives `w`; else `w`, being truthy, wins as a string or is kept (extended) as a dict
    by_cases hs : s.isEmpty = true
    · simpa only [merge, hs, if_true] using hwn
    · cases w with
      | none => exact absurd rfl hwn
      | str t => simp only [merge, hs, hw, Bool.false_eq_true, if_false]; nofun
      | dict kb => simp only [merge, hs, hw, Bool.false_eq_true, if_false]; split <;> nofun
  | dict ka =>
    cases ka with
    | nil => simpa only [merge] using hwn
    | cons k v rest =>
      -- a non-empty dict stays a dict whatever is merged in
      cases w with
      | none => exact absurd rfl hwn
      | str t => simp only [merge, hw, Bool.false_eq_true, if_false]; split <;> nofun
      | dict kb => simp only [merge, hw, Bool.false_eq_true, if_false]; nofun

/-- a group column value: nothing, or a dict with unique keys none of which holds `None` -/
def GroupInv : V → Prop
  | .none => True
  | .str _ => False
  | .dict M => M.keys.Nodup ∧ ∀ k, M.has k = true → M.get k ≠ .none

theorem groupInv_step (dk : Str) (acc : V) (a : Str) (w : V) (hw : w.falsy = false) (h : GroupInv acc) :
    GroupInv (merge dk acc (.dict (.cons a w .nil))) := by
  have hwn : w ≠ .none := by intro e; subst e; simp [V.falsy] at hw
  cases acc with
  | none =>
    rw [merge_none_left]
    refine ⟨by simp [Kvs.keys], ?_⟩
    intro k hk
    have : k = a := by simpa [Kvs.has] using hk
    subst this
    simpa [Kvs.get] using hwn
  | str s => exact absurd h (by simp [GroupInv])
  | dict m =>
    rw [merge_dict_single]
    refine ⟨mergeTop_keys_nodup dk m a w h.1, ?_⟩
    intro k hk
    rw [mergeTop_get]
    by_cases hka : k = a
    · simp only [hka, if_true]
      exact merge_ne_none dk _ w hw
    · simp only [hka, if_false]
      rw [mergeTop_has] at hk
      have : m.has k = true := by simpa [hka] using hk
      exact h.2 k this

theorem nest_falsy (ts : List Str) {v : Str} (hv : v ≠ []) : (nest ts v).falsy = false := by
  cases ts with
  | nil => cases v with
    | nil => exact absurd rfl hv
    | cons _ _ => rfl
  | cons _ _ => rfl

theorem groupInv_colFold (dk : Str) (hk : List (Str × List Str)) (g : Str) : ∀ (row : List (Str × Str)) (acc : V),
    GroupInv acc → (∀ c ∈ row, c.2 ≠ []) →
    (∀ c ∈ row, ∀ t ts, lookup c.1 hk = some (t :: ts) → g = t → 1 ≤ ts.length ∧ ts.length ≤ 2) →
    GroupInv (colFold dk hk g acc row)
  | [], acc, h, _, _ => by simpa [colFold] using h
  | (hd, v) :: rest, acc, h, hne, hyp => by
    have ih := fun acc' ha => groupInv_colFold dk hk g rest acc' ha (fun c hc => hne c (by simp [hc]))
      (fun c hc => hyp c (by simp [hc]))
    unfold colFold
    split
    · next t ts hl =>
      split
      · next hq =>
        -- a cell of the group has a key after the group's name: it is merged in as `{key: …}`
        cases ts with
        | nil => have := (hyp (hd, v) (by simp) t [] hl hq).1; simp at this
        | cons a ts' => exact ih _ (groupInv_step dk acc a (nest ts' v) (nest_falsy ts' (hne (hd, v) (by simp))) h)
      · exact ih acc h
    · exact ih acc h

theorem subCells_texts (hk : List (Str × List Str)) (g k : Str) : ∀ (row : List (Str × Str)),
    (∀ c ∈ row, c.2 ≠ []) → ∀ d ∈ subCells hk g k row, d.2 ≠ []
  | [], _ => by simp [subCells]
  | (h, v) :: rest, hne => by
    have ih := subCells_texts hk g k rest (fun c hc => hne c (by simp [hc]))
    have hv : v ≠ [] := hne (h, v) (by simp)
    unfold subCells
    split
    · split
      · exact List.forall_mem_cons.mpr ⟨hv, ih⟩
      · exact ih
    · split
      · exact List.forall_mem_cons.mpr ⟨hv, ih⟩
      · exact ih
    · exact ih

def groupCols : List Str := ["media".toList, "bind".toList]

/-- C08's hypotheses for a whole row: the text columns as in `RowOk`, the group columns `media` and `bind` one level down -/
structure RowOkG (dk : Str) (hk : List (Str × List Str)) (row : List (Str × Str)) : Prop where
  text : RowOk dk hk textCols row
  groupShape : ∀ g ∈ groupCols, ∀ c ∈ row, ∀ t ts, lookup c.1 hk = some (t :: ts) → g = t → 1 ≤ ts.length ∧ ts.length ≤ 2
  groupDistinct : ∀ g ∈ groupCols, ∀ k, ((subCells hk g k row).map (·.1)).Nodup

/-- header layer, whole row: `process_row` succeeds and every column has the shape `wf` needs -/
theorem processRow_good {dk : Str} {hk : List (Str × List Str)} {row : List (Str × Str)} (h : RowOkG dk hk row) :
    ∃ out, processRow dk hk row = .ok out ∧ (∀ q ∈ textCols, Flat (out.get q)) ∧
      ∀ g ∈ groupCols, GroupInv (out.get g) ∧ ∀ k, Flat (getK (out.get g) k) := by
  obtain ⟨out, hout, hflat⟩ := processRow_flat h.text
  refine ⟨out, hout, hflat, fun g hg => ?_⟩
  rw [processRow_get h.text.headers h.text.noClash hout g]
  refine ⟨groupInv_colFold dk hk g row .none trivial h.text.nonEmpty (h.groupShape g hg), fun k => ?_⟩
  rw [group_colFold dk hk g k row .none trivial (h.groupShape g hg)]
  exact flat_colVal dk _ _ (by simpa [getK] using Flat.none) (subCells_texts hk g k row h.text.nonEmpty)
    (h.groupDistinct g hg k) (by intro hs; simp [getK, isStrV] at hs)

/-- the `media` dict of a grouped row as the builder hands it to the element -/
def mediaOfV : V → Option Media
  | .dict M => some (M.keys.map fun k => (k, txtOfV (M.get k)))
  | _ => none

/-- the message entries of the `bind` dict, in dict order -/
def msgsOfV : V → List (Str × Txt)
  | .dict M => (M.keys.filter fun k => msgKeys.contains k).map fun k => (k, txtOfV (M.get k))
  | _ => []

theorem txtOfV_ne_none {v : V} (h : v ≠ .none) : txtOfV v ≠ .none := by
  cases v with
  | none => exact absurd rfl h
  | str _ | dict _ => simp [txtOfV]

theorem mediaOfV_wf {v : V} (hi : GroupInv v) (hf : ∀ k, Flat (getK v k)) : mediaWf (mediaOfV v) = true := by
  cases v with
  | none | str _ => rfl
  | dict M =>
    simp only [mediaOfV, mediaWf, List.all_eq_true, List.mem_map, Bool.and_eq_true, bne_iff_ne, ne_eq]
    rintro kv ⟨k, hk, rfl⟩
    have hhas : M.has k = true := (Kvs.has_iff_mem_keys M k).mpr hk
    exact ⟨txtOfV_ne_none (hi.2 k hhas), txtOfV_wf (by simpa [getK] using hf k)⟩

theorem nodup_keys_msgsOfV {M : Kvs} (h : M.keys.Nodup) : (keys (msgsOfV (.dict M))).Nodup := by
  simpa [msgsOfV, keys, List.map_map, Function.comp_def] using h.sublist List.filter_sublist

theorem msgsOfV_wf {v : V} (hi : GroupInv v) (hf : ∀ k, Flat (getK v k)) :
    nodupB (keys (msgsOfV v)) = true ∧ ∀ kv ∈ msgsOfV v, msgKeys.contains kv.1 = true ∧ kv.2.wf = true := by
  cases v with
  | none | str _ => exact ⟨rfl, by simp [msgsOfV]⟩
  | dict M =>
    constructor
    · exact (nodupB_iff _).mpr (nodup_keys_msgsOfV hi.1)
    · intro kv hkv
      simp only [msgsOfV, List.mem_map, List.mem_filter] at hkv
      obtain ⟨k, ⟨_, hk⟩, rfl⟩ := hkv
      exact ⟨hk, txtOfV_wf (by simpa [getK] using hf k)⟩

/-- what a row is: a question with a body control, a select wired to a list, a group or a repeat -/
inductive Kind where
  | control
  | select (list : Str)
  | group
  | repeat

def Kind.cls : Kind → Cls
  | .control => .control
  | .select _ => .select
  | .group => .group
  | .repeat => .repeat

/-- the element the builder makes of a grouped row (all translatable slots; selects wired to their list).  This builder
step is a definition of this file, not part of `Model/` (the driver does not run it): `type` is `text` throughout, there
is no `appearance` (so no search() select arises), and a section keeps no guidance hint. -/
def rowElemK (kind : Kind) (name : Str) (out : Kvs) : ElemD :=
  { cls := kind.cls, name := name, type := "text".toList
    label := txtOfV (out.get "label".toList), hint := txtOfV (out.get "hint".toList)
    guidance := (match kind with | .group => .none | .repeat => .none | _ => txtOfV (out.get "guidance_hint".toList))
    media := mediaOfV (out.get "media".toList), msgs := msgsOfV (out.get "bind".toList)
    hasCalc := false, trigger := false, bodyless := false, flat := false, appearance := none
    itemset := (match kind with | .select l => some l | _ => none)
    list := (match kind with | .select l => l | _ => [])
    hasChoices := (match kind with | .select _ => true | _ => false) }

/-- a good grouped row: what `processRow_good` establishes -/
def GoodOut (out : Kvs) : Prop :=
  (∀ q ∈ textCols, Flat (out.get q)) ∧ ∀ g ∈ groupCols, GroupInv (out.get g) ∧ ∀ k, Flat (getK (out.get g) k)

theorem goodOut_of_processRow {dk : Str} {hk : List (Str × List Str)} {row : List (Str × Str)} {out : Kvs}
    (h : RowOkG dk hk row) (hout : processRow dk hk row = .ok out) : GoodOut out := by
  obtain ⟨o, ho, hg⟩ := processRow_good h
  rw [hout] at ho
  cases ho
  exact hg

theorem elemWf_rowElemK (kind : Kind) (name : Str) {out : Kvs} (h : GoodOut out) :
    elemWf (rowElemK kind name out) = true := by
  have h1 := txtOfV_wf (h.1 "label".toList (by simp [textCols]))
  have h2 := txtOfV_wf (h.1 "hint".toList (by simp [textCols]))
  have h3 : (rowElemK kind name out).guidance.wf = true := by
    cases kind <;> first | rfl | exact txtOfV_wf (h.1 "guidance_hint".toList (by simp [textCols]))
  obtain ⟨hm1, hm2⟩ := h.2 "media".toList (by simp [groupCols])
  obtain ⟨hb1, hb2⟩ := h.2 "bind".toList (by simp [groupCols])
  have h4 := mediaOfV_wf hm1 hm2
  obtain ⟨h5, h6⟩ := msgsOfV_wf hb1 hb2
  simp only [elemWf, Bool.and_eq_true, List.all_eq_true]
  exact ⟨⟨⟨⟨⟨h1, h2⟩, h3⟩, h4⟩, h5⟩, fun kv hkv => by
    have := h6 kv hkv
    rw [this.1, this.2]; exact ⟨rfl, rfl⟩⟩

/-- the survey sheet as a tree of grouped rows (sections nest) -/
inductive RowTree where
  | node (kind : Kind) (name : Str) (out : Kvs) (kids : List RowTree)

mutual
def elemOfTree : RowTree → Elem
  | .node k n o kids => .node (rowElemK k n o) (elemsOfTrees kids)
def elemsOfTrees : List RowTree → List Elem
  | [] => []
  | t :: ts => elemOfTree t :: elemsOfTrees ts
end

mutual
def GoodTree : RowTree → Prop
  | .node _ _ o kids => GoodOut o ∧ GoodTrees kids
def GoodTrees : List RowTree → Prop
  | [] => True
  | t :: ts => GoodTree t ∧ GoodTrees ts
end

mutual
theorem wf_flatten (pre : Str) (hid : Bool) : ∀ (t : RowTree), GoodTree t →
    ∀ f ∈ flatten pre hid (elemOfTree t), elemWf f.d = true
  | .node k n o kids, hg, f, hf => by
    simp only [elemOfTree, flatten, List.mem_cons, List.mem_append] at hf
    simp only [GoodTree] at hg
    rcases hf with rfl | hf | hf
    · exact elemWf_rowElemK k n hg.1
    · simp [tagFlats, rowElemK] at hf
    · exact wf_flattenL _ _ kids hg.2 f hf
theorem wf_flattenL (pre : Str) (hid : Bool) : ∀ (ts : List RowTree), GoodTrees ts →
    ∀ f ∈ flattenL pre hid (elemsOfTrees ts), elemWf f.d = true
  | [], _, f, hf => by simp [elemsOfTrees, flattenL] at hf
  | t :: ts, hg, f, hf => by
    simp only [elemsOfTrees, flattenL, List.mem_append] at hf
    simp only [GoodTrees] at hg
    rcases hf with hf | hf
    · exact wf_flatten pre hid t hg.1 f hf
    · exact wf_flattenL pre hid ts hg.2 f hf
end

def optOf (o : Kvs) : Opt := { label := txtOfV (o.get "label".toList), media := mediaOfV (o.get "media".toList) }

def listOfG (name : Str) (outs : List Kvs) : CList := { name := name, options := outs.map optOf }

/-- the survey of a form: the tree of survey rows and the choice lists, all as grouped rows -/
def treeSurvey (dl : Str) (trees : List RowTree) (ls : List (Str × List Kvs)) : Survey :=
  { defaultLanguage := dl
    lists := ls.map fun l => listOfG l.1 l.2
    root := .node rootD0 (elemsOfTrees trees) }

/-- `wf` is a theorem about the sheets: for any nesting, any selects and lists -/
theorem wf_treeSurvey (dl : Str) (trees : List RowTree) (ls : List (Str × List Kvs))
    (ht : GoodTrees trees) (hl : ∀ l ∈ ls, ∀ o ∈ l.2, GoodOut o) : wf (treeSurvey dl trees ls) = true := by
  simp only [wf, Bool.and_eq_true, List.all_eq_true]
  constructor
  · intro f hf
    exact wf_flattenL _ _ trees ht f (by simpa [flats, treeSurvey, rootD, rootKids] using hf)
  · intro l hlm o ho
    simp only [treeSurvey, List.mem_map] at hlm
    obtain ⟨l0, hl0, rfl⟩ := hlm
    simp only [listOfG, List.mem_map] at ho
    obtain ⟨o0, ho0, rfl⟩ := ho
    have hg := hl l0 hl0 o0 ho0
    obtain ⟨hm1, hm2⟩ := hg.2 "media".toList (by simp [groupCols])
    simp only [optWf, optOf, Bool.and_eq_true]
    exact ⟨txtOfV_wf (hg.1 "label".toList (by simp [textCols])), mediaOfV_wf hm1 hm2⟩

/-- survey rows as typed, nested: (kind, name, cells in column order, rows inside the section) -/
inductive RawTree where
  | node (kind : Kind) (name : Str) (row : List (Str × Str)) (kids : List RawTree)

mutual
def RawOk (dk : Str) (hk : List (Str × List Str)) : RawTree → Prop
  | .node _ _ row kids => RowOkG dk hk row ∧ RawsOk dk hk kids
def RawsOk (dk : Str) (hk : List (Str × List Str)) : List RawTree → Prop
  | [] => True
  | t :: ts => RawOk dk hk t ∧ RawsOk dk hk ts
end

mutual
def groupTree (dk : Str) (hk : List (Str × List Str)) : RawTree → Except Err RowTree
  | .node k n row kids =>
    match processRow dk hk row with
    | .error e => .error e
    | .ok o =>
      match groupTrees dk hk kids with
      | .error e => .error e
      | .ok ks => .ok (.node k n o ks)
def groupTrees (dk : Str) (hk : List (Str × List Str)) : List RawTree → Except Err (List RowTree)
  | [] => .ok []
  | t :: ts =>
    match groupTree dk hk t with
    | .error e => .error e
    | .ok g =>
      match groupTrees dk hk ts with
      | .error e => .error e
      | .ok gs => .ok (g :: gs)
end

mutual
theorem groupTree_good (dk : Str) (hk : List (Str × List Str)) : ∀ (t : RawTree), RawOk dk hk t →
    ∃ g, groupTree dk hk t = .ok g ∧ GoodTree g
  | .node k n row kids, h => by
    simp only [RawOk] at h
    obtain ⟨o, ho, hg⟩ := processRow_good h.1
    obtain ⟨ks, hks, hgk⟩ := groupTrees_good dk hk kids h.2
    exact ⟨.node k n o ks, by simp [groupTree, ho, hks], by simp only [GoodTree]; exact ⟨hg, hgk⟩⟩
theorem groupTrees_good (dk : Str) (hk : List (Str × List Str)) : ∀ (ts : List RawTree), RawsOk dk hk ts →
    ∃ gs, groupTrees dk hk ts = .ok gs ∧ GoodTrees gs
  | [], _ => ⟨[], rfl, trivial⟩
  | t :: ts, h => by
    simp only [RawsOk] at h
    obtain ⟨g, hg, hgg⟩ := groupTree_good dk hk t h.1
    obtain ⟨gs, hgs, hggs⟩ := groupTrees_good dk hk ts h.2
    exact ⟨g :: gs, by simp [groupTrees, hg, hgs], by simp only [GoodTrees]; exact ⟨hgg, hggs⟩⟩
end

def groupLists (dk : Str) (hk : List (Str × List Str)) : List (Str × List (List (Str × Str))) → Except Err (List (Str × List Kvs))
  | [] => .ok []
  | (n, rows) :: rest =>
    match processRows dk hk rows with
    | .error e => .error e
    | .ok os =>
      match groupLists dk hk rest with
      | .error e => .error e
      | .ok ls => .ok ((n, os) :: ls)

theorem groupLists_good {dk : Str} {hk : List (Str × List Str)} :
    ∀ (ls : List (Str × List (List (Str × Str)))), (∀ l ∈ ls, ∀ r ∈ l.2, RowOkG dk hk r) →
    ∃ gs, groupLists dk hk ls = .ok gs ∧ ∀ l ∈ gs, ∀ o ∈ l.2, GoodOut o
  | [], _ => ⟨[], rfl, by simp⟩
  | (n, rows) :: rest, h => by
    obtain ⟨os, hos, _, hgo⟩ := processRows_all (Q := GoodOut) (fun _ hr => processRow_good hr) rows (h (n, rows) (by simp))
    obtain ⟨gs, hgs, hgg⟩ := groupLists_good rest (fun l hl => h l (by simp [hl]))
    exact ⟨(n, os) :: gs, by simp [groupLists, hos, hgs], List.forall_mem_cons.mpr ⟨hgo, hgg⟩⟩

/-- C07 from the sheets.  The survey sheet as typed — rows nested in groups and repeats to any depth, selects wired to their
lists, text / media / bind-message cells in any number of languages and any column order — and any number of choice lists.
If every row meets C08's hypotheses (`RowOkG`), `process_row` accepts all rows and the survey built from the grouped rows
satisfies `refs_exist` and the whole oracle predicate `Itext.holds`.  No hypothesis about the built survey remains. -/
theorem refs_exist_rows (dl : Str) (hkS hkC : List (Str × List Str)) (trees : List RawTree)
    (lists : List (Str × List (List (Str × Str))))
    (hs : RawsOk dl hkS trees) (hc : ∀ l ∈ lists, ∀ r ∈ l.2, RowOkG dl hkC r) :
    ∃ gt gl, groupTrees dl hkS trees = .ok gt ∧ groupLists dl hkC lists = .ok gl ∧
      let x := treeSurvey dl gt gl
      (∀ r ∈ C07.refs x, (out x).translations ≠ [] ∧ ∀ t ∈ (out x).translations, r ∈ t.ids) ∧
      holds (obsOf x.defaultLanguage (out x)) = true := by
  obtain ⟨gt, hgt, hgood⟩ := groupTrees_good dl hkS trees hs
  obtain ⟨gl, hgl, hlgood⟩ := groupLists_good lists hc
  have hw := wf_treeSurvey dl gt gl hgood hlgood
  exact ⟨gt, gl, hgt, hgl, C07.refs_exist _ hw, C07.holds_out _ hw⟩

/-- second tokens of the two- and three-token headers -/
def subKeys (hk : List (Str × List Str)) : List Str :=
  hk.filterMap fun p => match p.2 with
    | [_, a] => some a
    | [_, a, _] => some a
    | _ => none

theorem subCells_nil (hk : List (Str × List Str)) (g k : Str) (hkk : k ∉ subKeys hk) :
    ∀ (row : List (Str × Str)), subCells hk g k row = []
  | [] => rfl
  | (h, v) :: rest => by
    have ih := subCells_nil hk g k hkk rest
    unfold subCells
    split
    next t a hl =>
      have hm : a ∈ subKeys hk := List.mem_filterMap.mpr ⟨(h, [t, a]), lookup_mem hl, rfl⟩
      have : ¬ (g = t ∧ k = a) := fun hh => hkk (hh.2 ▸ hm)
      simp [this, ih]
    next t a l hl =>
      have hm : a ∈ subKeys hk := List.mem_filterMap.mpr ⟨(h, [t, a, l]), lookup_mem hl, rfl⟩
      have : ¬ (g = t ∧ k = a) := fun hh => hkk (hh.2 ▸ hm)
      simp [this, ih]
    next => exact ih

def rowOkGB (dk : Str) (hk : List (Str × List Str)) (row : List (Str × Str)) : Bool :=
  rowOkB dk hk textCols row &&
  (groupCols.all fun g => row.all fun c =>
    match lookup c.1 hk with
    | some (t :: ts) => g != t || (decide (1 ≤ ts.length) && decide (ts.length ≤ 2))
    | _ => true) &&
  (groupCols.all fun g => (subKeys hk).all fun k => decide ((subCells hk g k row).map (·.1)).Nodup)

theorem rowOkGB_sound {dk : Str} {hk : List (Str × List Str)} {row : List (Str × Str)}
    (h : rowOkGB dk hk row = true) : RowOkG dk hk row := by
  simp only [rowOkGB, Bool.and_eq_true, List.all_eq_true] at h
  obtain ⟨⟨h1, h2⟩, h3⟩ := h
  refine ⟨rowOkB_sound h1, ?_, ?_⟩
  · intro g hg c hc t ts hl hgt
    have := h2 g hg c hc
    rw [hl] at this
    simp only [Bool.or_eq_true, bne_iff_ne, ne_eq, Bool.and_eq_true, decide_eq_true_eq] at this
    rcases this with h' | h'
    · exact absurd hgt h'
    · exact h'
  · intro g hg k
    by_cases hk' : k ∈ subKeys hk
    · simpa using h3 g hg k hk'
    · rw [subCells_nil hk g k hk' row]; simp

def hkG : List (Str × List Str) :=
  [("label::fr".toList, ["label".toList, "fr".toList]), ("label".toList, ["label".toList]),
   ("label::en".toList, ["label".toList, "en".toList]),
   ("hint::en".toList, ["hint".toList, "en".toList]), ("guidance_hint".toList, ["guidance_hint".toList]),
   ("image::fr".toList, ["media".toList, "image".toList, "fr".toList]),
   ("audio".toList, ["media".toList, "audio".toList]),
   ("constraint_message::en".toList, ["bind".toList, "jr:constraintMsg".toList, "en".toList]),
   ("constraint".toList, ["bind".toList, "constraint".toList]),
   ("required_message".toList, ["bind".toList, "jr:requiredMsg".toList])]

/-- a group with a translated label and an image in French only, containing a question with a translated
constraint message and a `${}` required message, and a select wired to list `yn` with audio -/
def treesG : List RawTree :=
  [.node .group "g".toList [("label::fr".toList, "Gf".toList), ("image::fr".toList, "g.png".toList)]
     [.node .control "a".toList
        [("label::fr".toList, "Qfr".toList), ("label".toList, "Q".toList), ("hint::en".toList, "h".toList),
         ("guidance_hint".toList, "gd".toList), ("constraint".toList, ". > 0".toList),
         ("constraint_message::en".toList, "positive".toList), ("required_message".toList, "need ${b}".toList)] [],
      .node (.select "yn".toList) "b".toList [("label".toList, "B".toList), ("audio".toList, "b.mp3".toList)] []]]

def listsG : List (Str × List (List (Str × Str))) :=
  [("yn".toList, [[("label::fr".toList, "Oui".toList), ("label::en".toList, "Yes".toList)],
                  [("label::en".toList, "No".toList), ("image::fr".toList, "n.png".toList)]])]

mutual
def rawOkB (dk : Str) (hk : List (Str × List Str)) : RawTree → Bool
  | .node _ _ row kids => rowOkGB dk hk row && rawsOkB dk hk kids
def rawsOkB (dk : Str) (hk : List (Str × List Str)) : List RawTree → Bool
  | [] => true
  | t :: ts => rawOkB dk hk t && rawsOkB dk hk ts
end

mutual
theorem rawOkB_sound (dk : Str) (hk : List (Str × List Str)) : ∀ (t : RawTree), rawOkB dk hk t = true → RawOk dk hk t
  | .node _ _ row kids, h => by
    simp only [rawOkB, Bool.and_eq_true] at h
    simp only [RawOk]
    exact ⟨rowOkGB_sound h.1, rawsOkB_sound dk hk kids h.2⟩
theorem rawsOkB_sound (dk : Str) (hk : List (Str × List Str)) : ∀ (ts : List RawTree), rawsOkB dk hk ts = true → RawsOk dk hk ts
  | [], _ => trivial
  | t :: ts, h => by
    simp only [rawsOkB, Bool.and_eq_true] at h
    simp only [RawsOk]
    exact ⟨rawOkB_sound dk hk t h.1, rawsOkB_sound dk hk ts h.2⟩
end

/-- the hypotheses of `refs_exist_rows` hold for these sheets and its conclusion is not vacuous: 8 references
(group label; label, hint and two bind messages of `a`; label of `b`; two itextIds) over 3 translations -/
example :
    (rawsOkB "default".toList hkG treesG && listsG.all fun l => l.2.all (rowOkGB "default".toList hkG)) = true ∧
    (match groupTrees "default".toList hkG treesG, groupLists "default".toList hkG listsG with
     | .ok gt, .ok gl =>
       let x := treeSurvey "default".toList gt gl
       (C07.refs x).length == 8 && (out x).translations.length == 3 &&
       (C07.refs x).contains "/data/g/a:jr:requiredMsg".toList && (C07.refs x).contains "/data/g:label".toList
     | _, _ => false) = true := by
  simp only [hkG, treesG, listsG, toList_lit rfl]
  decide +kernel

end Pyxv.C07Sheets
