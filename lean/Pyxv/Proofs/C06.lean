import Pyxv.Proofs.ChannelLemmas
import Pyxv.Proofs.Literals
import Pyxv.Generated.Tables
/-!
# C06 — user text is data, never markup: property theorems

Reader = `parseDoc ∘ renderDoc false` (the compact XForm).  For the pretty output `reader_shape` gives the tags and attribute
names, and `Pyxv.Xml.pretty_cosmetic_lax` (C15) says that the two trees differ only in white-space-only text between elements.
The statements make the reader's whitespace normalisation explicit: `normEol` (CR LF / CR → LF in character data),
`normAttrVal` (TAB/LF/CR → space in attribute values), boundary spaces and merging of adjacent text (`expectedLax`).
-/
namespace Pyxv.C06
open Pyxv.Xml Pyxv.Chan

/-! ## plain text node: `node(tag, text)` (labels, hints, itext values, choice labels / extra
columns in the secondary instance, static defaults, `h:title`) -/

/-- the reader finds exactly one text child holding the cell (line ends normalised) — or no child
    when the cell is empty — and nothing else: no element, no attribute -/
theorem text_channel (tag s : Str) (htag : isName tag = true) (hs : ∀ c ∈ s, isXmlChar c = true) :
    parseDoc (renderDoc false (nodeText tag s)) = some (.elem tag [] (chunk false (normEol s))) := by
  rw [render_parses_compact_lax (nodeText tag s)
    (by simp [nodeText, Node.WFLax, WFKidsLax, attrsWFLax, attrKeysNodup, htag, List.all_eq_true.mpr hs]) rfl]
  rw [expectedLax_nodeText]

theorem text_channel_exact (tag s : Str) (htag : isName tag = true)
    (hs : ∀ c ∈ s, isXmlChar c = true ∧ c ≠ '\r') :
    parseDoc (renderDoc false (nodeText tag s)) = some (.elem tag [] (chunk false s)) := by
  rw [text_channel tag s htag (fun c hc => (hs c hc).1), normEol_of_noCR s (fun c hc => (hs c hc).2)]

/-! ## attribute value: `node(tag, **{k: v})` (`jr:constraintMsg`, `jr:requiredMsg`, `version`,
`appearance`, `bind::x` / `body::x` values) -/

theorem attr_channel (tag k v : Str) (htag : isName tag = true) (hk : isName k = true)
    (hv : ∀ c ∈ v, isXmlChar c = true) :
    parseDoc (renderDoc false (nodeAttr tag k v)) = some (.elem tag [(k, normAttrVal v)] []) := by
  rw [render_parses_compact_lax (nodeAttr tag k v)
    (by simp [nodeAttr, Node.WFLax, WFKidsLax, attrsWFLax, attrKeysNodup, htag, hk, List.all_eq_true.mpr hv]) rfl]
  rw [nodeAttr, expectedLax_leaf]
  rfl

theorem attr_channel_exact (tag k v : Str) (htag : isName tag = true) (hk : isName k = true)
    (hv : ∀ c ∈ v, attrCharOk c = true) :
    parseDoc (renderDoc false (nodeAttr tag k v)) = some (.elem tag [(k, v)] []) := by
  have hall : v.all attrCharOk = true := List.all_eq_true.mpr hv
  rw [attr_channel tag k v htag hk (fun c hc => List.all_eq_true.mp (attrCharOk_xml hall) c hc), normAttrVal_ok v hall]

/-! ## total statements: with the character check of `validate_xml_document` every string is either
rejected with a PyXFormError (and then really contains a non-XML character) or recovered -/

theorem text_channel_total (tag s : Str) (htag : isName tag = true) :
    match checkedDoc (nodeText tag s) with
    | .ok n => parseDoc (renderDoc false n) = some (.elem tag [] (chunk false (normEol s)))
    | .pyxformError => ∃ c ∈ s, isXmlChar c = false
    | _ => False := by
  unfold checkedDoc
  by_cases h : s.all isXmlChar = true
  · simp only [nodeText, charsValid, charsValidKids, validChars, h, List.all_nil, Bool.and_self, if_true]
    exact text_channel tag s htag (List.all_eq_true.mp h)
  · simp only [nodeText, charsValid, charsValidKids, validChars, h, List.all_nil, Bool.and_true, Bool.true_and]
    simp only [Bool.false_eq_true, if_false]
    simpa [List.all_eq_true] using h

theorem attr_channel_total (tag k v : Str) (htag : isName tag = true) (hk : isName k = true) :
    match checkedDoc (nodeAttr tag k v) with
    | .ok n => parseDoc (renderDoc false n) = some (.elem tag [(k, normAttrVal v)] [])
    | .pyxformError => ∃ c ∈ v, isXmlChar c = false
    | _ => False := by
  unfold checkedDoc
  by_cases h : v.all isXmlChar = true
  · simp only [nodeAttr, charsValid, charsValidKids, validChars, h, List.all_cons, List.all_nil, Bool.and_self, if_true]
    exact attr_channel tag k v htag hk (List.all_eq_true.mp h)
  · simp only [nodeAttr, charsValid, charsValidKids, validChars, h, List.all_cons, List.all_nil, Bool.and_true]
    simp only [Bool.false_eq_true, if_false]
    simpa [List.all_eq_true] using h

-- a control character is rejected, not written
example : (match checkedDoc (nodeText "label".toList ['a', Char.ofNat 1, 'b']) with | .pyxformError => true | _ => false) = true := by
  decide
example : (match checkedDoc (nodeAttr "bind".toList "foo".toList ['a', Char.ofNat 0xFFFE]) with | .pyxformError => true | _ => false) = true := by
  decide
example : (match checkedDoc (nodeText "label".toList "<b> & ]]> \r 😀".toList) with | .ok _ => true | _ => false) = true := by
  decide

/-! ## attribute values that go through `insert_xpaths` (`jr:noAppErrorString`, `bind::x`, `body::x` …) -/

/-- `insert_xpaths` on a cell `t0 ${n1} t1 … ${nk} tk` (k ≥ 0): each reference becomes its xpath, nothing else happens -/
theorem insert_xpaths_cell (refs : List (Str × Str)) (c : Cell) (items : List (Str × Str))
    (hh : hasDollarBrace c.head = false) (ht : TailOk c.tail) (hr : resolve refs c.tail = some items) :
    insertXpaths refs c.text = some (c.head ++ itemsAttr items) := by
  have := (subRTo_tail refs c.tail items ht hr).text (tailText_head c.tail) c.head hh
  unfold insertXpaths
  rw [Scan.subRefs_eq]
  exact this _ (by simp [Cell.text])

/-- … and the reader recovers that string (TAB/LF/CR normalised) as the only attribute: the cell's text cannot add or
    rename an attribute or create a child -/
theorem attr_refs_channel (refs : List (Str × Str)) (tag k : Str) (c : Cell) (items : List (Str × Str))
    (htag : isName tag = true) (hk : isName k = true)
    (hh : hasDollarBrace c.head = false) (ht : TailOk c.tail) (hr : resolve refs c.tail = some items)
    (hx : ∀ ch ∈ c.head ++ itemsAttr items, isXmlChar ch = true) :
    ∃ v, insertXpaths refs c.text = some v ∧
      parseDoc (renderDoc false (nodeAttr tag k v)) =
        some (.elem tag [(k, normAttrVal (c.head ++ itemsAttr items))] []) :=
  ⟨_, insert_xpaths_cell refs c items hh ht hr, attr_channel tag k _ htag hk hx⟩

/-! ## the mixed channel: `insert_output_values` + `node(tag, …, toParseString=…)` -/

/-- the cell holds no instance() expression: its escaped text is short or does not contain `instance(` (then
    `replace_with_output` is the identity).  What the code does with cells that hold one: the witnesses in `C06Witness.lean`. -/
def NoInstanceExpr (text : Str) : Prop :=
  (9 < (escText text).length && isInfix "instance(".toList (escText text)) = false

theorem insertOutputValues_noInstance {refs : List (Str × Str)} {s : Str} (hd : s ≠ ['-']) (hi : NoInstanceExpr s) :
    insertOutputValues refs s = finishInsert refs s (escText s) (escText s) := by
  have hid : replaceWithOutputWith Lexer.activeRules refs (escText s) = .ok (escText s) :=
    replaceWithOutput_noInstance refs (escText s) hi
  unfold insertOutputValues insertOutputValuesWith
  simp only [hd, if_false, hid]

/-- a cell without `${` goes through `insert_output_values` unchanged and unflagged, whatever else it contains
    (`<output value="x"/>` typed by the author included) -/
theorem insert_no_ref (refs : List (Str × Str)) (s : Str) (h : hasDollarBrace s = false) (hi : NoInstanceExpr s) :
    insertOutputValues refs s = .ok (s, false) := by
  by_cases hd : s = ['-']
  · subst hd; rfl
  · have := (Scan.Scans.nil (repl := replOut refs)).escText (by simp) s h
    simp only [List.append_nil] at this
    -- with or without a `{`, the substituted string is the escaped text itself, so the flag is false
    rw [insertOutputValues_noInstance hd hi, finishInsert, subTo_iff.2 this _ (Nat.lt_succ_self _)]
    simp

theorem mixed_no_ref (refs : List (Str × Str)) (tag s : Str) (h : hasDollarBrace s = false) (hi : NoInstanceExpr s) :
    mixedChannel refs tag s = .ok (nodeText tag s) := by
  simp [mixedChannel_unfold, insert_no_ref refs s h hi]

/-- every resolved xpath is `ValOk` (pyxform builds it from validated names) -/
def ValsOk : List (Str × Str) → Prop
  | [] => True
  | (v, _) :: rest => ValOk v ∧ ValsOk rest

/-- the shape of a cell `t0 ${n1} t1 … ${nk} tk` with k ≥ 1: literal texts without `${` (ANY characters), names
    delimitable (`NameOk`), every name resolves, resolved xpaths free of markup characters -/
structure CellShape (refs : List (Str × Str)) (c : Cell) (items : List (Str × Str)) : Prop where
  head : hasDollarBrace c.head = false
  tail : TailOk c.tail
  resolved : resolve refs c.tail = some items
  vals : ValsOk items
  nonempty : c.tail ≠ []

/-- all literal texts of the cell pass `_validate_xml_chars` -/
def textsValid (head : Str) (items : List (Str × Str)) : Bool :=
  validChars head && items.all fun it => validChars it.2

/-- `CellShape` with all literal texts made of XML characters: the cells that are not rejected -/
structure CellOk (refs : List (Str × Str)) (c : Cell) (items : List (Str × Str)) : Prop where
  head : TextOk c.head
  tail : TailOk c.tail
  resolved : resolve refs c.tail = some items
  items : ItemsOk items
  nonempty : c.tail ≠ []

theorem itemsOk_iff : ∀ {items : List (Str × Str)},
    ItemsOk items ↔ ValsOk items ∧ (items.all fun it => validChars it.2) = true
  | [] => by simp [ItemsOk, ValsOk]
  | (v, t) :: rest => by
    simp only [ItemsOk, ValsOk, List.all_cons, Bool.and_eq_true, itemsOk_iff (items := rest), validChars, List.all_eq_true]
    constructor
    · rintro ⟨hv, ht, hvs, hts⟩; exact ⟨⟨hv, hvs⟩, ht, hts⟩
    · rintro ⟨⟨hv, hvs⟩, ht, hts⟩; exact ⟨hv, ht, hvs, hts⟩

theorem CellOk.shape {refs : List (Str × Str)} {c : Cell} {items : List (Str × Str)} (h : CellOk refs c items) :
    CellShape refs c items :=
  ⟨h.head.1, h.tail, h.resolved, (itemsOk_iff.1 h.items).1, h.nonempty⟩

theorem CellOk.texts_valid {refs : List (Str × Str)} {c : Cell} {items : List (Str × Str)} (h : CellOk refs c items) :
    textsValid c.head items = true := by
  unfold textsValid
  rw [Bool.and_eq_true]
  exact ⟨List.all_eq_true.mpr h.head.2, (itemsOk_iff.1 h.items).2⟩

theorem resolve_length (refs : List (Str × Str)) : ∀ (tail its : List (Str × Str)),
    resolve refs tail = some its → its.length = tail.length
  | [], its, h => by cases h; rfl
  | (n, t) :: rest, its, h => by
    obtain ⟨v, its', _, hres, rfl⟩ := resolve_cons h
    simp [resolve_length refs rest its' hres]

/-- `insert_output_values` returns the escaped text chunks interleaved with one `<output value="…" />` per reference,
    flagged as changed — whatever characters the texts hold -/
theorem insert_refs_shape (refs : List (Str × Str)) (c : Cell) (items : List (Str × Str))
    (hc : CellShape refs c items) (hi : NoInstanceExpr c.text) :
    insertOutputValues refs c.text = .ok (escText c.head ++ itemsMarkup items, true) := by
  obtain ⟨n, t, rest, htail⟩ : ∃ n t rest, c.tail = (n, t) :: rest := by
    cases h : c.tail with
    | nil => exact absurd h hc.nonempty
    | cons nt rest => exact ⟨nt.1, nt.2, rest, rfl⟩
  have hsub : Scan.Scans (replOut refs) (escText c.text) (escText c.head ++ itemsMarkup items) := by
    rw [Cell.text, escText_append]
    exact (subTo_tail refs c.tail items hc.tail hc.resolved).escText (escText_tailText_head c.tail) c.head hc.head
  have hne : c.text ≠ ['-'] := by
    simp only [Cell.text, htail, Cell.tailText, refMarkup]
    cases c.head with
    | nil => simp
    | cons x xs => simp
  have hbrace : (escText c.text).contains '{' = true := by
    simp [Cell.text, htail, Cell.tailText, refMarkup, escText_append, escText_cons, escTextChar]
  obtain ⟨v, items', _, _, rfl⟩ := resolve_cons (htail ▸ hc.resolved)
  -- the `changed` flag is `result ≠ escaped text`: after the escaped head the result goes on with the `<` of `<output`,
  -- the escaped text with the `$` of `${`
  have hneq : escText c.head ++ itemsMarkup ((v, t) :: items') ≠ escText c.text := by
    simp only [Cell.text, htail, Cell.tailText, refMarkup, escText_append, escText_cons, itemsMarkup, List.append_assoc]
    rw [outputMarkup_eq]
    simp [escTextChar]
  rw [insertOutputValues_noInstance hne hi, finishInsert, subTo_iff.2 hsub _ (Nat.lt_succ_self _), hbrace]
  simp [hneq]

theorem insert_refs (refs : List (Str × Str)) (c : Cell) (items : List (Str × Str))
    (hc : CellOk refs c items) (hi : NoInstanceExpr c.text) :
    insertOutputValues refs c.text = .ok (escText c.head ++ itemsMarkup items, true) :=
  insert_refs_shape refs c items hc.shape hi

theorem validChars_append (a b : Str) : validChars (a ++ b) = (validChars a && validChars b) := by
  simp [validChars]

theorem validChars_escText (s : Str) : validChars (escText s) = validChars s := by
  have h (c : Char) : (escTextChar c).all isXmlChar = isXmlChar c := by
    unfold escTextChar
    split
    · decide
    · decide
    · decide
    · simp
  simp only [validChars, escText, List.all_flatMap, h]

theorem validChars_outputMarkup (v : Str) : validChars (outputMarkup v) = validChars v := by
  have c1 : validChars "<output value=\"".toList = true := by decide
  have c2 : validChars "\" />".toList = true := by decide
  unfold outputMarkup
  rw [validChars_append, validChars_append, c1, c2, Bool.true_and, Bool.and_true]

theorem validChars_itemsMarkup : ∀ (items : List (Str × Str)), ValsOk items →
    validChars (itemsMarkup items) = items.all fun it => validChars it.2
  | [], _ => rfl
  | (v, t) :: rest, hv => by
    have hvv : validChars v = true := attrCharOk_xml hv.1.attrOk
    simp only [itemsMarkup, List.all_cons, validChars_append, validChars_outputMarkup, hvv, validChars_escText,
      validChars_itemsMarkup rest hv.2, Bool.true_and]

/-- total form (`utils.node` runs `_validate_xml_chars` before `parseString`): a cell with ANY characters in its
    literal texts is rejected with a PyXFormError exactly when some literal text holds a non-XML
    character, and otherwise becomes the DOM with the prescribed children; the re-parse never crashes -/
theorem mixed_channel_total (refs : List (Str × Str)) (tag : Str) (c : Cell) (items : List (Str × Str))
    (htag : isName tag = true) (hc : CellShape refs c items) (hi : NoInstanceExpr c.text) :
    mixedChannel refs tag c.text =
      if textsValid c.head items then .ok (.elem tag [] (cellKids true c.head items)) else .pyxformError := by
  have hv : validChars (escText c.head ++ itemsMarkup items) = textsValid c.head items := by
    rw [validChars_append, validChars_escText, validChars_itemsMarkup items hc.vals, textsValid]
  simp only [mixedChannel_unfold, insert_refs_shape refs c items hc hi, hv]
  cases ht : textsValid c.head items with
  | false => simp
  | true =>
    have h2 : validChars c.head = true ∧ (items.all fun it => validChars it.2) = true := by
      simpa [textsValid] using ht
    simp [nodeParsed_items tag c.head items htag (List.all_eq_true.mp h2.1) (itemsOk_iff.2 ⟨hc.vals, h2.2⟩)]

/-- the DOM that `node(tag, …, toParseString=True)` builds has exactly the children the cell prescribes: the literal
    chunks as text nodes and one `output` per reference, in order; user text creates, renames or removes nothing -/
theorem mixed_channel (refs : List (Str × Str)) (tag : Str) (c : Cell) (items : List (Str × Str))
    (htag : isName tag = true) (hc : CellOk refs c items) (hi : NoInstanceExpr c.text) :
    mixedChannel refs tag c.text = .ok (.elem tag [] (cellKids true c.head items)) := by
  rw [mixed_channel_total refs tag c items htag hc.shape hi, hc.texts_valid]
  rfl

theorem mixed_one_ref (refs : List (Str × Str)) (tag a n b xp : Str) (htag : isName tag = true)
    (ha : TextOk a) (hb : TextOk b) (hn : NameOk n) (hls : startsWith n lastSavedTag = false)
    (hx : lookup n refs = some xp) (hv : ValOk (' ' :: xp ++ [' ']))
    (hi : NoInstanceExpr (a ++ refMarkup n ++ b)) :
    mixedChannel refs tag (a ++ refMarkup n ++ b) =
      .ok (.elem tag [] (chunk true (normEol a) ++ outputNode (' ' :: xp ++ [' ']) :: chunk true (normEol b))) := by
  have hc : CellOk refs ⟨a, [(n, b)]⟩ [(' ' :: xp ++ [' '], b)] :=
    ⟨ha, ⟨hn, hb.1, trivial⟩, by simp [resolve, varReplName, hls, varRepl, hx], ⟨hv, hb.2, trivial⟩, by simp⟩
  have := mixed_channel refs tag ⟨a, [(n, b)]⟩ _ htag hc (by simpa [Cell.text, Cell.tailText] using hi)
  simpa [Cell.text, Cell.tailText, cellKids, itemsKids] using this

theorem normEol_xml (s : Str) (hs : ∀ c ∈ s, isXmlChar c = true) : ∀ c ∈ normEol s, isXmlChar c = true := fun c hc => by
  rcases mem_normEol hc with rfl | ⟨m, _⟩
  · decide
  · exact hs c m

theorem WFKidsLax_chunk (b : Bool) (s : Str) (hs : ∀ c ∈ s, isXmlChar c = true) :
    WFKidsLax (chunk b (normEol s)) = true := by
  have := normEol_xml s hs
  simp only [chunk]
  split
  · simp [WFKidsLax]
  · simp [WFKidsLax, Node.WFLax, List.all_eq_true.mpr this]

theorem WFLax_outputNode (v : Str) (hv : ValOk v) : (outputNode v).WFLax = true := by
  have h1 : isName tagOutput = true := by decide
  have h2 : isName attrValue = true := by decide
  rw [outputNode_eq]
  simp [Node.WFLax, WFKidsLax, attrsWFLax, attrKeysNodup, h1, h2, attrCharOk_xml hv.attrOk]

theorem WFKidsLax_items : ∀ (items : List (Str × Str)), ItemsOk items → WFKidsLax (itemsKids true items) = true
  | [], _ => by simp [itemsKids, WFKidsLax]
  | (v, t) :: rest, hok => by
    obtain ⟨hv, ht, hrest⟩ := hok
    simp only [itemsKids, WFKidsLax, WFKidsLax_append, WFLax_outputNode v hv, WFKidsLax_chunk true t ht,
      WFKidsLax_items rest hrest, Bool.and_self]

theorem shapes_chunk (b : Bool) (s : Str) : shapes (chunk b s) = [] := by
  simp only [chunk]
  split <;> simp [shapes, shape]

theorem shapes_cellKids (b : Bool) (head : Str) : ∀ (items : List (Str × Str)),
    shapes (cellKids b head items) = items.map fun _ => Shape.mk tagOutput [attrValue] []
  | [] => by simp [cellKids, itemsKids, shapes_chunk]
  | (v, t) :: rest => by
    have ih := shapes_cellKids b t rest
    simp only [cellKids, shapes_append, shapes_chunk, List.nil_append] at ih ⊢
    simp only [itemsKids, shapes, shape, outputNode_eq, shapes_append, shapes_chunk, ih]
    simp

/-- an XML reader applied to the written element reports the prescribed DOM with text chunks merged and the boundary
    spaces of `writexml` added … -/
theorem mixed_reader (tag head : Str) (items : List (Str × Str)) (htag : isName tag = true)
    (hh : ∀ c ∈ head, isXmlChar c = true) (hok : ItemsOk items) :
    parseDoc (renderDoc false (.elem tag [] (cellKids true head items))) =
      some (expectedLax (.elem tag [] (cellKids true head items))) := by
  refine render_parses_compact_lax _ ?_ rfl
  simp [Node.WFLax, attrsWFLax, attrKeysNodup, htag, cellKids, WFKidsLax_append, WFKidsLax_chunk true head hh,
    WFKidsLax_items items hok]

/-- … whose markup consists of the `tag` element and exactly one `output value=…` per reference —
    independent of every literal text of the cell -/
theorem mixed_shape (tag head : Str) (items : List (Str × Str)) :
    shape (expectedLax (.elem tag [] (cellKids true head items))) =
      [Shape.mk tag [] (items.map fun _ => Shape.mk tagOutput [attrValue] [])] := by
  rw [show expectedLax _ = view false _ from rfl, shape_view]
  simp [shape, shapes_cellKids]

/-- every channel, both output modes: the document an XML reader sees has the tags and attribute names of the DOM tree,
    whatever texts and attribute values it carries -/
theorem reader_shape (t : Node) (hwf : t.WFLax = true) (he : isElem t = true) (pretty : Bool) :
    ∃ u, parseDoc (renderDoc pretty t) = some u ∧ shape u = shape t :=
  ⟨_, renderDoc_parses t hwf he pretty, shape_view pretty t⟩

/-- two cells with the same reference skeleton give documents of the same shape (texts replaced by a
    benign placeholder: the second oracle of the check) -/
theorem shape_noninterference (refs : List (Str × Str)) (tag : Str) (c c' : Cell) (items items' : List (Str × Str))
    (htag : isName tag = true) (hc : CellOk refs c items) (hc' : CellOk refs c' items')
    (hi : NoInstanceExpr c.text) (hi' : NoInstanceExpr c'.text) (hskel : c.tail.length = c'.tail.length) :
    ∃ n n' u u', mixedChannel refs tag c.text = .ok n ∧ mixedChannel refs tag c'.text = .ok n' ∧
      parseDoc (renderDoc false n) = some u ∧ parseDoc (renderDoc false n') = some u' ∧ shape u = shape u' := by
  refine ⟨_, _, _, _, mixed_channel refs tag c items htag hc hi, mixed_channel refs tag c' items' htag hc' hi',
    mixed_reader tag c.head items htag hc.head.2 hc.items, mixed_reader tag c'.head items' htag hc'.head.2 hc'.items, ?_⟩
  rw [mixed_shape, mixed_shape]
  have h1 := resolve_length refs _ _ hc.resolved
  have h2 := resolve_length refs _ _ hc'.resolved
  have : items.length = items'.length := by omega
  simp only [List.map_const', this]

/-! ## the flattened-string form: the recovered string equals the cell up to the boundary spaces -/

theorem flatKids_append (L1 L2 : List Node) : flatKids (L1 ++ L2) = flatKids L1 ++ flatKids L2 :=
  append_of_eqns (g := fun k => flatKids [k]) rfl (fun k _ => by cases k <;> simp [flatKids]) L1 L2

theorem flatKids_chunk (b : Bool) (s : Str) : flatKids (chunk b s) = s := by
  cases s <;> simp [chunk, flatKids]

theorem flatKids_prepend (a : Str) (L : List Node) : flatKids (prepend a L) = a ++ flatKids L := by
  cases a with
  | nil => rfl
  | cons c a =>
    cases L with
    | nil => simp [prepend, flatKids]
    | cons n r => cases n <;> simp [prepend, flatKids]

theorem flatKids_mergeText (L : List Node) : flatKids (mergeText L) = flatKids L := by
  induction L with
  | nil => simp [mergeText]
  | cons n r ih =>
    cases n with
    | text b s => simp [mergeText_text, flatKids_prepend, ih, flatKids]
    | elem t a ks => simp [mergeText_elem, flatKids, ih]

theorem flatKids_normKids (L : List Node) : flatKids (normKids L) = flatKids L := by
  induction L with
  | nil => simp [normKids]
  | cons n r ih => cases n <;> simp [normKids, normNode_text, normNode_elem, flatKids, ih]

theorem noCR_normEol (s : Str) : (normEol s).all (fun c => c != '\r') = true := by
  rw [List.all_eq_true]
  intro c hc
  rcases mem_normEol hc with rfl | ⟨_, n⟩
  · decide
  · simpa using n

theorem noCRKids_chunk (b : Bool) (s : Str) : noCRKids (chunk b (normEol s)) = true := by
  simp only [chunk]
  split
  · simp [noCRKids]
  · simp [noCRKids, noCR, noCR_normEol s]

theorem noCRKids_items (b : Bool) : ∀ (items : List (Str × Str)), noCRKids (itemsKids b items) = true
  | [] => by simp [itemsKids, noCRKids]
  | (v, t) :: rest => by
    simp [itemsKids, noCRKids, noCR, outputNode, noCRKids_append, noCRKids_chunk, noCRKids_items b rest]

theorem normAttrsKids_chunk (b : Bool) (s : Str) : normAttrsKids (chunk b s) = chunk b s := by
  cases s <;> simp [chunk, normAttrsKids, normAttrs]

theorem normAttrsKids_items (b : Bool) : ∀ (items : List (Str × Str)), ItemsOk items →
    normAttrsKids (itemsKids b items) = itemsKids b items
  | [], _ => by simp [itemsKids, normAttrsKids]
  | (v, t) :: rest, hok => by
    obtain ⟨hv, _, hrest⟩ := hok
    simp [itemsKids, normAttrsKids, normAttrs, outputNode, normAttrList, normAttrVal_ok v hv.attrOk,
      normAttrsKids_append, normAttrsKids_chunk, normAttrsKids_items b rest hrest]

theorem withSpacesKids_chunk (b : Bool) (s : Str) : withSpacesKids (chunk b s) = chunk b s := by
  cases s <;> simp [chunk, withSpacesKids, withSpaces]

theorem withSpacesKids_items (b : Bool) : ∀ (items : List (Str × Str)),
    withSpacesKids (itemsKids b items) = itemsKids b items
  | [] => by simp [itemsKids, withSpacesKids]
  | (v, t) :: rest => by
    simp [itemsKids, withSpacesKids, withSpaces, outputNode, withSpacesKids_append, withSpacesKids_chunk,
      withSpacesKids_items b rest]

theorem flatKids_items (b : Bool) : ∀ (items : List (Str × Str)), flatKids (itemsKids b items) = flatItems items
  | [] => by simp [itemsKids, flatItems, flatKids]
  | (v, t) :: rest => by
    simp [itemsKids, flatItems, flatKids, outputNode, flatKids_append, flatKids_chunk, flatKids_items b rest]

/-- `mixed_reader` as one string (text as is, each `output` as `\x00 value \x00`): the children an XML reader finds are
    the cell's own flattening `flatCell` between the boundary spaces of `writexml` (at most one space each) -/
theorem mixed_flat (tag head : Str) (items : List (Str × Str)) (hok : ItemsOk items) :
    ∃ ks, expectedLax (.elem tag [] (cellKids true head items)) = .elem tag [] ks ∧
      flatKids ks =
        (if (cellKids true head items).any isText then
           leadSp (cellKids true head items) ++ flatCell head items ++ trailSp (cellKids true head items)
         else flatCell head items) := by
  have hK : normAttrsKids (cellKids true head items) = cellKids true head items := by
    simp [cellKids, normAttrsKids_append, normAttrsKids_chunk, normAttrsKids_items true items hok]
  have hW : withSpacesKids (cellKids true head items) = cellKids true head items := by
    simp [cellKids, withSpacesKids_append, withSpacesKids_chunk, withSpacesKids_items]
  have hF : flatKids (cellKids true head items) = flatCell head items := by
    simp [cellKids, flatCell, flatKids_append, flatKids_chunk, flatKids_items]
  have hna : normAttrs (.elem tag [] (cellKids true head items)) = .elem tag [] (cellKids true head items) := by
    simp [normAttrs, normAttrList, hK]
  have hcr : noCR (.elem tag [] (cellKids true head items)) = true := by
    simp [noCR, cellKids, noCRKids_append, noCRKids_chunk, noCRKids_items]
  rw [expectedLax_of_noCR _ hcr, hna, expected]
  simp only [withSpaces, hW]
  split
  · refine ⟨_, normNode_elem _ _ _, ?_⟩
    simp [flatKids_mergeText, flatKids_normKids, flatKids_append, ← chunk_false, flatKids_chunk, hF]
  · refine ⟨_, normNode_elem _ _ _, ?_⟩
    simp [flatKids_mergeText, flatKids_normKids, hF]

example (K : List Node) : leadSp K = [] ∨ leadSp K = [' '] := by
  unfold leadSp; split
  · exact Or.inl rfl
  · split
    · exact Or.inl rfl
    · split
      · exact Or.inr rfl
      · exact Or.inl rfl
example (K : List Node) : trailSp K = [] ∨ trailSp K = [' '] := by
  unfold trailSp; split
  · exact Or.inl rfl
  · split
    · exact Or.inl rfl
    · exact Or.inr rfl

/-! ## Tie to the current source: regenerated tables -/

/-- `utils.XML_TEXT_SUBS` of the working tree is exactly the table `escTextChar` implements … -/
theorem table_xmlTextSubs :
    Pyxv.Gen.xmlTextSubs = [("&", "&amp;"), ("<", "&lt;"), (">", "&gt;")] := by decide

/-- … entry by entry: every key is one character and `escTextChar` maps it to the table's value -/
theorem table_escTextChar :
    Pyxv.Gen.xmlTextSubs.all (fun kv =>
      match kv.1.toList with
      | [c] => escTextChar c == kv.2.toList
      | _ => false) = true := by decide

/-- the pattern `matchRef` / `takeToBrace` implement is the pattern the code compiles -/
theorem table_bracketedTagRegex :
    Pyxv.Gen.regexSources.lookup "BRACKETED_TAG_REGEX" = some "\\${(last-saved#)?(.*?)}" ∧
    Pyxv.Gen.regexSources.lookup "survey.BRACKETED_TAG_REGEX" = some "\\${(last-saved#)?(.*?)}" := by decide

/-- a literal of the source, read by the translator -/
def srcLit (k : String) : Str := ((Pyxv.Gen.c06Literals.lookup k).getD "?").toList

/-- the hand-written literals of the channel model are those of the source: the f-string of
    `_var_repl_output_function`, `LAST_SAVED_INSTANCE_NAME` and the two templates of `_var_repl_function`, the length
    threshold and the `instance(` literal of `instance_expression.py`, the `"-"` pass-through of `insert_output_values` -/
theorem table_c06Literals :
    outputMarkup "V".toList = srcLit "output_markup_prefix" ++ "V".toList ++ srcLit "output_markup_suffix" ∧
    varRepl [("a".toList, "/x".toList)] true "a".toList =
      some (" instance('".toList ++ srcLit "last_saved_instance_name" ++ "')/x ".toList) ∧
    srcLit "last_saved_prefix_template_present" = "True".toList ∧
    srcLit "var_repl_return_template_present" = "True".toList ∧
    srcLit "replace_min_length" = "9".toList ∧
    (match replaceWithOutputWith none [] (List.replicate 9 'a'), replaceWithOutputWith none [] (List.replicate 10 'a') with
     | .ok _, .unsupported _ => true | _, _ => false) = true ∧
    isInstanceCall ⟨"FUNC_CALL", srcLit "instance_call_literals", 0, 0⟩ = true ∧
    (match insertOutputValuesWith none [] (srcLit "insert_output_values_passthrough") with
     | .ok (x, false) => x == ['-'] | _ => false) = true := by
  decide +kernel

instance decValOk (v : Str) : Decidable (ValOk v) := by unfold ValOk; infer_instance
instance decValsOk : (l : List (Str × Str)) → Decidable (ValsOk l)
  | [] => isTrue trivial
  | (v, _) :: rest =>
    match decValOk v, decValsOk rest with
    | isTrue h1, isTrue h2 => isTrue ⟨h1, h2⟩
    | isFalse h1, _ => isFalse fun h => h1 h.1
    | _, isFalse h2 => isFalse fun h => h2 h.2

instance (t : Str) : Decidable (TextOk t) := by unfold TextOk; infer_instance
instance (n : Str) : Decidable (NameOk n) := by unfold NameOk; infer_instance
instance (s : Str) : Decidable (NoInstanceExpr s) := by unfold NoInstanceExpr; infer_instance

def exRefs : List (Str × Str) := [("a".toList, "/data/a".toList), ("b2".toList, "/data/g/b2".toList)]

/-- an adversarial label: markup, entity-, comment-, CDATA-like text, a typed `<output/>`, quotes, braces,
    a lone `$`, non-BMP and RTL characters, CR LF, two references (one directly at the end) -/
def exCell : Cell :=
  ⟨"A <b>&amp; \"q\" 's' ]]> <!-- x --> <output value=\"/data/a\"/> {y} $".toList,
   [("a".toList, " é 😀 ع\r\n&#x3c; }<![CDATA[ $".toList), ("b2".toList, [])]⟩

def exItems : List (Str × Str) :=
  [(" /data/a ".toList, " é 😀 ع\r\n&#x3c; }<![CDATA[ $".toList), (" /data/g/b2 ".toList, [])]

-- literals become character lists before evaluation (`toList_lit`)
theorem exCell_ok : CellOk exRefs exCell exItems := by
  unfold exRefs exCell exItems
  simp only [toList_lit rfl]
  exact ⟨by decide +kernel, ⟨by decide +kernel, by decide +kernel, by decide +kernel, by decide +kernel, trivial⟩,
    by decide +kernel, ⟨by decide +kernel, by decide +kernel, by decide +kernel, by decide +kernel, trivial⟩,
    by decide +kernel⟩

theorem exCell_noInstance : NoInstanceExpr exCell.text := by
  unfold exCell
  simp only [toList_lit rfl]
  decide +kernel

example : isName "label".toList = true := by decide +kernel

example : mixedChannel exRefs "label".toList exCell.text =
    .ok (.elem "label".toList [] (cellKids true exCell.head exItems)) :=
  mixed_channel exRefs _ exCell exItems (by decide +kernel) exCell_ok exCell_noInstance
example : insertOutputValues exRefs exCell.text = .ok (escText exCell.head ++ itemsMarkup exItems, true) :=
  insert_refs exRefs exCell exItems exCell_ok exCell_noInstance
example : parseDoc (renderDoc false (.elem "label".toList [] (cellKids true exCell.head exItems))) =
    some (expectedLax (.elem "label".toList [] (cellKids true exCell.head exItems))) :=
  mixed_reader _ _ _ (by decide +kernel) exCell_ok.head.2 exCell_ok.items

-- what the consumer reads: the typed `<output/>` and `<b>` are characters of a text node, the two references are the
-- only elements, CR LF became LF, `writexml` added one leading and one trailing space
theorem exCell_read :
    (match mixedChannel exRefs "label".toList exCell.text with
     | .ok n => parseDoc (renderDoc false n)
     | _ => none) =
    some (.elem "label".toList []
      [ .text false " A <b>&amp; \"q\" 's' ]]> <!-- x --> <output value=\"/data/a\"/> {y} $".toList,
        .elem "output".toList [("value".toList, " /data/a ".toList)] [],
        .text false " é 😀 ع\n&#x3c; }<![CDATA[ $".toList,
        .elem "output".toList [("value".toList, " /data/g/b2 ".toList)] [],
        .text false " ".toList ]) := by
  rw [mixed_channel exRefs _ exCell exItems (by decide +kernel) exCell_ok exCell_noInstance]
  unfold exCell exItems
  simp only [toList_lit rfl]
  decide +kernel

example : ∃ ks, expectedLax (.elem "label".toList [] (cellKids true exCell.head exItems)) = .elem "label".toList [] ks ∧
    flatKids ks = ' ' :: (flatCell exCell.head exItems ++ [' ']) := by
  obtain ⟨ks, h1, h2⟩ := mixed_flat "label".toList exCell.head exItems exCell_ok.items
  refine ⟨ks, h1, ?_⟩
  rw [h2]
  unfold exCell exItems
  simp only [toList_lit rfl]
  decide +kernel

example : parseDoc (renderDoc false (nodeText "hint".toList "]]> <a b='c'>&#38;&unknown; \r x".toList)) =
    some (.elem "hint".toList [] [.text false "]]> <a b='c'>&#38;&unknown; \n x".toList]) := by
  simp only [toList_lit rfl]
  rw [text_channel _ _ (by decide +kernel) (by decide +kernel)]
  decide +kernel
example : parseDoc (renderDoc false (nodeAttr "bind".toList "jr:constraintMsg".toList "a \"<b>\" &amp;\t'\n".toList)) =
    some (.elem "bind".toList [("jr:constraintMsg".toList, "a \"<b>\" &amp; ' ".toList)] []) := by
  simp only [toList_lit rfl]
  rw [attr_channel _ _ _ (by decide +kernel) (by decide +kernel) (by decide +kernel)]
  decide +kernel
example : mixedChannel exRefs "label".toList "<output value=\"/data/a\"/> $ {a} $a {".toList =
    .ok (nodeText "label".toList "<output value=\"/data/a\"/> $ {a} $a {".toList) := by
  simp only [toList_lit rfl]
  exact mixed_no_ref _ _ _ (by decide +kernel) (by decide +kernel)
example : mixedChannel exRefs "label".toList "x < ${a} & y".toList =
    .ok (.elem "label".toList [] [.text true "x < ".toList, outputNode " /data/a ".toList, .text true " & y".toList]) :=
  mixed_one_ref exRefs _ "x < ".toList "a".toList " & y".toList "/data/a".toList (by decide) (by decide) (by decide)
    (by decide) (by decide) (by decide) (by decide) (by decide)

-- a control character next to a reference is rejected by the character check of `utils.node`, not crashed on …
example : (match mixedChannel exRefs "label".toList ['a', Char.ofNat 1, ' ', '$', '{', 'a', '}'] with
    | .pyxformError => true | _ => false) = true := by decide +kernel
-- … and a writer without the check would produce a document the reader rejects:
example : parseDoc (renderDoc false (nodeText "label".toList ['a', Char.ofNat 1, 'b'])) = none := by decide +kernel
example : (match mixedChannel exRefs "label".toList "x ${zz}".toList with | .pyxformError => true | _ => false) = true := by
  decide +kernel
-- `${last-saved#name}` is covered by the same theorem (the marker is resolved by `varReplName`):
def exCellLS : Cell := ⟨"saved <b>: ".toList, [("last-saved#a".toList, " & now ".toList), ("a".toList, [])]⟩
def exItemsLS : List (Str × Str) :=
  [(" instance('__last-saved')/data/a ".toList, " & now ".toList), (" /data/a ".toList, [])]
theorem exCellLS_ok : CellOk exRefs exCellLS exItemsLS := by
  unfold exRefs exCellLS exItemsLS
  simp only [toList_lit rfl]
  exact ⟨by decide +kernel, ⟨by decide +kernel, by decide +kernel, by decide +kernel, by decide +kernel, trivial⟩,
    by decide +kernel, ⟨by decide +kernel, by decide +kernel, by decide +kernel, by decide +kernel, trivial⟩,
    by decide +kernel⟩
example : mixedChannel exRefs "hint".toList exCellLS.text =
    .ok (.elem "hint".toList [] (cellKids true exCellLS.head exItemsLS)) :=
  mixed_channel exRefs _ exCellLS exItemsLS (by decide +kernel) exCellLS_ok (by decide +kernel)

def exCellBad : Cell := ⟨['a', Char.ofNat 1, 'b', ' '], [("a".toList, " <c>".toList)]⟩
theorem exCellBad_shape : CellShape exRefs exCellBad [(" /data/a ".toList, " <c>".toList)] :=
  ⟨by decide +kernel, ⟨by decide +kernel, by decide +kernel, trivial⟩, by decide +kernel, ⟨by decide +kernel, trivial⟩, by decide +kernel⟩
example : (match mixedChannel exRefs "label".toList exCellBad.text with | .pyxformError => true | _ => false) = true := by
  rw [mixed_channel_total exRefs _ exCellBad _ (by decide +kernel) exCellBad_shape (by decide +kernel)]
  decide
example : mixedChannel exRefs "label".toList exCell.text = .ok (.elem "label".toList [] (cellKids true exCell.head exItems)) := by
  rw [mixed_channel_total exRefs _ exCell exItems (by decide +kernel) exCell_ok.shape exCell_noInstance, exCell_ok.texts_valid]
  rfl

example : insertXpaths exRefs exCell.text = some (exCell.head ++ itemsAttr exItems) :=
  insert_xpaths_cell exRefs exCell exItems exCell_ok.head.1 exCell_ok.tail exCell_ok.resolved
example : ∃ v, insertXpaths exRefs exCell.text = some v ∧
    parseDoc (renderDoc false (nodeAttr "bind".toList "jr:noAppErrorString".toList v)) =
      some (.elem "bind".toList [("jr:noAppErrorString".toList, normAttrVal (exCell.head ++ itemsAttr exItems))] []) :=
  attr_refs_channel exRefs _ _ exCell exItems (by decide +kernel) (by decide +kernel) exCell_ok.head.1 exCell_ok.tail
    exCell_ok.resolved (by unfold exCell exItems; simp only [toList_lit rfl]; decide +kernel)

#print axioms mixed_channel
#print axioms mixed_channel_total
#print axioms shape_noninterference
#print axioms text_channel
#print axioms attr_channel

end Pyxv.C06
