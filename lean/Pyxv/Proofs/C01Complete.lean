import Pyxv.Proofs.C01Valid
import Pyxv.Proofs.BaseLemmas
/-!
# C01: the validator is complete on the modelled fragment

`validate_xml_document` never rejects a document assembled from a header whose user-supplied names are
names in pyxform's own sense (`is_xml_tag`) with declared prefixes and whose strings are XML characters,
around parts that are themselves valid in the scope they are placed in.
-/
namespace Pyxv.C01
open Pyxv Pyxv.Xml Pyxv.Asm Pyxv.Rows

theorem isXmlTag_xmlns (k : Str) (h : ncName k = some []) : isXmlTag (xmlnsColon ++ k) = true :=
  (isXmlTag_iff _).mpr (Or.inr ⟨"xmlns".toList, k,
    ⟨['x'], "mlns".toList, .char (by decide), .of_all (by decide), rfl⟩, (ncName_nil_iff k).mp h, rfl⟩)

/-- what `validate_xml_document` asks of one attribute, given the scope of its element -/
def attrValid (S : List Str) (kv : Str × Str) : Bool :=
  pyDeclOk kv && nameValid S kv.1 && kv.2.all isXmlChar

theorem nameValid_mono (X S : List Str) (q : Str) (h : nameValid S q = true) : nameValid (X ++ S) q = true := by
  unfold nameValid at *
  rw [Bool.and_eq_true] at h ⊢
  refine ⟨h.1, ?_⟩
  have h2 := h.2
  split at h2
  · exact prefixOk_mono X S _ h2
  · rfl

theorem attrValid_mono (X S : List Str) (kv : Str × Str) (h : attrValid S kv = true) : attrValid (X ++ S) kv = true := by
  simp only [attrValid, Bool.and_eq_true] at h ⊢
  exact ⟨⟨h.1.1, nameValid_mono X S kv.1 h.1.2⟩, h.2⟩

theorem attrValid_intro (S : List Str) (k v : Str) (h1 : pyDeclOk (k, v) = true) (h2 : nameValid S k = true)
    (h3 : v.all isXmlChar = true) : attrValid S (k, v) = true := by
  simp [attrValid, h1, h2, h3]

def validCheck : TreeCheck (List Str) where
  node := validDoc
  kids := validKids
  elem S t a :=
    a.all pyDeclOk && nameValid S t && a.all (fun kv => nameValid S kv.1 && kv.2.all isXmlChar) && elemPrefixOk t
  ext S a := a.filterMap pyDeclared ++ S
  ext_nil _ := rfl
  -- `validDoc` tests `elemPrefixOk t` after the children
  node_elem S t a ks := by simp only [validDoc]; exact Bool.and_right_comm _ _ _
  kids_nil _ := rfl
  kids_cons _ _ _ := rfl

theorem validCheck_elem {S : List Str} {t : Str} {a : List (Str × Str)} (ha : a.all (attrValid S) = true)
    (ht : nameValid S t = true) (he : elemPrefixOk t = true) : validCheck.elem S t a = true := by
  simp only [validCheck, Bool.and_eq_true]
  refine ⟨⟨⟨?_, ht⟩, ?_⟩, he⟩
  · exact all_imp (fun kv h => by simp only [attrValid, Bool.and_eq_true] at h; exact h.1.1) ha
  · exact all_imp (fun kv h => by
      simp only [attrValid, Bool.and_eq_true] at h ⊢; exact ⟨h.1.2, h.2⟩) ha

theorem validKids_cons {sc : List Str} {k : Node} {ks : List Node} (h1 : validDoc sc k = true)
    (h2 : validKids sc ks = true) : validKids sc (k :: ks) = true := by
  simp [validKids, h1, h2]

theorem pyDeclOk_of_not_decl (k v : Str) (h : isNsDecl k = false) : pyDeclOk (k, v) = true := by
  have h' : startsWith k xmlnsColon = false := by
    simp only [isNsDecl, Bool.or_eq_false_iff] at h; exact h.2
  simp [pyDeclOk, pyDeclared_none h', h]

/-- the default-namespace attribute of the instance root (`instance_xmlns`) -/
theorem pyDeclOk_default (v : Str) (h : reservedNs v = false) : pyDeclOk ("xmlns".toList, v) = true := by
  have h' : startsWith "xmlns".toList xmlnsColon = false := by decide +kernel
  simp only [pyDeclOk, pyDeclared_none h', h, Bool.and_false, Bool.not_false, Bool.and_self]

theorem Static.attrValid {S : List Str} {q : Str} (st : Static S q) {v : Str} (hv : v.all isXmlChar = true) :
    attrValid S (q, v) = true :=
  attrValid_intro S q v (pyDeclOk_of_not_decl q v st.decl) st.py hv

theorem mem_pyScope (a : List (Str × Str)) (p v : Str) (h : lookup (xmlnsColon ++ p) a = some v) :
    (a.filterMap pyDeclared).contains p = true := by
  simp only [List.contains_eq_mem, decide_eq_true_eq, List.mem_filterMap]
  exact ⟨_, lookup_mem h, pyDeclared_xmlns p v⟩

theorem pyScope_static (f : Fields) {p : Str} (hp : p ∈ staticPrefixes) :
    ((htmlAttrs f).filterMap pyDeclared).contains p = true := by
  obtain ⟨_, v, hv⟩ := static_prefix_kept f hp
  exact mem_pyScope _ p v hv

theorem pyScope_entities (f : Fields) (hef : f.entityFeatures = true) :
    ((htmlAttrs f).filterMap pyDeclared).contains "entities".toList = true := by
  obtain ⟨v, hv⟩ := lookup_entities_htmlAttrs f hef
  exact mem_pyScope _ _ v hv

/-- one `prefix=uri` token as `validate_xml_document` wants it: the prefix is an NCName in pyxform's
    sense, neither `xml` nor `xmlns`; the URI (quotes removed) is non-empty XML characters -/
def tokValid (kv : Str × Str) : Bool :=
  ncName kv.1 == some [] && kv.1 != "xml".toList && kv.1 != "xmlns".toList &&
  !(stripQuotes kv.2).isEmpty && (stripQuotes kv.2).all isXmlChar && !reservedNs (stripQuotes kv.2)

theorem attrValid_token (S : List Str) (kv : Str × Str) (h : tokValid kv = true) :
    attrValid S (xmlnsColon ++ kv.1, stripQuotes kv.2) = true := by
  simp only [tokValid, Bool.and_eq_true, beq_iff_eq, bne_iff_ne, Bool.not_eq_true'] at h
  obtain ⟨⟨⟨⟨⟨h1, h2⟩, h3⟩, h4⟩, h5⟩, h6⟩ := h
  refine attrValid_intro S _ _ ?_ ?_ h5
  · simp only [pyDeclOk, pyDeclared_xmlns, h4, h6, Bool.not_false, Bool.true_and, Bool.and_eq_true, bne_iff_ne, Bool.and_false,
      Bool.not_false, and_true]
    exact ⟨h2, h3⟩
  · have hp : partitionColon (xmlnsColon ++ kv.1) = ("xmlns".toList, true) := by
      rw [xmlnsColon_join]; exact partitionColon_join _ _ xmlns_nocolon
    simp [nameValid, isXmlTag_xmlns kv.1 h1, hp]

theorem nsmap_attrValid (S : List Str) : NSMAP.all (attrValid S) = true := by
  have h0 : NSMAP.all (attrValid []) = true := by rw [nsmap_chars]; decide +kernel
  refine all_imp (fun x hx => ?_) h0
  have := attrValid_mono S [] x hx
  rwa [List.append_nil] at this

theorem htmlAttrs_valid (f : Fields) (h : (nsPairs (nsString f)).all tokValid = true) (S : List Str) :
    (htmlAttrs f).all (attrValid S) = true :=
  all_htmlAttrs _ f (nsmap_attrValid S) fun kv hkv _ => attrValid_token S kv ((List.all_eq_true.mp h) kv hkv)

/-- the scope Python computes on `<h:html>` … -/
def pyS (f : Fields) : List Str := (htmlAttrs f).filterMap pyDeclared
/-- … and below the primary instance root -/
def pyR (f : Fields) : List Str := (rootAttrs f).filterMap pyDeclared ++ pyS f

/-- a header the validator has no reason to reject -/
structure HeaderValid (f : Fields) : Prop where
  tokens : (nsPairs (nsString f)).all tokValid = true
  attrib : f.attrib.all (attrValid (pyR f)) = true
  instAttrs : f.instAttrs.all (attrValid (pyR f)) = true
  name : nameValid (pyR f) f.name = true
  nameEl : elemPrefixOk f.name = true
  xmlnsFree : reservedNs f.instanceXmlns = false
  title : f.title.all isXmlChar = true
  idString : f.idString.all isXmlChar = true
  style : f.style.all isXmlChar = true
  instanceXmlns : f.instanceXmlns.all isXmlChar = true
  version : f.version.all isXmlChar = true
  pfx : f.pfx.all isXmlChar = true
  delimiter : f.delimiter.all isXmlChar = true
  url : f.submissionUrl.all isXmlChar = true
  key : f.publicKey.all isXmlChar = true
  send : f.autoSend.all isXmlChar = true
  del : f.autoDelete.all isXmlChar = true

/-- parts the validator has no reason to reject, in the scope where they are placed -/
structure PartsValid (f : Fields) (itext : Option (List Node)) (rk rest bk : List Node) : Prop where
  itext : ∀ ks, itext = some ks → validKids (pyS f) ks = true
  rk : validKids (pyR f) rk = true
  rest : validKids (pyS f) rest = true
  bk : validKids (pyS f) bk = true

/-- **Completeness of the validation pass on the modelled fragment.**  A document assembled from a valid header
    around valid parts is accepted: every static name of the frame is a name for pyxform's own regex, and every prefix
    the frame uses is in the scope Python computes (with entities `get_nsmap` declares `entities` itself). -/
theorem validator_complete (f : Fields) (itext : Option (List Node)) (rk rest bk : List Node)
    (H : HeaderValid f) (P : PartsValid f itext rk rest bk) :
    validDoc [] (assemble f itext rk rest bk) = true := by
  have hodk : (pyS f).contains "odk".toList = true := pyScope_static f static_odk
  have N : FrameNames (pyS f) := frameNames (pyScope_static f static_h) hodk
  have NR : FrameNames (pyR f) := frameNames (contains_of_right _ _ _ (pyScope_static f static_h)) (contains_of_right _ _ _ hodk)
  have valid : ∀ {S : List Str} {l : List (Str × Str)}, l.all (fun kv => isStatic S kv.1) = true →
      l.all (fun kv => kv.2.all isXmlChar) = true → l.all (attrValid S) = true :=
    all_and fun _ h hv => (static_of h).attrValid hv
  have hsubA := valid (subAttrs_static f (pyScope_static f static_orx)) (subAttrs_chars f H.url H.key H.send H.del)
  have hmodelA := valid (modelAttrs_static f hodk (pyScope_entities f)) (modelAttrs_chars f)
  have hbodyA := valid (bodyAttrs_static (pyS f) f.style) (all_bodyAttrs _ _ H.style)
  have hrootA : (rootAttrs f).all (attrValid (pyR f)) = true :=
    all_rootAttrs _ f H.instAttrs H.attrib (NR.id.attrValid H.idString)
      (attrValid_intro _ _ _ (pyDeclOk_default _ H.xmlnsFree) rfl H.instanceXmlns)
      (NR.version.attrValid H.version) (NR.pfx.attrValid H.pfx) (NR.delimiter.attrValid H.delimiter)
  have el : ∀ {S : List Str} {t : Str} {a : List (Str × Str)}, a.all (attrValid S) = true → Static S t →
      validCheck.elem S t a = true := fun ha st => validCheck_elem ha st.py st.el
  exact validCheck.assemble_ok (s := []) (List.append_nil _)
    (List.append_left_eq_self.mpr (modelAttrs_scope f).1) (List.append_left_eq_self.mpr (subAttrs_scope f).1) rfl
    (List.append_left_eq_self.mpr (bodyAttrs_scope f.style).1)
    (el (htmlAttrs_valid f H.tokens _) N.html) (el rfl N.head) (el rfl N.title) H.title
    (el (all_setAttrs _ _ [] rfl hmodelA) N.model)
    (el (all_setAttrs _ _ [] rfl hsubA) N.submission)
    (el rfl N.itext) P.itext (el rfl N.inst)
    (validCheck_elem hrootA H.name H.nameEl) P.rk P.rest
    (el hbodyA N.body) P.bk

#print axioms validator_complete

/-- **soundness and completeness together**: for a valid header and valid, `]`-free, DOM parts the
    conversion tail succeeds *and* the text it returns satisfies C01 as the oracle states it -/
theorem valid_input_accepted_and_holds (f : Fields) (itext : Option (List Node)) (rk rest bk : List Node)
    (H : HeaderValid f) (P : PartsValid f itext rk rest bk)
    (hb : noBrTree (assemble f itext rk rest bk) = true)
    (hd : PartsDom itext rk rest bk) (pretty : Bool) :
    validDoc [] (assemble f itext rk rest bk) = true ∧
    holds (renderDoc pretty (assemble f itext rk rest bk)) (normAttrVal f.idString) = true :=
  ⟨validator_complete f itext rk rest bk H P,
   accepted_assembled_holds f itext rk rest bk (validator_complete f itext rk rest bk H P) hb hd pretty⟩

theorem exHeaderValid : HeaderValid exFields := by
  have hS := exHtml_chars
  unfold exFields at hS ⊢
  repeat rw [String.toList_ofList] at hS
  repeat rw [String.toList_ofList]
  constructor <;> try simp only [pyR, pyS, hS]
  all_goals decide +kernel
theorem exPartsValid : PartsValid exFields exItext exRootKids exRest exBody := by
  constructor
  · rintro _ ⟨⟩; simp only [pyS, exHtml_chars]; decide +kernel
  all_goals simp only [pyR, pyS, exHtml_chars]; decide +kernel
example : validDoc [] (assemble exFields exItext exRootKids exRest exBody) = true :=
  validator_complete _ _ _ _ _ exHeaderValid exPartsValid

end Pyxv.C01
