import Pyxv.Proofs.C02
import Pyxv.Proofs.FormFlatLemmas
/-!
# C02 with row-level `flat` groups

About `FormFlat.formOutFlat` (rows → begin/end stack with the `flat` flag → flat-aware tree → validation that looks
through flat groups → instance / bind nodesets / body refs), for every sheet: flat groups at any depth, nested in each
other or in plain groups.
-/
namespace Pyxv.C02
open Pyxv Pyxv.Form Pyxv.Rows Pyxv.FormFlat

theorem wf_liftItem : (it : FItem) → wfItem it = true → wfL (liftItem it) = true := fun it h => by
  simpa [liftL] using wf_liftL [it] (by simpa [wfFL] using h)

/-- **Closure with flat groups**: in a sheet the flat-aware pipeline accepts, every bind nodeset and every body `ref` /
    `nodeset` (no segment for a flat group) resolves to a node of the primary instance (no node for a flat group). -/
theorem refs_resolve_flat (root : Str) (lists : List Str) (rows : List Cells) (settings : Cells) (o : FlatOut)
    (h : formOutFlat root lists rows settings = .ok o) :
    ∀ p ∈ o.binds ++ o.body, resolves o.inst p = true := by
  obtain ⟨all, hwf, _, _, _, rfl, hi, hb, hbody⟩ := formOutFlat_ok root lists rows settings o h
  have hw := wf_liftL _ hwf
  rw [hi, hb, hbody]
  simp only [liftL_withMetaF, withMeta_eq] at hw ⊢
  exact closure root _ _ hw

/-- **Sibling uniqueness looks through flat groups**: in an accepted sheet sibling names are pairwise different, even
    ignoring case, with the children of a flat group counted at the level of its nearest non-flat ancestor. -/
theorem siblings_unique_flat (root : Str) (lists : List Str) (rows : List Cells) (settings : Cells) (o : FlatOut)
    (h : formOutFlat root lists rows settings = .ok o) :
    sibsOK (liftL (withMetaF (rows.map dropFlat) settings o.items)) = true := by
  obtain ⟨all, _, _, hv, _, hall, _⟩ := formOutFlat_ok root lists rows settings o h
  rw [← hall]
  exact (validateKids_ok_iff root _).mp hv

/-- **A clash through a flat group is rejected**: two siblings after lifting whose names differ at most by case make the
    sibling validation of the flat-aware pipeline fail. -/
theorem flat_clash_rejected (root : Str) (all : List FItem) (h : sibsOK (liftL all) = false) :
    ∃ e, validateKids root (liftL all) = .error e :=
  validateKids_error_of_not_sibsOK root _ h

/-- **A flat group is no instance node**: the non-template part of an accepted sheet's instance is the lifted tree. -/
theorem flat_instance_is_lifted_tree (root : Str) (lists : List Str) (rows : List Cells) (settings : Cells) (o : FlatOut)
    (h : formOutFlat root lists rows settings = .ok o) :
    erase o.inst = [NT.node root false (plainL (liftL (withMetaF (rows.map dropFlat) settings o.items)))] := by
  obtain ⟨all, _, _, _, _, hall, hi, _⟩ := formOutFlat_ok root lists rows settings o h
  rw [hi, hall]
  exact instance_is_tree root _

/-- **No bind and no path segment for a flat group**: walking the flat-aware tree as `xml_bindings` / `get_xpath` do
    gives the bind nodesets of the lifted tree. -/
theorem bindPathsFL_eq_lift : (its : List FItem) → (pre : List Str) → bindPathsFL pre its = bindPathsL pre (liftL its) := by
  intro its pre
  rw [bindPathsL_eq_nodes]
  exact walkF_eq_nodes_lift bindAt (fun _ _ => rfl) (fun _ _ _ _ fl _ => by cases fl <;> rfl) (fun _ => rfl)
    (fun _ _ _ => rfl) its pre

theorem bindPathsF_eq_lift : (it : FItem) → (pre : List Str) → bindPathsF pre it = bindPathsL pre (liftItem it) := by
  intro it pre
  simpa [bindPathsFL, liftL] using bindPathsFL_eq_lift [it] pre

/-- **No ref and no path segment for a flat group**: the same for `xml_control` and the body refs. -/
theorem bodyPathsFL_eq_lift : (its : List FItem) → (pre : List Str) → bodyPathsFL pre its = bodyPathsL pre (liftL its) := by
  intro its pre
  rw [bodyPathsL_eq_nodes]
  exact walkF_eq_nodes_lift _ (fun _ d => by by_cases h : d.control <;> simp [bodyPathsF, ctlAt, h])
    (fun _ ct _ _ fl _ => by cases fl <;> cases ct <;> rfl) (fun _ => rfl) (fun _ _ _ => rfl) its pre

theorem bodyPathsF_eq_lift : (it : FItem) → (pre : List Str) → bodyPathsF pre it = bodyPathsL pre (liftItem it) := by
  intro it pre
  simpa [bodyPathsFL, liftL] using bodyPathsFL_eq_lift [it] pre

theorem shapeOut_eq (root : Str) (lists : List Str) (rows : List Cells) (settings : Cells) (o : FlatOut)
    (h : formOutFlat root lists rows settings = .ok o) : shapeOut root rows settings o = o := by
  obtain ⟨all, _, _, _, _, hall, _, hb, hbody⟩ := formOutFlat_ok root lists rows settings o h
  cases o with
  | mk items inst binds body =>
    simp only [shapeOut] at *
    rw [bindPathsFL_eq_lift, bodyPathsFL_eq_lift, ← hall, ← hb, ← hbody]

/-- **Closure of what the driver reports** (`shapeOut`: code-shaped bind nodesets / body refs). -/
theorem refs_resolve_flat_shape (root : Str) (lists : List Str) (rows : List Cells) (settings : Cells) (o : FlatOut)
    (h : formOutFlat root lists rows settings = .ok o) :
    ∀ p ∈ (shapeOut root rows settings o).binds ++ (shapeOut root rows settings o).body,
      resolves (shapeOut root rows settings o).inst p = true := by
  rw [shapeOut_eq root lists rows settings o h]
  exact refs_resolve_flat root lists rows settings o h

/-! ### Non-vacuity -/

def exFlat : List Cells := [
  [("type".toList, "text".toList), ("name".toList, "a".toList), ("label".toList, "A".toList)],
  [("type".toList, "begin group".toList), ("name".toList, "g".toList), ("label".toList, "G".toList)],
  [("type".toList, "begin group".toList), ("name".toList, "f".toList), ("label".toList, "F".toList), ("flat".toList, "yes".toList),
   ("bind::relevant".toList, "${a} = 1".toList)],
  [("type".toList, "text".toList), ("name".toList, "b".toList), ("label".toList, "B".toList)],
  [("type".toList, "begin group".toList), ("name".toList, "ff".toList), ("flat".toList, "1".toList)],
  [("type".toList, "integer".toList), ("name".toList, "c".toList), ("label".toList, "C".toList)],
  [("type".toList, "end group".toList)],
  [("type".toList, "end group".toList)],
  [("type".toList, "end group".toList)],
  [("type".toList, "begin repeat".toList), ("name".toList, "r".toList), ("label".toList, "R".toList)],
  [("type".toList, "text".toList), ("name".toList, "b".toList), ("label".toList, "B".toList)],
  [("type".toList, "end repeat".toList)]]

/-- accepted; /data/g/b and /data/g/c skip the flat groups f and ff; no bind for f -/
theorem exFlat_accepted : (match formOutFlat "data".toList [] exFlat [] with
    | .ok o => (o.binds ++ o.body).all (resolves o.inst) &&
        (o.binds.map xpathStr).contains "/data/g/c".toList && (o.body.map xpathStr).contains "/data/g/b".toList &&
        !((o.binds ++ o.body).map xpathStr).contains "/data/g/f".toList && o.binds.length == 5 && o.body.length == 7
    | .error _ => false) = true := by decide +kernel

example : (match formOutFlat "data".toList [] exFlat [] with
    | .ok o => (o.binds ++ o.body).all (resolves o.inst) &&
        (o.binds.map xpathStr).contains "/data/g/c".toList && (o.body.map xpathStr).contains "/data/g/b".toList &&
        !((o.binds ++ o.body).map xpathStr).contains "/data/g/f".toList && o.binds.length == 5 && o.body.length == 7
    | .error _ => false) = true := exFlat_accepted

-- what the driver reports for it is the same output (`shapeOut_eq`)
example : (match formOutFlat "data".toList [] exFlat [] with
    | .ok o => ((shapeOut "data".toList exFlat [] o).binds.map xpathStr).contains "/data/g/c".toList &&
        (shapeOut "data".toList exFlat [] o).body == o.body && (shapeOut "data".toList exFlat [] o).binds == o.binds
    | .error _ => false) = true := by
  have h := exFlat_accepted
  generalize hf : formOutFlat "data".toList [] exFlat [] = x at h ⊢
  cases x with
  | error _ => cases h
  | ok o =>
    dsimp only at h ⊢
    rw [shapeOut_eq _ _ _ _ o hf]
    simp only [Bool.and_eq_true, beq_self_eq_true, and_true] at h ⊢
    exact h.1.1.1.1.2

-- a clash seen only through the flat group (g/b beside g/f/b) is rejected
def exFlatClash : List Cells := [
  [("type".toList, "begin group".toList), ("name".toList, "g".toList), ("label".toList, "G".toList)],
  [("type".toList, "text".toList), ("name".toList, "B".toList), ("label".toList, "B".toList)],
  [("type".toList, "begin group".toList), ("name".toList, "f".toList), ("label".toList, "F".toList), ("flat".toList, "yes".toList)],
  [("type".toList, "text".toList), ("name".toList, "b".toList), ("label".toList, "B".toList)],
  [("type".toList, "end group".toList)],
  [("type".toList, "end group".toList)]]
example : (match formOutFlat "data".toList [] exFlatClash [] with
    | .error (.err (.dupSibling _ _)) => true | _ => false) = true := by decide +kernel
-- … and accepted without the flat mark
example : (match formOutFlat "data".toList [] (exFlatClash.map dropFlat) [] with
    | .ok o => (o.binds.map xpathStr).contains "/data/g/f/b".toList | _ => false) = true := by decide +kernel
example : sibsOK (liftL [FItem.sec .group "g".toList false false
    [.q { name := "b".toList, bind := true, control := true, node := true },
     .sec .group "f".toList false true [.q { name := "B".toList, bind := true, control := true, node := true }]]]) = false := by
  decide +kernel

end Pyxv.C02
