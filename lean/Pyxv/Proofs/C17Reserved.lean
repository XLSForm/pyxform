import Pyxv.Model.ReservedAttrs
/-!
# C17 — `action::ref`, `body::ref`, `body::nodeset` are rejected naming the row's element

For every other content of the sheet (`pre`, `post` arbitrary): the sheet is never accepted, and the error names the
offending row's element whenever no earlier row offends in the same generator (and, for body attributes, no action
offends anywhere — actions are generated first).
-/
namespace Pyxv.C17
open Pyxv Pyxv.Reserved

theorem findSome_append_some {α β} (f : α → Option β) (pre post : List α) (x : α) (b : β) (hx : f x = some b)
    (hpre : ∀ y ∈ pre, f y = none) : (pre ++ x :: post).findSome? f = some b := by
  rw [List.findSome?_append, List.findSome?_eq_none_iff.2 hpre, List.findSome?_cons, hx]
  rfl

theorem check_none_iff (vs : List View) :
    check vs = none ↔ (∀ v ∈ vs, actionOffender v = none) ∧ (∀ v ∈ vs, bodyOffender v = none) := by
  unfold check
  constructor
  · intro h
    cases ha : vs.findSome? actionOffender with
    | some e => rw [ha] at h; cases h
    | none =>
      rw [ha] at h
      exact ⟨List.findSome?_eq_none_iff.1 ha, List.findSome?_eq_none_iff.1 h⟩
  · rintro ⟨h1, h2⟩
    rw [List.findSome?_eq_none_iff.2 h1]
    exact List.findSome?_eq_none_iff.2 h2

/-- **any** offending row makes the sheet rejected, whatever else it contains -/
theorem reserved_attr_never_accepted (pre post : List View) (v : View)
    (h : (actionOffender v).isSome = true ∨ (bodyOffender v).isSome = true) :
    (check (pre ++ v :: post)).isSome = true := by
  cases hc : check (pre ++ v :: post) with
  | some e => rfl
  | none =>
    obtain ⟨ha, hb⟩ := (check_none_iff _).1 hc
    -- in an accepted sheet `v` does not offend: either alternative of `h` is the goal, `none.isSome = true`
    rw [ha v (by simp), hb v (by simp)] at h
    exact h.elim id id

/-- **action::ref** on an element with an action: rejected naming that element, unless an earlier action row offends -/
theorem action_ref_rejected (pre post : List View) (v : View) (ha : v.hasAction = true) (hr : v.actionRef = true)
    (hpre : ∀ y ∈ pre, actionOffender y = none) :
    check (pre ++ v :: post) = some (.action v.name "ref") := by
  unfold check
  have hv : actionOffender v = some (.action v.name "ref") := by simp [actionOffender, ha, hr]
  rw [findSome_append_some actionOffender pre post v _ hv hpre]

theorem check_of_no_action (vs : List View) (hact : ∀ y ∈ vs, actionOffender y = none) :
    check vs = vs.findSome? bodyOffender := by
  unfold check
  rw [List.findSome?_eq_none_iff.2 hact]

/-- **body::ref** on a question that renders a control: rejected naming the question, when no action offends anywhere
    in the sheet and no earlier row has a reserved body attribute -/
theorem body_ref_question_rejected (pre post : List View) (v : View) (hk : v.kind = .question true) (hr : v.bodyRef = true)
    (hact : ∀ y ∈ pre ++ v :: post, actionOffender y = none) (hpre : ∀ y ∈ pre, bodyOffender y = none) :
    check (pre ++ v :: post) = some (.body v.name "ref") := by
  rw [check_of_no_action _ hact]
  have hv : bodyOffender v = some (.body v.name "ref") := by simp [bodyOffender, hk, hr]
  exact findSome_append_some bodyOffender pre post v _ hv hpre

/-- **body::nodeset / body::ref on a repeat**: `nodeset` is reported first -/
theorem body_attr_repeat_rejected (pre post : List View) (v : View) (hk : v.kind = .rep)
    (hr : v.bodyNodeset = true ∨ v.bodyRef = true)
    (hact : ∀ y ∈ pre ++ v :: post, actionOffender y = none) (hpre : ∀ y ∈ pre, bodyOffender y = none) :
    check (pre ++ v :: post) = some (.body v.name (if v.bodyNodeset then "nodeset" else "ref")) := by
  rw [check_of_no_action _ hact]
  have hv : bodyOffender v = some (.body v.name (if v.bodyNodeset then "nodeset" else "ref")) := by
    unfold bodyOffender
    rw [hk]
    rcases hr with h | h
    · simp [h]
    · cases hn : v.bodyNodeset <;> simp [h]
  exact findSome_append_some bodyOffender pre post v _ hv hpre

/-- groups (and questions without a control) may carry the cells: they are dropped, not rejected -/
theorem body_ref_group_ignored (v : View) (hk : v.kind = .group ∨ v.kind = .question false ∨ v.kind = .other) :
    bodyOffender v = none := by
  unfold bodyOffender
  rcases hk with h | h | h <;> rw [h]

def cc2 (k v : String) : Str × Str := (k.toList, v.toList)
def qd (n : String) (ctl : Bool) : Form.QData := { name := n.toList, bind := true, control := ctl, node := true }

def exViews : List View :=
  [viewOf [cc2 "type" "text", cc2 "name" "a", cc2 "label" "A"] (.q (qd "a" true) none),
   viewOf [cc2 "type" "begin group", cc2 "name" "g", cc2 "control::ref" "/x"] (.begin_ .group "g".toList false none),
   viewOf [cc2 "type" "text", cc2 "name" "b", cc2 "label" "B", cc2 "control::ref" "/data/else"] (.q (qd "b" true) none),
   viewOf [cc2 "type" "begin repeat", cc2 "name" "r", cc2 "control::nodeset" "/x", cc2 "control::ref" "/y"]
     (.begin_ .rep "r".toList false none),
   viewOf [cc2 "type" "background-audio", cc2 "name" "rec", cc2 "action::ref" "/data/else"] (.q (qd "rec" false) none)]

-- the action row (last) is reported first; without it the question `b`; the group's `body::ref` is ignored
example : check exViews = some (.action "rec".toList "ref") := by decide +kernel
example : check (exViews.take 4) = some (.body "b".toList "ref") := by decide +kernel
example : check ((exViews.take 2) ++ (exViews.drop 3).take 1) = some (.body "r".toList "nodeset") := by decide +kernel
example : check (exViews.take 2) = none := by decide +kernel

end Pyxv.C17
