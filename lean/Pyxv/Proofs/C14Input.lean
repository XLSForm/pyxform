import Pyxv.Proofs.ProcessLemmas
import Pyxv.Proofs.C13
/-!
# C14: converting the same input dict again (what `workbook_to_json` leaves in the caller's dict)
-/
namespace Pyxv.C14
open Pyxv Pyxv.Process

theorem cleanCell_idem (sw : Bool) (c : Cell) : cleanCell sw (cleanCell sw c) = cleanCell sw c := by
  cases c with
  | int n => rfl
  | str s =>
    by_cases h : s.isEmpty
    · simp [cleanCell, h]
    · simp only [cleanCell, h, Bool.false_eq_true, if_false]
      by_cases h2 : (Spell.cleanText sw s).isEmpty
      · simp [h2]
      · simp only [h2, Bool.false_eq_true, if_false, Pyxv.C13.clean_idempotent]

theorem cleanRow_idem (sw : Bool) (n : Option Nat) (row : List (Str × Cell)) :
    cleanRow sw n (cleanRow sw n row) = cleanRow sw n row := by
  have hmap := map_idem (f := fun kv : Str × Cell => (kv.1, cleanCell sw kv.2)) fun kv => by simp [cleanCell_idem]
  cases n with
  | none => simp only [cleanRow]; exact hmap row
  | some k =>
    simp only [cleanRow]
    rw [map_aset (cleanCell sw), hmap]
    exact aset_idem _ _ _

/-- **What a conversion leaves in the caller's dict is a fixpoint of the cleaning stage**: for every
sheet (survey: `strip_whitespace`; choices: `add_row_number`; the others: neither) the rows
`clean_text_values` stores back — cleaned cells, `__row` — are exactly the rows a second conversion of the
same dict object reads after its own cleaning (after d7ea67c the only in-place change left). -/
theorem input_unchanged_or_equivalent (sw addRow : Bool) (rows : List (List (Str × Cell))) :
    cleanSheet sw addRow (cleanSheet sw addRow rows) = cleanSheet sw addRow rows := by
  unfold cleanSheet
  generalize 2 = i
  induction rows generalizing i with
  | nil => rfl
  | cons r rs ih =>
    simp only [cleanSheetFrom, cleanRow_idem, ih]

example : cleanSheet false true [[("list_name".toList, .str "yn".toList), ("label".toList, .str "it’s “ok”".toList)]]
    = [[("list_name".toList, .str "yn".toList), ("label".toList, .str "it's \"ok\"".toList), ("__row".toList, .int 2)]] := by
  decide +kernel
example : cleanSheet true false [[("label".toList, .str "  a   b ".toList)]] = [[("label".toList, .str "a b".toList)]] := by
  decide +kernel

end Pyxv.C14
