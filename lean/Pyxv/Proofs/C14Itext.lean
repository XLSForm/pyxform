import Pyxv.Proofs.ItextValues
import Pyxv.Proofs.Replay
import Pyxv.Model.Process
/-!
# C14 over the itext table (`Pyxv.Itext`): `_translations` is not reset between `xml()` calls

`Survey.xml_model` runs `_setup_translations`, `_setup_media`, `_add_empty_translations` on the *same* `self._translations`
every time.  In `Pyxv.Itext` the first two are `es.foldl ins T` for the entry list `es` (a function of the immutable tree), the
third is `pad lists`: first call `T₁ = pad lists (es.foldl ins [])`, second call `pad lists (es.foldl ins T₁)`.  `T₁` holds every
last write of `es`, so replaying `es` on it changes nothing (`second_setup_noop`, by `replay_id`), and padding a padded table
changes nothing (`pad_pad`).  Also here, being about the same table: the iteration order of the Python `set` of languages from
which or_other builds the label of its `other` choice does not reach the table.
-/
namespace Pyxv.C14
open Pyxv Pyxv.Itext

/-- the leaf `_translations[l][p][f]` -/
abbrev valAt (T : Table) (l p f : Str) : Option Str := valueAt T l p f

theorem ins_id {T : Table} {e : Ent} (h : valAt T e.lang e.path e.form = some e.text) : ins T e = T := by
  obtain ⟨ps, fs, h1, h2, h3⟩ := valueAt_eq_some.mp h
  unfold ins
  apply upd_id _ _ _ ps h1
  simp only [Option.getD_some]
  apply upd_id _ _ _ fs h2
  simp only [Option.getD_some]
  exact upd_id _ _ _ e.text h3 rfl

/-- no leaf is assigned two different values by the entry list -/
def NoConflict (es : List Ent) : Prop :=
  ∀ e ∈ es, ∀ e' ∈ es, e.lang = e'.lang → e.path = e'.path → e.form = e'.form → e.text = e'.text

/-! ### the language set of the generated "other" choice (xls2json.py:1066-1078) -/

/-- the entries of the generated choice: label `{lang: "Other" for lang in <set>}`, in set order -/
def otherEntries (id : Str) (langs : List Str) : List Ent := langs.map fun l => ⟨l, id, "long".toList, "Other".toList⟩

theorem keys_ins (T : Table) (e : Ent) (a : Str) : a ∈ keys T → a ∈ keys (ins T e) := by
  intro h; unfold ins; rw [mem_keys_upd]; exact Or.inl h

theorem ins_comm_lang (T : Table) {e1 e2 : Ent} (h1 : e1.lang ∈ keys T) (h : e1.lang = e2.lang → e1 = e2) :
    ins (ins T e1) e2 = ins (ins T e2) e1 := by
  by_cases hl : e1.lang = e2.lang
  · rw [h hl]
  · unfold ins
    exact (upd_comm hl _ _ T h1).symm

theorem perm_langs {a b : List Ent} (hp : a.Perm b) : ∀ (T : Table),
    (∀ e1 ∈ a, ∀ e2 ∈ a, e1.lang = e2.lang → e1 = e2) → (∀ e ∈ a, e.lang ∈ keys T) → a.foldl ins T = b.foldl ins T := by
  induction hp with
  | nil => intro _ _ _; rfl
  | cons x _ ih =>
    intro T hu h
    simp only [List.foldl_cons]
    exact ih _ (fun e1 h1 e2 h2 => hu e1 (List.mem_cons_of_mem _ h1) e2 (List.mem_cons_of_mem _ h2))
      fun e he => keys_ins _ _ _ (h e (List.mem_cons_of_mem _ he))
  | swap x y l =>
    intro T hu h
    simp only [List.foldl_cons]
    rw [ins_comm_lang T (h y (List.mem_cons_self ..)) (hu y (by simp) x (by simp))]
  | trans h1 _ ih1 ih2 =>
    intro T hu h
    rw [ih1 T hu h, ih2 T (fun e1 m1 e2 m2 => hu e1 (h1.mem_iff.2 m1) e2 (h1.mem_iff.2 m2))
      fun e he => h e (h1.mem_iff.2 he)]

theorem other_perm {id : Str} {a b : List Str} (hp : a.Perm b) (T : Table) (h : ∀ l ∈ a, l ∈ keys T) :
    (otherEntries id a).foldl ins T = (otherEntries id b).foldl ins T := by
  refine perm_langs (hp.map _) T ?_ ?_
  · simp only [List.mem_map]
    rintro _ ⟨l, _, rfl⟩ _ ⟨l', _, rfl⟩ e
    exact congrArg (fun l => (⟨l, id, _, _⟩ : Ent)) e
  · simp only [List.mem_map]
    rintro _ ⟨l, hl, rfl⟩
    exact h l hl

/-- or_other on a translated list: the label dict of the generated choice is built from a Python `set` of languages.  Each
of them has a translation when the choice is reached, so for every iteration order of that set `_translations` — hence the
itext block, in content *and* order — is the same. -/
theorem orOther_lang_order_irrelevant (π : Process.SetOrder) (pre post : List Ent) (id : Str) (langs : List Str)
    (hpresent : ∀ l ∈ langs, l ∈ keys (pre.foldl ins [])) :
    setup (pre ++ otherEntries id (π.iter langs) ++ post) = setup (pre ++ otherEntries id langs ++ post) := by
  unfold setup
  simp only [List.foldl_append]
  rw [other_perm (π.perm langs) _ fun l hl => hpresent l ((π.perm langs).mem_iff.1 hl)]

theorem mem_keys_unionForms (acc : List (Str × Unit)) (fs : Forms) (c : Str) :
    c ∈ keys (unionForms acc fs) ↔ c ∈ keys acc ∨ c ∈ keys fs := by
  unfold unionForms
  exact mem_keys_foldl_upd (fun _ _ => ()) fs acc c

theorem mem_keys_keepForms (cs : List (Str × Unit)) (fs : Forms) (c : Str) :
    c ∈ keys (keepForms cs fs) ↔ c ∈ keys fs ∨ c ∈ keys cs :=
  mem_keys_foldl_upd (fun _ o3 => o3.getD dashStr) cs fs c

/-- where a content type listed by `allPathsC` comes from -/
def FromTable (T : Table) (p c : Str) : Prop := ∃ lps ∈ T, ∃ pf ∈ lps.2, pf.1 = p ∧ c ∈ keys pf.2

theorem allPaths_sound (T : Table) : ∀ pc ∈ allPaths T, ∀ c ∈ keys pc.2, FromTable T pc.1 c := by
  unfold allPaths
  rw [← List.foldl_flatMap]
  apply foldl_upd_inv (fun pf : Str × Forms => pf.1) (fun pf o => unionForms (o.getD []) pf.2)
    (fun p cs => ∀ c ∈ keys cs, FromTable T p c)
  · intro kv h; cases h
  · intro pf hpf o ho c hc
    rw [mem_keys_unionForms] at hc
    rcases hc with hc | hc
    · cases o with
      | none => simp [keys] at hc
      | some v => exact ho v rfl c hc
    · obtain ⟨lps, hl, hm⟩ := List.mem_flatMap.1 hpf
      exact ⟨lps, hl, pf, hm, rfl, hc⟩

theorem allPathsC_sound (lists : List CList) (T : Table) : ∀ pc ∈ allPathsC lists T, ∀ c ∈ keys pc.2,
    FromTable T pc.1 c ∨ pc.1 ∉ keys (allPaths T) := by
  unfold allPathsC
  -- the accumulator keeps every key of `allPaths T`, so a path that is new to it is not one of those
  refine (List.foldlRecOn (choicePaths lists) _ (motive := fun a =>
      (∀ kv ∈ a, ∀ c ∈ keys kv.2, FromTable T kv.1 c ∨ kv.1 ∉ keys (allPaths T)) ∧ ∀ p ∈ keys (allPaths T), p ∈ keys a)
    ⟨fun kv hkv c hc => Or.inl (allPaths_sound T kv hkv c hc), fun p hp => hp⟩ ?_).1
  rintro a0 ⟨h, hsub⟩ pc _
  refine ⟨fun kv hkv c hc => ?_, fun p hp => by rw [mem_keys_upd]; exact Or.inl (hsub p hp)⟩
  rcases mem_upd _ _ a0 kv hkv with h' | h'
  · subst h'
    cases hl : lookup pc.1 a0 with
    | some v =>
      simp only [hl, Option.getD_some] at hc
      exact h (pc.1, v) (lookup_mem hl) c hc
    | none => exact Or.inr fun hp => (lookup_eq_none_iff _ _).1 hl (hsub _ hp)
  · exact h kv h' c hc

theorem allPathsC_complete (lists : List CList) (T : Table) {p c : Str} (h : FromTable T p c) :
    ∃ cs, lookup p (allPathsC lists T) = some cs ∧ c ∈ keys cs := by
  obtain ⟨lps, hl, pf, hpf, hp, hc⟩ := h
  unfold allPathsC
  apply foldl_upd_keep (fun pc : Str × List (Str × Unit) => pc.1) (fun pc o => o.getD pc.2) (fun cs => c ∈ keys cs) p
  · intro x _ _ v hv; simpa using hv
  · unfold allPaths
    rw [← List.foldl_flatMap]
    apply foldl_upd_est (fun pf : Str × Forms => pf.1) (fun pf o => unionForms (o.getD []) pf.2) (fun cs => c ∈ keys cs) p
    · intro x _ _ v hv
      rw [mem_keys_unionForms]; exact Or.inl (by simpa using hv)
    · exact ⟨pf, List.mem_flatMap.2 ⟨lps, hl, hpf⟩, hp, fun o => by rw [mem_keys_unionForms]; exact Or.inr hc⟩

theorem padLang_sound (P : List (Str × List (Str × Unit))) (ps : Paths) : ∀ pf ∈ padLang P ps, ∀ c ∈ keys pf.2,
    (∃ pf0 ∈ ps, pf0.1 = pf.1 ∧ c ∈ keys pf0.2) ∨ (∃ pc ∈ P, pc.1 = pf.1 ∧ c ∈ keys pc.2) := by
  unfold padLang
  apply foldl_upd_inv (fun pc : Str × List (Str × Unit) => pc.1)
    (fun pc o => keepForms pc.2 (o.getD []))
    (fun p fs => ∀ c ∈ keys fs, (∃ pf0 ∈ ps, pf0.1 = p ∧ c ∈ keys pf0.2) ∨ (∃ pc ∈ P, pc.1 = p ∧ c ∈ keys pc.2))
  · intro kv hkv c hc; exact Or.inl ⟨kv, hkv, rfl, hc⟩
  · intro pc hpc o ho c hc
    rw [mem_keys_keepForms] at hc
    rcases hc with hc | hc
    · cases o with
      | none => simp [keys] at hc
      | some v => exact ho v rfl c hc
    · exact Or.inr ⟨pc, hpc, rfl, hc⟩

theorem padLang_complete (P : List (Str × List (Str × Unit))) (ps : Paths) {pc : Str × List (Str × Unit)}
    (hpc : pc ∈ P) {c : Str} (hc : c ∈ keys pc.2) :
    ∃ fs, lookup pc.1 (padLang P ps) = some fs ∧ c ∈ keys fs := by
  unfold padLang
  apply foldl_upd_est (fun pc : Str × List (Str × Unit) => pc.1)
    (fun pc o => keepForms pc.2 (o.getD []))
    (fun fs => c ∈ keys fs) pc.1
  · intro x _ _ v hv
    rw [mem_keys_keepForms]; exact Or.inl (by simpa using hv)
  · exact ⟨pc, hpc, rfl, fun o => by rw [mem_keys_keepForms]; exact Or.inr hc⟩

theorem keepForms_id (cs : List (Str × Unit)) (fs : Forms) (h : ∀ c ∈ cs, c.1 ∈ keys fs) : keepForms cs fs = fs :=
  foldl_upd_id (·.1) (fun _ o => o.getD dashStr) cs fs fun c hc =>
    (exists_lookup_of_mem_keys (h c hc)).imp fun _ hd => ⟨hd, rfl⟩

theorem padLang_id (P : List (Str × List (Str × Unit))) (ps : Paths)
    (h : ∀ pc ∈ P, ∃ fs, lookup pc.1 ps = some fs ∧ ∀ c ∈ pc.2, c.1 ∈ keys fs) : padLang P ps = ps :=
  foldl_upd_id (fun pc : Str × List (Str × Unit) => pc.1) (fun pc o => keepForms pc.2 (o.getD [])) P ps fun pc hpc =>
    (h pc hpc).imp fun fs hfs => ⟨hfs.1, keepForms_id pc.2 fs hfs.2⟩

theorem padded_listed (lists : List CList) (T : Table) {lps : Str × Paths} (hl : lps ∈ T) {pf : Str × Forms}
    (hpf : pf ∈ padLang (allPathsC lists T) lps.2) {c : Str} (hc : c ∈ keys pf.2) :
    ∃ pc ∈ allPathsC lists T, pc.1 = pf.1 ∧ c ∈ keys pc.2 := by
  rcases padLang_sound _ _ pf hpf c hc with ⟨pf0, hpf0, hp0, hc0⟩ | h
  · obtain ⟨cs, hcs, hccs⟩ := allPathsC_complete lists T (p := pf.1) (c := c) ⟨lps, hl, pf0, hpf0, hp0, hc0⟩
    exact ⟨(pf.1, cs), lookup_mem hcs, rfl, hccs⟩
  · exact h

/-- `_add_empty_translations` on an already padded table changes nothing. -/
theorem pad_pad (lists : List CList) (T : Table) : pad lists (pad lists T) = pad lists T := by
  -- `T` may hold a key twice.  `allPaths` reads every entry of every language, so where a listed content type comes from is
  -- traced by membership (`allPathsC_sound`, `padLang_sound`); a write reaches only the first entry of its key, so that a
  -- listed content type is there is shown by lookup (`allPathsC_complete`, `padLang_complete`).
  have hmap : ∀ lps1 ∈ pad lists T, (lps1.1, padLang (allPathsC lists (pad lists T)) lps1.2) = lps1 := by
    intro lps1 h1
    have : padLang (allPathsC lists (pad lists T)) lps1.2 = lps1.2 := by
      apply padLang_id
      intro pc hpc
      -- every path listed is present in this language
      have hpk : pc.1 ∈ keys lps1.2 := by
        rw [mem_keys_pad h1]
        have := (mem_keys_allPathsC lists (pad lists T) pc.1).1 (mem_keys_of_mem (v := pc.2) (by cases pc; exact hpc))
        rcases this with ⟨lps', hl', hp'⟩ | hid
        · exact (mem_keys_pad hl' pc.1).1 hp'
        · exact Or.inr hid
      obtain ⟨fs, hfs⟩ := exists_lookup_of_mem_keys hpk
      refine ⟨fs, hfs, ?_⟩
      intro c hc
      have hck : c.1 ∈ keys pc.2 := mem_keys_of_mem (v := c.2) (by cases c; exact hc)
      obtain ⟨lps, hl, hlps⟩ := mem_pad.1 h1
      rcases allPathsC_sound lists (pad lists T) pc hpc c.1 hck with hft | hno
      · -- the content type sits at this path in some language of the padded table
        obtain ⟨lpsA, hA, pf, hpf, hp, hcf⟩ := hft
        obtain ⟨lpsB, hB, hAB⟩ := mem_pad.1 hA
        have hpf' : pf ∈ padLang (allPathsC lists T) lpsB.2 := by rw [hAB] at hpf; exact hpf
        obtain ⟨pc0, hpc0, hp0', hc0⟩ := padded_listed lists T hB hpf' hcf
        have hp0 := hp0'.trans hp
        obtain ⟨fs', hfs', hcfs'⟩ := padLang_complete (allPathsC lists T) lps.2 hpc0 hc0
        rw [hlps] at hfs
        simp only at hfs
        rw [hp0, hfs] at hfs'
        cases hfs'
        exact hcfs'
      · exact absurd ((mem_keys_allPaths (pad lists T) pc.1).2 ⟨lps1, h1, hpk⟩) hno
    rw [this]
  unfold pad at hmap ⊢
  conv => rhs; rw [← List.map_id (List.map _ T)]
  exact List.map_congr_left hmap

/-- the leaf the entry assigns exists already -/
def Present (T : Table) (e : Ent) : Prop := (valAt T e.lang e.path e.form).isSome

theorem ins_overwrite (A : Table) {x y : Ent} (h : sameKey x y) : ins (ins A x) y = ins A y := by
  obtain ⟨h1, h2, h3⟩ := h
  unfold ins
  rw [h1, upd_upd_same]
  apply upd_congr_at
  simp only [Option.getD_some]
  rw [h2, upd_upd_same]
  apply upd_congr_at
  simp only [Option.getD_some]
  rw [h3, upd_upd_same]

theorem ins_comm (A : Table) {x m : Ent} (hp : Present A x) (hne : ¬ sameKey x m) :
    ins (ins A x) m = ins (ins A m) x := by
  obtain ⟨t, ht⟩ := Option.isSome_iff_exists.1 hp
  obtain ⟨ps, fs, hl, hq, hf⟩ := valueAt_eq_some.mp ht
  -- the two writes meet at the first dict level where their keys differ; above it they write the same key
  by_cases h1 : x.lang = m.lang
  · unfold ins
    rw [← h1, upd_upd_same, upd_upd_same]
    apply upd_congr_at
    simp only [hl, Option.getD_some]
    by_cases h2 : x.path = m.path
    · rw [← h2, upd_upd_same, upd_upd_same]
      apply upd_congr_at
      simp only [hq, Option.getD_some]
      have h3 : x.form ≠ m.form := fun h3 => hne ⟨h1, h2, h3⟩
      exact (upd_comm h3 _ _ fs (mem_keys_of_mem (lookup_mem hf))).symm
    · exact (upd_comm h2 _ _ ps (mem_keys_of_mem (lookup_mem hq))).symm
  · unfold ins
    exact (upd_comm h1 _ _ A (mem_keys_of_mem (lookup_mem hl))).symm

theorem present_ins (A : Table) (x m : Ent) (h : Present A x) : Present (ins A m) x := by
  unfold Present valAt at h ⊢
  rw [valueAt_ins]
  split
  · rfl
  · exact h

/-- an assignment that a later one with the same key overwrites does not influence the result -/
theorem overwritten_irrelevant {x e1 : Ent} (hk : sameKey x e1) : ∀ (ms : List Ent) (A : Table), Present A x →
    (ms ++ [e1]).foldl ins (ins A x) = (ms ++ [e1]).foldl ins A :=
  replay_overwritten ins sameKey Present (fun A _ _ h => ins_overwrite A h) (fun A _ _ hp hne => ins_comm A hp hne)
    (fun A x m h => present_ins A x m h) hk

theorem present_foldl (es : List Ent) (T : Table) (e : Ent) (he : e ∈ es) : Present (es.foldl ins T) e := by
  obtain ⟨e', he'⟩ := lastWrite_isSome he
  unfold Present valAt
  rw [valueAt_foldl, he']
  rfl

theorem present_pad (lists : List CList) {T : Table} {e : Ent} (h : Present T e) : Present (pad lists T) e := by
  obtain ⟨t, ht⟩ := Option.isSome_iff_exists.1 h
  exact Option.isSome_iff_exists.2 ⟨t, valueAt_pad lists T _ _ _ t ht⟩

/-- Re-running `_setup_translations` and `_setup_media` on the padded table of the first `xml()` changes nothing — neither
a text nor the position of any language, path or content type — for every entry list. -/
theorem second_setup_noop (lists : List CList) (es : List Ent) :
    es.foldl ins (pad lists (setup es)) = pad lists (setup es) :=
  replay_id ins sameKey Present (fun A _ _ h => ins_overwrite A h) (fun A _ _ hp hne => ins_comm A hp hne)
    (fun A x m h => present_ins A x m h) es _
    (fun e he => present_pad lists (present_foldl es [] e he))
    (fun pre e post hes hfin => ins_id (valueAt_pad lists _ _ _ _ _ (by subst hes; exact valueAt_setup_last pre post e hfin)))

/-- `second_setup_noop` under the guard `NoConflict`, which it does not need: with a conflict the last assignment wins
in both passes -/
theorem second_setup_noop_guarded (lists : List CList) (es : List Ent) (hn : NoConflict es) :
    es.foldl ins (pad lists (setup es)) = pad lists (setup es) :=
  second_setup_noop lists es

/-- `_translations` across repeated `xml()` calls: the table after the second `xml_model()` — entries assigned again into
the *padded* table of the first call, then padded again — is the table after the first; so is every later one.  No guard. -/
theorem itext_setup_idempotent (lists : List CList) (es : List Ent) :
    pad lists (es.foldl ins (pad lists (setup es))) = pad lists (setup es) := by
  rw [second_setup_noop lists es, pad_pad]

/-- … hence the `<itext>` block of the regenerated XForm is the same -/
theorem itext_block_idempotent (dl : Str) (lists : List CList) (es : List Ent) :
    itext dl (pad lists (es.foldl ins (pad lists (setup es)))) = itext dl (pad lists (setup es)) := by
  rw [itext_setup_idempotent lists es]

/-- `orOther_lang_order_irrelevant` with its hypothesis derived from the entry list: the languages of the generated choice
are label languages of *earlier* choices (xls2json.py:1066-1078), and each of those has an entry in `pre`. -/
theorem orOther_lang_order_irrelevant_of_entries (π : Process.SetOrder) (pre post : List Ent) (id : Str) (langs : List Str)
    (hfrom : ∀ l ∈ langs, ∃ e ∈ pre, e.lang = l) :
    setup (pre ++ otherEntries id (π.iter langs) ++ post) = setup (pre ++ otherEntries id langs ++ post) :=
  orOther_lang_order_irrelevant π pre post id langs fun l hl => by
    obtain ⟨e, he, hel⟩ := hfrom l hl
    obtain ⟨lps, hm, hlang, _⟩ := path_filed he
    exact hel ▸ hlang ▸ List.mem_map_of_mem hm

def demoEnts : List Ent :=
  [⟨"en".toList, "yn-0".toList, "long".toList, "txt".toList⟩, ⟨"fr".toList, "yn-0".toList, "long".toList, "txt".toList⟩,
   ⟨"en".toList, "/d/q:label".toList, "long".toList, "txt".toList⟩, ⟨"en".toList, "/d/q:hint".toList, "guidance".toList, "txt".toList⟩,
   ⟨"fr".toList, "/d/q:label".toList, "image".toList, "txt".toList⟩, ⟨"en".toList, "/d/q:label".toList, "long".toList, "txt".toList⟩]

instance : Decidable (NoConflict demoEnts) := by unfold NoConflict; infer_instance
example : NoConflict demoEnts := by decide +kernel
-- a leaf assigned twice with different texts (not `NoConflict`) is covered as well:
def demoEnts2 : List Ent := demoEnts ++ [⟨"en".toList, "yn-0".toList, "long".toList, "other".toList⟩]
example : pad [] (demoEnts2.foldl ins (pad [] (setup demoEnts2))) = pad [] (setup demoEnts2) :=
  itext_setup_idempotent [] demoEnts2
-- the padded table really has padding (French lacks the guidance hint and the label text):
example : valAt (pad [] (setup demoEnts)) "fr".toList "/d/q:hint".toList "guidance".toList = some dashStr := by decide +kernel
example : pad [] (demoEnts.foldl ins (pad [] (setup demoEnts))) = pad [] (setup demoEnts) :=
  itext_setup_idempotent [] demoEnts
-- or_other: French and English both have a translation before the generated choice is reached
example : setup (demoEnts ++ otherEntries "yn-1".toList ["fr".toList, "en".toList] ++ [])
    = setup (demoEnts ++ otherEntries "yn-1".toList ["en".toList, "fr".toList] ++ []) := by
  simp only [setup, List.foldl_append]
  rw [other_perm (.swap "en".toList "fr".toList []) _ (by decide)]

end Pyxv.C14
