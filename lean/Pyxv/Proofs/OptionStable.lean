import Pyxv.Proofs.QStable
/-!
# dump / load / dump of Options and of a survey-level `choices` object

`Option(**d)` reads the constructor's named parameters (`name`, `label`, `media`, `sms_option`) into slots and
puts every other key into `extra_data` (question.py `Option.__init__`, survey_element.py:100-124); its dump is
`ToJson.optionDump`.  `reloadChoices` is what `Survey.__init__`'s `Itemset(name=list_name, choices=values)`
makes of a dumped `choices` object; the model step is `listFromJson` (Model/FromJsonChoices.lean).
-/
namespace Pyxv.ToJson
open Pyxv Pyxv.JV

/-- `Survey.__init__`: every list of the dumped `choices` object becomes an Itemset of `Option(**c)` -/
def reloadChoices (ctor : List Str) (choices : List (Str × List Opt)) : List (Str × List Opt) :=
  choices.map fun c => (c.1, c.2.map fun o => reloadOption ctor (optionDump o))

theorem mem_allDelete_option (S : List Str) (k : Str) :
    k ∈ allDelete .option S [] [k!"parent"] ↔
      k = k!"_survey_element_xpath" ∨ k = k!"extra_data" ∨ (k ∈ S ∧ startsWith k ['_'] = true) ∨ k = k!"parent" := by
  simp [allDelete, clsDelete, underscored]

theorem optionDump_map (S : List Str) (f : Str → J) (extra : Dict) (hn : (extra.map Prod.fst).Nodup)
    (hd : ∀ k ∈ extra.map Prod.fst, k ∉ S) :
    optionDump (S.map (fun n => (n, f n)), extra) =
      ownDump (allDelete .option S [] [k!"parent"]) (S.map fun n => (n, f n)) ++ extra.filter fun kv => truthy kv.2 := by
  simp only [optionDump, keys_slots]
  exact restoreExtra_fresh extra _ hn fun k hk hin => hd k hk (keys_slots S f ▸ ownDump_keys_subset _ _ k hin)

theorem nodup_keys_optionDump (S : List Str) (hS : S.Nodup) (f : Str → J) (extra : Dict)
    (hn : (extra.map Prod.fst).Nodup) (hd : ∀ k ∈ extra.map Prod.fst, k ∉ S) :
    ((optionDump (S.map (fun n => (n, f n)), extra)).map Prod.fst).Nodup := by
  rw [optionDump_map S f extra hn hd]
  exact nodup_keys_append (nodup_keys_ownDump _ _ (by rw [keys_slots]; exact hS)) (nodup_keys_filter _ hn)
    fun a ha hb => hd a (keys_filter_subset _ _ a hb) (keys_slots S f ▸ ownDump_keys_subset _ _ a ha)

/-- the Option rebuilt from its dump by a constructor that reads the slots `S.filter p` dumps to the same dict,
    provided every slot the constructor does not read is one `to_json_dict` deletes -/
theorem option_dump_stable (S : List Str) (hS : S.Nodup) (p : Str → Bool) (f : Str → J) (extra : Dict)
    (hdel : ∀ k ∈ S, p k = false → k ∈ allDelete .option S [] [k!"parent"])
    (hn : (extra.map Prod.fst).Nodup) (hd : ∀ k ∈ extra.map Prod.fst, k ∉ S) :
    optionDump (reloadOption (S.filter p) (optionDump (S.map (fun n => (n, f n)), extra))) =
      optionDump (S.map (fun n => (n, f n)), extra) := by
  let del := allDelete .option S [] [k!"parent"]
  let F := extra.filter fun kv => truthy kv.2
  have hFS : ∀ k ∈ F.map Prod.fst, k ∉ S := fun k hk => hd k (keys_filter_subset _ _ k hk)
  have hFN : ∀ k ∈ F.map Prod.fst, k ∉ S.filter p := fun k hk h => hFS k hk (List.mem_filter.mp h).1
  -- the constructor reads every slot that is dumped, and deletes of them what the class deletes
  have hkeys : (S.filter p).filter (fun n => !(allDelete .option (S.filter p) [] [k!"parent"]).contains n) =
      S.filter fun n => !del.contains n := by
    rw [List.filter_filter]
    refine List.filter_congr fun k hk => ?_
    cases hp : p k
    · simpa using hdel k hk hp
    · simp [del, mem_allDelete_option, List.mem_filter, hk, hp]
  rw [optionDump_map S f extra hn hd]
  -- a dumped slot read back from the dump is dumped again
  have hval : ∀ k ∈ S.filter (fun n => !del.contains n),
      (some ((lookup k (ownDump del (S.map fun n => (n, f n)) ++ F)).getD .null)).filter truthy =
        (some (f k)).filter truthy := fun k hk => by
    obtain ⟨hm, hd'⟩ := List.mem_filter.mp hk
    rw [lookup_own_append del S f F k ((lookup_eq_none_iff _ _).2 fun h => hFS k h hm), if_pos ⟨hm, by simpa using hd'⟩]
    exact filter_truthy_getD (f k)
  have hE : reloadExtra (S.filter p) (ownDump del (S.map fun n => (n, f n)) ++ F) = F :=
    reloadExtra_append _ _ F (fun k hk => by
      rw [ownDump_eq_listing, ← hkeys] at hk; exact (List.mem_filter.mp (mem_keys_listing hk)).1) hFN
  show optionDump (reloadSlots (S.filter p) _, reloadExtra (S.filter p) _) = _
  generalize hD : ownDump del (S.map fun n => (n, f n)) ++ F = D at hval hE
  rw [hE, show reloadSlots (S.filter p) D = (S.filter p).map fun n => (n, (lookup n D).getD .null) from rfl,
    optionDump_map _ _ F (nodup_keys_filter _ hn) hFN, List.filter_filter, ownDump_eq_listing, hkeys,
    listing_congr hval, ← hD, ownDump_eq_listing]
  simp [F]

/-- an Option as the constructors produce it: slot tuple `S`, extra columns with distinct names outside `S` -/
def OptOk (S : List Str) (o : Opt) : Prop :=
  ∃ f : Str → J, o.1 = S.map (fun n => (n, f n)) ∧ (o.2.map Prod.fst).Nodup ∧ ∀ k ∈ o.2.map Prod.fst, k ∉ S

theorem choicesJson_map_congr (g : Opt → Opt) (choices : List (Str × List Opt))
    (h : ∀ c ∈ choices, ∀ o ∈ c.2, optionDump (g o) = optionDump o) :
    choicesJson (choices.map fun c => (c.1, c.2.map g)) = choicesJson choices := by
  simp only [choicesJson, List.map_map]
  congr 1
  apply List.map_congr_left
  intro c hc
  simp only [Function.comp, List.map_map]
  congr 2
  apply List.map_congr_left
  intro o ho
  simp only [Function.comp, optionToJson, h c hc o ho]

/-- dump, load, dump of a survey-level `choices` object (and of the option list a select carries) -/
theorem choices_dump_stable (S : List Str) (hS : S.Nodup) (p : Str → Bool)
    (hdel : ∀ k ∈ S, p k = false → k ∈ allDelete .option S [] [k!"parent"])
    (choices : List (Str × List Opt)) (hok : ∀ c ∈ choices, ∀ o ∈ c.2, OptOk S o) :
    choicesJson (reloadChoices (S.filter p) choices) = choicesJson choices := by
  apply choicesJson_map_congr
  intro c hc o ho
  obtain ⟨f, h1, h2, h3⟩ := hok c hc o ho
  cases o with
  | mk sl ex =>
    simp only at h1 h2 h3
    subst h1
    exact option_dump_stable S hS p f ex hdel h2 h3

end Pyxv.ToJson
