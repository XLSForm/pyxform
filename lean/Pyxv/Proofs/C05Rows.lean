import Pyxv.Proofs.C05
import Pyxv.Proofs.C08
/-!
# Bridge at the row level: the bind slice's `process_row` copy against `Pyxv.Headers` (C08's `row_grouping`)

`Pyxv.C08.row_grouping` says that after `Headers.processRow` column `bind` holds `colFold … "bind"`: the
merge, in column order, of the cells whose first token is `bind`.  Here: the bind dict `Pyxv.Binds.processRow`
builds is that value, read as a two-level finite map (attribute ↦ string | language ↦ string).
-/
namespace Pyxv.C05
open Pyxv Pyxv.Binds Pyxv.Headers

/-- a language dict of `Pyxv.Headers` read as the association list of the bind slice -/
def LR (m : Kvs) (l : List (Str × Str)) : Prop :=
  ∀ q, m.has q = (lookup q l).isSome ∧
    m.get q = (match lookup q l with | some y => V.str y | none => V.none)

/-- value of one bind attribute in both models.  Non-empty on both sides: `Headers.merge` treats `""` / `{}` as absent
    (Python falsiness), `Binds.mergeVal` has no such case. -/
def VR (v : V) : Option BVal → Prop
  | none => v = .none
  | some (.s s) => v = .str s ∧ s ≠ []
  | some (.d l) => ∃ m, v = .dict m ∧ m ≠ .nil ∧ LR m l ∧ ∀ q y, lookup q l = some y → y ≠ []

/-- the whole `bind` column in both models -/
def BR (v : V) : Option BindDict → Prop
  | none => v = .none
  | some bd => ∃ m, v = .dict m ∧ m ≠ .nil ∧ ∀ a, m.has a = (lookup a bd).isSome ∧ VR (m.get a) (lookup a bd)

theorem LR_cons (k y : Str) {m : Kvs} {l0 : List (Str × Str)} (h : LR m l0) :
    LR (.cons k (.str y) m) ((k, y) :: l0) := by
  intro q
  obtain ⟨h1, h2⟩ := h q
  by_cases hq : q = k <;> simp [Kvs.has, Kvs.get, lookup, hq, h1, h2]

theorem LR_single (l y : Str) : LR (.cons l (.str y) .nil) [(l, y)] :=
  LR_cons l y fun q => by simp [Kvs.has, Kvs.get, lookup]

theorem vals_cons (k y : Str) (hy : y ≠ []) {l0 : List (Str × Str)} (hv : ∀ q z, lookup q l0 = some z → z ≠ []) :
    ∀ q z, lookup q ((k, y) :: l0) = some z → z ≠ [] := by
  intro q z hq
  by_cases e : q = k
  · simp only [lookup, if_pos e, Option.some.injEq] at hq; subst hq; exact hy
  · simp only [lookup, if_neg e] at hq; exact hv q z hq

theorem vals_single (l val : Str) (hval : val ≠ []) : ∀ q y, lookup q [(l, val)] = some y → y ≠ [] :=
  vals_cons l val hval fun q z hq => by cases hq

theorem LR_dictSet (dk : Str) (m : Kvs) (l0 : List (Str × Str)) (l y : Str) (hy : y ≠ [])
    (h : LR m l0) (hv : ∀ q z, lookup q l0 = some z → z ≠ []) :
    LR (mergeTop dk m l (.str y)) (dictSet l0 l y) := by
  intro q
  rw [mergeTop_has, mergeTop_get, dictSet_eq, lookup_set]
  obtain ⟨h1, h2⟩ := h q
  by_cases hq : q = l
  · subst hq
    simp only [if_true, decide_true, Bool.or_true, Option.isSome_some, true_and]
    obtain ⟨_, h2'⟩ := h q
    cases hl : lookup q l0 with
    | none => rw [hl] at h2'; rw [h2', merge_none_left]
    | some z =>
      rw [hl] at h2'
      rw [h2']
      exact C08.two_strings_later_wins dk z y (hv q z hl) hy
  · simp only [if_neg hq, decide_eq_false hq, Bool.or_false]
    exact ⟨h1, h2⟩

theorem dictSet_vals (l0 : List (Str × Str)) (l y : Str) (hy : y ≠ [])
    (hv : ∀ q z, lookup q l0 = some z → z ≠ []) : ∀ q z, lookup q (dictSet l0 l y) = some z → z ≠ [] := by
  intro q z h
  rw [dictSet_eq, lookup_set] at h
  by_cases hq : q = l
  · simp only [if_pos hq, Option.some.injEq] at h; subst h; exact hy
  · simp only [if_neg hq] at h; exact hv q z h

theorem VR_dictSet (dk : Str) (m : Kvs) (l0 : List (Str × Str)) (l y : Str) (hy : y ≠ [])
    (h : LR m l0) (hv : ∀ q z, lookup q l0 = some z → z ≠ []) :
    VR (.dict (mergeTop dk m l (.str y))) (some (.d (dictSet l0 l y))) :=
  ⟨_, rfl, C08.ne_nil_of_has (q := l) (by rw [mergeTop_has]; simp), LR_dictSet dk m l0 l y hy h hv,
    dictSet_vals l0 l y hy hv⟩

theorem mergeLang_single (a : List (Str × Str)) (l y : Str) : mergeLang a [(l, y)] = some (dictSet a l y) := by
  simp [mergeLang]

/-- one `merge_dicts` step on an attribute value: `Headers.merge` against `Binds.mergeVal` -/
theorem VR_merge (dk : Str) (vo : V) (old : BVal) (rest : List Str) (val : Str) (hval : val ≠ [])
    (nv r : BVal)
    (hnv : cellVal rest val = some nv)
    (h : VR vo (some old)) (hm : mergeVal dk old nv = some r) :
    VR (merge dk vo (nest rest val)) (some r) := by
  -- by the shape of the cell (`attr` / `attr::lang`), of the old value (string / language dict) and whether the
  -- default language is already filed: each case is one of C08's facts about `merge`
  rcases cellVal_some hnv with ⟨rfl, rfl⟩ | ⟨l, rfl, rfl⟩
  · simp only [nest]
    cases old with
    | s x =>
      obtain ⟨rfl, hx⟩ := h
      simp only [mergeVal, Option.some.injEq] at hm
      subst hm
      exact ⟨C08.two_strings_later_wins dk x val hx hval, hval⟩
    | d l0 =>
      obtain ⟨m, rfl, hne, hlr, hv⟩ := h
      simp only [mergeVal] at hm
      by_cases hd : (lookup dk l0).isSome = true
      · rw [if_pos hd] at hm
        simp only [Option.some.injEq] at hm
        subst hm
        have : m.has dk = true := by rw [(hlr dk).1]; exact hd
        rw [C08.default_suffix_wins_before dk val m hval this]
        exact ⟨m, rfl, hne, hlr, hv⟩
      · rw [if_neg hd, mergeLang_single] at hm
        simp only [Option.map_some, Option.some.injEq] at hm
        subst hm
        have hh : m.has dk = false := by
          rw [(hlr dk).1]; simpa using hd
        rw [C08.unsuffixed_is_default_before dk val m hval hne hh]
        have e : m.append (.cons dk (.str val) .nil) = mergeTop dk m dk (.str val) := by
          have := C08.new_language_appended dk dk (.str val) m hne hh
          rw [merge_dict_single] at this
          exact (V.dict.inj this).symm
        rw [e]
        exact VR_dictSet dk m l0 dk val hval hlr hv
  · simp only [nest]
    cases old with
    | s x =>
      obtain ⟨rfl, hx⟩ := h
      simp only [mergeVal] at hm
      by_cases hd : (lookup dk [(l, val)]).isSome = true
      · rw [if_pos hd] at hm
        simp only [Option.some.injEq] at hm
        subst hm
        have hl : l = dk := by
          by_cases e : dk = l
          · exact e.symm
          · simp [lookup, e] at hd
        subst hl
        rw [C08.default_suffix_wins_after l x _ hx (by simp [Kvs.has])]
        exact ⟨_, rfl, (fun e => by cases e), LR_single l val, vals_single l val hval⟩
      · rw [if_neg hd, mergeLang_single] at hm
        simp only [Option.map_some, Option.some.injEq] at hm
        subst hm
        have hne : dk ≠ l := by
          intro e; subst e; simp [lookup] at hd
        rw [C08.unsuffixed_is_default_after dk x _ hx (by intro e; cases e) (by simp [Kvs.has, hne])]
        have hds : dictSet [(dk, x)] l val = [(dk, x), (l, val)] := by simp [dictSet, Ne.symm hne]
        rw [hds]
        exact ⟨_, rfl, (fun e => by cases e), LR_cons dk x (LR_single l val), vals_cons dk x hx (vals_single l val hval)⟩
    | d l0 =>
      obtain ⟨m, rfl, hne, hlr, hv⟩ := h
      simp only [mergeVal, mergeLang_single, Option.map_some, Option.some.injEq] at hm
      subst hm
      rw [merge_dict_single]
      exact VR_dictSet dk m l0 l val hval hlr hv

theorem VR_nest (rest : List Str) (val : Str) (hval : val ≠ []) (nv : BVal)
    (hnv : cellVal rest val = some nv) :
    VR (nest rest val) (some nv) := by
  rcases cellVal_some hnv with ⟨rfl, rfl⟩ | ⟨l, rfl, rfl⟩
  · exact ⟨rfl, hval⟩
  · exact ⟨_, rfl, (fun e => by cases e), LR_single l val, vals_single l val hval⟩

/-- one `bind` cell: `merge_dicts(out_row, {"bind": {attr: …}})` against `Binds.setBind` -/
theorem BR_step (dk : Str) (vo : V) (b : Option BindDict) (a : Str) (rest : List Str) (val : Str) (hval : val ≠ [])
    (nv : BVal) (b' : BindDict)
    (hnv : cellVal rest val = some nv)
    (h : BR vo b) (hs : setBind dk (b.getD []) a nv = some b') :
    BR (merge dk vo (nest (a :: rest) val)) (some b') := by
  have hx := VR_nest rest val hval nv hnv
  simp only [nest]
  cases b with
  | none =>
    have hv : vo = .none := h
    subst hv
    rw [merge_none_left]
    simp only [Option.getD_none, setBind, lookup, List.nil_append, Option.some.injEq] at hs
    subst hs
    refine ⟨_, rfl, (fun e => by cases e), ?_⟩
    intro q
    by_cases hq : q = a
    · subst hq; simpa [Kvs.has, Kvs.get, lookup] using hx
    · simp [Kvs.has, Kvs.get, lookup, hq, VR]
  | some bd =>
    obtain ⟨m, rfl, hne, hall⟩ := h
    rw [merge_dict_single]
    refine ⟨_, rfl, C08.ne_nil_of_has (q := a) (by rw [mergeTop_has]; simp), ?_⟩
    intro q
    rw [mergeTop_has, mergeTop_get]
    obtain ⟨hq1, hq2⟩ := hall q
    rw [Option.getD_some] at hs
    obtain ⟨nv', rfl, hnv'⟩ := setBind_eq hs
    rw [dictSet_eq, lookup_set]
    by_cases hq : q = a
    · subst hq
      simp only [if_true, decide_true, Bool.or_true, Option.isSome_some, true_and]
      cases hl : lookup q bd with
      | none =>
        rw [hl] at hq2 hnv'
        subst hnv'
        rw [show m.get q = .none from hq2, merge_none_left]
        exact hx
      | some old =>
        rw [hl] at hq2 hnv'
        exact VR_merge dk (m.get q) old rest val hval nv nv' hnv hq2 hnv'
    · simp only [if_neg hq, decide_eq_false hq, Bool.or_false]
      exact ⟨hq1, hq2⟩

theorem processRow_BR (dl : Str) (key : List (Str × List Str)) : ∀ (cells : List (Str × Str)) (r0 r : PRow) (acc : V),
    BR acc r0.bind → Binds.processRow dl key r0 cells = .ok r →
    BR (C08.colFold dl key "bind".toList acc (cells.map fun c => (c.1, cleanCell c.2))) r.bind := by
  intro cells
  induction cells with
  | nil =>
    intro r0 r acc h hp
    simp only [Binds.processRow, Except.ok.injEq] at hp
    subst hp
    simpa [C08.colFold] using h
  | cons c rest ih =>
    intro r0 r acc h hp
    obtain ⟨hd, v⟩ := c
    simp only [Binds.processRow] at hp
    split at hp
    · next r1 h1 =>
      obtain ⟨hval, toks, hl, ht⟩ := stepCell_ok h1
      simp only [List.map_cons, C08.colFold, hl]
      rcases stepTokens_bind ht with ⟨t, ts, rfl, hne, hb⟩ | ⟨a, rs, nv, b', rfl, hnv, hs, hb⟩
      · simp only [if_neg (Ne.symm hne)]
        exact ih r1 r acc (by rw [hb]; exact h) hp
      · simp only [if_true]
        exact ih r1 r _ (by rw [hb]; exact BR_step dl acc r0.bind a rs _ hval nv b' hnv h hs) hp
    · cases hp

/-- Where the bind slice's `process_row` succeeds, `Pyxv.Headers.processRow` (C08's model of the same function) succeeds
    on the cleaned cells under `row_grouping`'s hypotheses, and its `bind` column is the slice's bind dict by lookup
    (`BR`; order is not compared).  `key` is a parameter: the header loops `Binds.headerKeys` / `Headers.headerLoop` are
    not related by a theorem. -/
theorem processRow_bind_agrees (dl : Str) (key : List (Str × List Str)) (cells : List (Str × Str)) (r : PRow)
    (hok : Binds.processRow dl key {} cells = .ok r)
    (hwf : ∀ c ∈ cells.map (fun c => (c.1, cleanCell c.2)),
      c.1 ≠ "__row".toList ∧ ∃ t ts, lookup c.1 key = some (t :: ts))
    (hnc : C08.NoClash dl key .nil (cells.map fun c => (c.1, cleanCell c.2))) :
    ∃ out, Headers.processRow dl key (cells.map fun c => (c.1, cleanCell c.2)) = .ok out ∧
      BR (out.get "bind".toList) r.bind := by
  obtain ⟨out, ho, hg⟩ := C08.row_grouping dl key _ .nil hwf hnc
  refine ⟨out, ho, ?_⟩
  rw [hg "bind".toList]
  exact processRow_BR dl key cells {} r _ (by simp [BR, Kvs.get]) hok

/-! non-vacuity: a row with a plain logic cell and a translated message meets every hypothesis -/

private def s (x : String) : Str := x.toList
private def exKey : List (Str × List Str) :=
  [(s "relevant", [s "bind", s "relevant"]), (s "constraint_message::fr", [s "bind", s "jr:constraintMsg", s "fr"])]
private def exCells : List (Str × Str) := [(s "relevant", s " a  > 1 "), (s "constraint_message::fr", s "Non")]

example : ∃ r out, Binds.processRow (s "default") exKey {} exCells = .ok r ∧
    Headers.processRow (s "default") exKey (exCells.map fun c => (c.1, cleanCell c.2)) = .ok out ∧
    BR (out.get (s "bind")) r.bind := by
  have hok : ∃ r, Binds.processRow (s "default") exKey {} exCells = .ok r := by
    cases h : Binds.processRow (s "default") exKey {} exCells with
    | ok r => exact ⟨r, rfl⟩
    | error e =>
      have : (match Binds.processRow (s "default") exKey {} exCells with | .ok _ => true | .error _ => false) = true := by
        decide +kernel
      rw [h] at this; cases this
  obtain ⟨r, hr⟩ := hok
  have hmem : ∀ c ∈ exCells.map (fun c => (c.1, cleanCell c.2)), ∃ t a ts, lookup c.1 exKey = some (t :: a :: ts) := by
    intro c hc
    simp only [exCells, List.map_cons, List.map_nil, List.mem_cons, List.mem_nil_iff, or_false] at hc
    rcases hc with rfl | rfl
    · exact ⟨s "bind", s "relevant", [], by decide⟩
    · exact ⟨s "bind", s "jr:constraintMsg", [s "fr"], by decide⟩
  obtain ⟨out, ho, hb⟩ := processRow_bind_agrees (s "default") exKey exCells r hr
    (by
      intro c hc
      obtain ⟨t, a, ts, hl⟩ := hmem c hc
      refine ⟨?_, t, a :: ts, hl⟩
      intro e
      rw [e] at hl
      have : lookup "__row".toList exKey = none := by decide
      rw [this] at hl
      cases hl)
    (by
      intro pre h v post hs t hl x
      have hm : (h, v) ∈ exCells.map (fun c => (c.1, cleanCell c.2)) := by rw [hs]; simp
      obtain ⟨t', a, ts, hl'⟩ := hmem (h, v) hm
      simp only at hl'
      rw [hl'] at hl
      cases hl)
  exact ⟨r, out, hr, ho, hb⟩

end Pyxv.C05
