import Pyxv.Proofs.C08
import Pyxv.Model.Texts
import Pyxv.Proofs.ItextSlots
import Pyxv.Proofs.BaseLemmas
/-!
# The `Texts` model: what its definitions do

`lookupT` reads back the last write, and only the writes to `[id][form]` matter; `getTranslations` files six slots with the
keys `Itext.textKeys`, so what an element files under the id and content type of one slot is that slot's dict
(`filter_own_slot`); every entry of an element, a choice or a media dict carries its owner's id, and ids are C07's.  The
property theorems are in C08Text.lean.
-/
namespace Pyxv.C08
open Pyxv Pyxv.Headers Pyxv.Texts

/-- only the writes to `[id][form]` matter for what is read there -/
theorem lookupT_filter (T : List Entry) (lang id form : Str) :
    lookupT T lang id form = lookupT (T.filter fun e => decide (e.id = id ∧ e.form = form)) lang id form := by
  simp only [lookupT, List.foldl_filter]
  congr 1; funext acc e
  by_cases hp : e.id = id ∧ e.form = form
  · rw [if_pos (decide_eq_true hp)]
  · simp only [hp, decide_false, and_false, if_false, Bool.false_eq_true]

theorem lookupT_dictEntries_aux (id form lang : Str) : ∀ (m : Kvs) (acc : Option V), m.keys.Nodup →
    ((Kvs.items m).map fun (lt : Str × V) => (⟨lt.1, id, form, lt.2⟩ : Entry)).foldl
      (fun acc e => if e.lang = lang ∧ e.id = id ∧ e.form = form then some e.text else acc) acc =
    if m.has lang then some (m.get lang) else acc
  | .nil, acc, _ => by simp [Kvs.items, Kvs.has]
  | .cons k v rest, acc, hnd => by
    simp only [Kvs.keys, List.nodup_cons] at hnd
    simp only [Kvs.items, List.map_cons, List.foldl_cons, and_self, and_true]
    rw [lookupT_dictEntries_aux id form lang rest _ hnd.2]
    by_cases hk : k = lang
    · subst hk
      have : rest.has k = false := Bool.eq_false_iff.mpr fun h => hnd.1 ((Kvs.has_iff_mem_keys rest k).mp h)
      simp [this, Kvs.has, Kvs.get]
    · have hk' : ¬ lang = k := fun e => hk e.symm
      simp [hk, hk', Kvs.has, Kvs.get]

/-- reading the entries of one `language → text` dict gives that dict back -/
theorem lookupT_dictEntries (id form lang : Str) (m : Kvs) (hnd : m.keys.Nodup) :
    lookupT (dictEntries id form (.dict m)) lang id form = if m.has lang then some (m.get lang) else none := by
  simp only [lookupT, dictEntries]
  exact lookupT_dictEntries_aux id form lang m none hnd

theorem mem_dedup : ∀ (xs acc : List Str) (x : Str), x ∈ dedup xs acc ↔ x ∈ xs ∨ x ∈ acc
  | [], acc, x => by simp [dedup]
  | y :: ys, acc, x => by
    by_cases hc : acc.contains y = true
    · have hy : y ∈ acc := by simpa using hc
      simp only [dedup, hc, if_true, mem_dedup ys acc x, List.mem_cons]
      rw [or_assoc, or_iff_right_of_imp fun e : x = y => Or.inr (e ▸ hy)]
    · simp only [dedup, hc, if_false, Bool.false_eq_true, mem_dedup ys (y :: acc) x, List.mem_cons]
      rw [or_assoc, or_left_comm]

theorem items_keys : ∀ m : Kvs, (Kvs.items m).map (·.1) = m.keys
  | .nil => rfl
  | .cons _ _ rest => congrArg _ (items_keys rest)

/-- the languages a `language → text` slot files text under are its keys -/
theorem dictEntries_langs (id form : Str) (m : Kvs) (l : Str) :
    (∃ e ∈ dictEntries id form (.dict m), e.lang = l) ↔ m.has l = true := by
  rw [Kvs.has_iff_mem_keys, ← items_keys]
  simp only [dictEntries, List.mem_map]
  constructor
  · rintro ⟨e, ⟨kv, hkv, rfl⟩, rfl⟩
    exact ⟨kv, hkv, rfl⟩
  · rintro ⟨kv, hkv, rfl⟩
    exact ⟨_, ⟨kv, hkv, rfl⟩, rfl⟩

theorem dictEntries_id_form {id form : Str} {v : V} {x : Entry} (h : x ∈ dictEntries id form v) :
    x.id = id ∧ x.form = form := by
  cases v with
  | none => simp [dictEntries] at h
  | str t => simp [dictEntries] at h
  | dict m =>
    simp only [dictEntries, List.mem_map] at h
    obtain ⟨_, _, rfl⟩ := h
    exact ⟨rfl, rfl⟩

theorem choiceId_eq (c : Choice) : c.id = Itext.choiceId c.list c.idx := by
  simp [Choice.id, Itext.choiceId, natStr, s, List.append_assoc]

/-- a choice id is never an element id (C07's `choiceId_ne_path`) -/
theorem choice_id_ne_path (c : Choice) (p : Str) {d : String} (hd : d ∈ Itext.displays) : c.id ≠ Itext.path p d :=
  choiceId_eq c ▸ Itext.choiceId_ne_path c.list c.idx p hd

theorem labelId_eq (p : Str) : p ++ s ":label" = Itext.path p "label" := by simp [Itext.path, s]

theorem hintId_eq (p : Str) : p ++ s ":hint" = Itext.path p "hint" := by simp [Itext.path, s]

/-- the filter `OwnEntries` is stated with -/
def isAt (id form : Str) (x : Entry) : Bool := decide (x.id = id ∧ x.form = form)

theorem filter_isAt_nil {id form : Str} {l : List Entry} (h : ∀ x ∈ l, x.id = id → x.form ≠ form) :
    l.filter (isAt id form) = [] := by
  rw [List.filter_eq_nil_iff]
  intro x hx hP
  simp only [isAt, decide_eq_true_eq] at hP
  exact h x hx hP.1 hP.2

theorem filter_isAt_self {id form : Str} {l : List Entry} (h : ∀ x ∈ l, x.id = id ∧ x.form = form) :
    l.filter (isAt id form) = l := by
  rw [List.filter_eq_self]
  intro x hx
  simp [isAt, h x hx]

theorem msgsOf_eq (dl : Str) (e : Elem) :
    msgsOf dl e = ["jr:constraintMsg", "jr:requiredMsg", "jr:noAppErrorString"].flatMap fun d =>
      msgEntries dl (e.path ++ s ":" ++ s d) (s d) (getK e.bind (s d)) := by
  unfold msgsOf
  cases e.bind with
  | dict b => cases b <;> simp [getK, V.falsy, msgKeys, msgEntries, Kvs.get]
  | none => simp [getK, msgEntries]
  | str t => simp [getK, msgEntries]

/-- the `language → text` dict a bind message files (a plain message with a reference: under the default language) -/
def msgFiled (dl k : Str) : V → V
  | .dict m => .dict m
  | .str t => if k ≠ s "jr:noAppErrorString" && !t.isEmpty && hasBracketedTag t then wrapDl dl (.str t) else .none
  | .none => .none

theorem msgEntries_eq (dl id k : Str) (v : V) : msgEntries dl id k v = dictEntries id (s "long") (msgFiled dl k v) := by
  cases v with
  | none | dict _ => rfl
  | str t => simp only [msgEntries, msgFiled]; split <;> rfl

/-- (display element, content type, filed dict) of the six text slots of an element: the keys are `Itext.textKeys` -/
def tSlots (dl : Str) (e : Elem) : List (String × String × V) :=
  [("jr:constraintMsg", "long", msgFiled dl (s "jr:constraintMsg") (getK e.bind (s "jr:constraintMsg"))),
   ("jr:requiredMsg", "long", msgFiled dl (s "jr:requiredMsg") (getK e.bind (s "jr:requiredMsg"))),
   ("jr:noAppErrorString", "long", msgFiled dl (s "jr:noAppErrorString") (getK e.bind (s "jr:noAppErrorString"))),
   ("label", "long", labelV dl e), ("hint", "long", hintV dl e), ("hint", "guidance", guidanceV dl e)]

def tBlock (p : Str) (sl : String × String × V) : List Entry := dictEntries (Itext.path p sl.1) sl.2.1.toList sl.2.2

theorem getTranslations_eq (dl : Str) (e : Elem) : getTranslations dl e = (tSlots dl e).flatMap (tBlock e.path) := by
  simp only [getTranslations, msgsOf_eq, msgEntries_eq, tSlots, tBlock, List.flatMap_cons, List.flatMap_nil,
    List.append_nil, List.append_assoc, labelId_eq, hintId_eq]
  rfl

theorem tSlots_keys (dl : Str) (e : Elem) : (tSlots dl e).map Itext.slotKey = Itext.textKeys := rfl

theorem tSlot_display {dl : Str} {e : Elem} {sl : String × String × V} (h : sl ∈ tSlots dl e) : sl.1 ∈ Itext.displays :=
  Itext.slot_display (tSlots_keys dl e) h

theorem msg_mem_tSlots {dl : Str} {e : Elem} {d : String} {b m : Kvs} (hd : d = "jr:constraintMsg" ∨ d = "jr:requiredMsg")
    (hb : e.bind = .dict b) (hk : b.get d.toList = .dict m) : (d, "long", V.dict m) ∈ tSlots dl e := by
  have hk' : getK e.bind (s d) = .dict m := by rw [hb]; exact hk
  rcases hd with rfl | rfl <;> simp [tSlots, hk', msgFiled]

/-- every entry an element files carries one of its own ids `<xpath>:<display>` -/
theorem getTranslations_ids (dl : Str) (e : Elem) {x : Entry} (h : x ∈ getTranslations dl e) :
    ∃ d ∈ Itext.displays, x.id = Itext.path e.path d := by
  rw [getTranslations_eq, List.mem_flatMap] at h
  obtain ⟨sl, hsl, hx⟩ := h
  exact ⟨sl.1, tSlot_display hsl, (dictEntries_id_form hx).1⟩

/-- the entries filed for one (key, value) item of a label or media dict carry the given id, and the form `form` (nested value)
or `form'` (plain value) -/
theorem mem_valueEntries {id form form' l : Str} {value : V} {x : Entry}
    (h : x ∈ (match value with
      | .dict inner => (Kvs.items inner).map fun (lv : Str × V) => (⟨lv.1, id, form, lv.2⟩ : Entry)
      | v => [⟨l, id, form', v⟩])) : x.id = id ∧ (x.form = form ∨ x.form = form') := by
  split at h
  · obtain ⟨_, _, rfl⟩ := List.mem_map.mp h; exact ⟨rfl, .inl rfl⟩
  · cases List.mem_singleton.mp h; exact ⟨rfl, .inr rfl⟩

theorem choiceEntries_id {dl : Str} {c : Choice} {x : Entry} (h : x ∈ choiceEntries dl c) : x.id = c.id := by
  unfold choiceEntries at h
  simp only [List.mem_append] at h
  -- the label part, then the media part: nothing if falsy, else the items of the dict (a plain label: one entry)
  rcases h with h | h
  · split at h
    · simp at h
    · split at h
      · obtain ⟨⟨lang, value⟩, _, hx⟩ := List.mem_flatMap.mp h
        exact (mem_valueEntries hx).1
      · simp at h; subst h; rfl
  · split at h
    · simp at h
    · split at h
      · obtain ⟨⟨mt, value⟩, _, hx⟩ := List.mem_flatMap.mp h
        exact (mem_valueEntries hx).1
      · simp at h

/-- with pairwise distinct keys, what passes a filter that only entries of `a`'s key can pass is what `a` itself files -/
theorem filter_flatMap_own {α β : Type} (k : α → β) (g : α → List Entry) (p : Entry → Bool) (a : α) (l : List α)
    (hoth : ∀ b ∈ l, k b ≠ k a → (g b).filter p = []) (hmem : a ∈ l) (hnd : (l.map k).Nodup) :
    (l.flatMap g).filter p = (g a).filter p := by
  rw [List.filter_flatMap]
  exact flatMap_single k _ l hnd a hmem hoth

/-- what an element files under the id and content type of one of its slots is that slot's dict, whole: the other five
have another display element or content type -/
theorem filter_own_slot (dl : Str) (e : Elem) {d form : String} {v : V} (hs : (d, form, v) ∈ tSlots dl e) :
    (getTranslations dl e).filter (isAt (Itext.path e.path d) form.toList) =
      dictEntries (Itext.path e.path d) form.toList v := by
  rw [getTranslations_eq, filter_flatMap_own Itext.slotKey (tBlock e.path) _ (d, form, v) _ (fun sl hsl hk => ?_) hs
    (tSlots_keys dl e ▸ Itext.textKeys_nodup)]
  · exact filter_isAt_self fun _ hx => dictEntries_id_form hx
  · refine filter_isAt_nil fun x hx hid hf => hk (Prod.ext ?_ ?_)
    · exact (Itext.path_inj (tSlot_display hsl) (tSlot_display hs) ((dictEntries_id_form hx).1.symm.trans hid)).2
    · exact String.toList_injective ((dictEntries_id_form hx).2.symm.trans hf)

theorem filter_own_hint (dl : Str) (e : Elem) (m : Kvs) (hh : hintV dl e = .dict m) :
    (getTranslations dl e).filter (isAt (Itext.path e.path "hint") (s "long")) =
      dictEntries (e.path ++ s ":hint") (s "long") (.dict m) := by
  rw [hintId_eq]
  exact filter_own_slot dl e (d := "hint") (form := "long") (by simp [tSlots, hh])

theorem filter_own_guidance (dl : Str) (e : Elem) (m : Kvs) (hg : guidanceV dl e = .dict m) :
    (getTranslations dl e).filter (isAt (Itext.path e.path "hint") (s "guidance")) =
      dictEntries (e.path ++ s ":hint") (s "guidance") (.dict m) := by
  rw [hintId_eq]
  exact filter_own_slot dl e (d := "hint") (form := "guidance") (by simp [tSlots, hg])

theorem filter_own_msg (dl : Str) (e : Elem) (d : String) (b m : Kvs)
    (hd : d = "jr:constraintMsg" ∨ d = "jr:requiredMsg")
    (hb : e.bind = .dict b) (hk : b.get d.toList = .dict m) :
    (getTranslations dl e).filter (isAt (Itext.path e.path d) (s "long")) =
      dictEntries (Itext.path e.path d) (s "long") (.dict m) :=
  filter_own_slot dl e (msg_mem_tSlots hd hb hk)

/-- every value of the dict is a plain string (a translated label as rows produce it: language → text) -/
def AllStr : Kvs → Prop
  | .nil => True
  | .cons _ v rest => (∃ t, v = .str t) ∧ AllStr rest

theorem label_items_flat (id : Str) : ∀ (m : Kvs), AllStr m →
    ((Kvs.items m).flatMap fun (lv : Str × V) =>
      match lv.2 with
      | .dict inner => (Kvs.items inner).map fun (lv' : Str × V) => (⟨lv'.1, id, lv.1, lv'.2⟩ : Entry)
      | v => [⟨lv.1, id, s "long", v⟩]) =
    (Kvs.items m).map fun (lt : Str × V) => (⟨lt.1, id, s "long", lt.2⟩ : Entry)
  | .nil, _ => by simp [Kvs.items]
  | .cons k v rest, h => by
    obtain ⟨⟨t, rfl⟩, hr⟩ := h
    simp only [Kvs.items, List.flatMap_cons, List.map_cons]
    rw [label_items_flat id rest hr]
    rfl

/-- the choice without its label: what it files is the media part of `choiceEntries` -/
def noLabel (c : Choice) : Choice := { c with label := .none }

theorem noLabel_id (c : Choice) : (noLabel c).id = c.id := rfl

/-- a choice's entries = its label dict's entries, then the entries of its media -/
theorem choiceEntries_split (dl : Str) (c : Choice) (m : Kvs) (hlab : c.label = .dict m) (hne : m ≠ .nil) (hstr : AllStr m) :
    choiceEntries dl c = dictEntries c.id (s "long") (.dict m) ++ choiceEntries dl (noLabel c) := by
  have hn : (V.none).falsy = true := rfl
  have hid : ({ c with label := V.none } : Choice).id = c.id := rfl
  unfold choiceEntries
  simp only [hlab, falsy_dict hne, Bool.false_eq_true, if_false, noLabel, hn, if_true, List.nil_append, hid]
  have := label_items_flat c.id m hstr
  simp only [dictEntries]
  rw [← this]
  rfl

theorem choiceEntries_nolabel_form {dl : Str} {c : Choice} {x : Entry} (h : x ∈ choiceEntries dl (noLabel c)) :
    ∃ kvs mt v, c.media = .dict kvs ∧ (mt, v) ∈ Kvs.items kvs ∧ x.form = mt := by
  have hn : (V.none).falsy = true := rfl
  unfold choiceEntries at h
  simp only [noLabel, hn, if_true, List.nil_append] at h
  by_cases hmf : c.media.falsy = true
  · simp [hmf] at h
  · simp only [hmf, if_false, Bool.false_eq_true] at h
    cases hm : c.media with
    | none => simp [hm] at h
    | str t => simp [hm] at h
    | dict kvs =>
      simp only [hm] at h
      obtain ⟨⟨mt, value⟩, hmem, hx⟩ := List.mem_flatMap.mp h
      exact ⟨kvs, mt, value, rfl, hmem, (mem_valueEntries hx).2.elim id id⟩

/-- the entries of a choice under its own id with form `long` are exactly its label dict (no media type is called `long`) -/
theorem filter_own_choice (dl : Str) (c : Choice) (m : Kvs) (hlab : c.label = .dict m) (hne : m ≠ .nil) (hstr : AllStr m)
    (hmedia : ∀ kvs, c.media = .dict kvs → ∀ kv ∈ Kvs.items kvs, kv.1 ≠ s "long") :
    (choiceEntries dl c).filter (isAt c.id (s "long")) = dictEntries c.id (s "long") (.dict m) := by
  rw [choiceEntries_split dl c m hlab hne hstr, List.filter_append, filter_isAt_self fun _ hx => dictEntries_id_form hx,
    filter_isAt_nil fun x hx _ hf => by
      obtain ⟨kvs, mt, v, hm, hmem, hform⟩ := choiceEntries_nolabel_form hx
      exact hmedia kvs hm (mt, v) hmem (hform ▸ hf),
    List.append_nil]

theorem mediaEntries_id {dl : Str} {e : Elem} {x : Entry} (h : x ∈ mediaEntries dl e) : x.id = Itext.path e.path "label" := by
  unfold mediaEntries at h
  split at h
  · obtain ⟨⟨mt, v⟩, _, hx⟩ := List.mem_flatMap.mp h
    exact (mem_valueEntries hx).1.trans (labelId_eq e.path)
  · simp at h

end Pyxv.C08
