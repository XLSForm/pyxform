import Pyxv.Proofs.CsvReader
import Pyxv.Model.ChoicesSpec
import Pyxv.Proofs.XmlView
import Pyxv.Proofs.DictLemmas
import Pyxv.Proofs.BaseLemmas
/-! Helper lemmas for `Pyxv.Proofs.C09`: grouping (`addToGroup` is a dict update), the `seen` loop of instance emission,
and the instance ids of a tree under the XML reader's view.  The CSV reader / writer: `CsvReader.lean`. -/
namespace Pyxv.Choices
open Pyxv Pyxv.Rows

theorem addToGroup_eq (g : Str) (row : Cells) (acc : List (Str × List Cells)) :
    addToGroup g row acc = AList.upd g (fun o => o.getD [] ++ [row]) acc := by
  induction acc with
  | nil => rfl
  | cons p r ih => rw [addToGroup, AList.upd, ih]; rfl

theorem lookup_addToGroup (l g : Str) (row : Cells) (acc : List (Str × List Cells)) :
    lookup l (addToGroup g row acc) =
      if l = g then some ((lookup l acc).getD [] ++ [row]) else lookup l acc := by
  rw [addToGroup_eq, lookup_upd]
  split
  · next e => rw [e]
  · rfl

theorem fold_group (key l : Str) (rows : List Cells) : ∀ acc : List (Str × List Cells),
    (lookup l (rows.foldl (groupStep key) acc)).getD [] =
      (lookup l acc).getD [] ++ Spec.listRows key l rows := by
  induction rows with
  | nil => intro acc; simp [Spec.listRows]
  | cons r rs ih =>
    intro acc
    simp only [List.foldl_cons]
    rw [ih]
    cases hr : lookup key r with
    | none => simp [groupStep, hr, Spec.listRows]
    | some g =>
      by_cases hl : l = g
      · subst hl
        simp [groupStep, hr, Spec.listRows, lookup_addToGroup]
      · have : ¬ g = l := fun h => hl h.symm
        simp [groupStep, hr, Spec.listRows, lookup_addToGroup, hl, this]

theorem keys_addToGroup (g : Str) (row : Cells) (acc : List (Str × List Cells)) :
    (addToGroup g row acc).map (·.1) =
      if g ∈ acc.map (·.1) then acc.map (·.1) else acc.map (·.1) ++ [g] := by
  rw [addToGroup_eq, AList.keys_upd]
  congr

theorem itemsFrom_eq (b : Bool) (l : Str) (cs : List Choice) (k : Nat) :
    itemsFrom b l k cs = (cs.zipIdx k).map fun p => itemOf b l p.2 p.1 := by
  induction cs generalizing k with
  | nil => rfl
  | cons c rest ih => rw [itemsFrom, ih]; rfl

theorem findSeen_name {name : Str} {seen : List Inst} {p : Inst} (h : findSeen name seen = some p) : p.name = name := by
  induction seen with
  | nil => simp [findSeen] at h
  | cons i rest ih =>
    by_cases hn : i.name = name
    · simp [findSeen, hn] at h; subst h; exact hn
    · simp [findSeen, hn] at h; exact ih h

theorem findSeen_cons_none {n : Str} {i : Inst} {seen : List Inst} :
    findSeen n (i :: seen) = none ↔ i.name ≠ n ∧ findSeen n seen = none := by
  by_cases h : i.name = n <;> simp [findSeen, h]

theorem emitInsts_cons {seen : List Inst} {i : Inst} {rest out : List Inst}
    (h : emitInsts seen (i :: rest) = some out) :
    (∃ prior, findSeen i.name seen = some prior ∧ prior.src = i.src ∧ emitInsts seen rest = some out) ∨
    (findSeen i.name seen = none ∧ ∃ out', emitInsts (i :: seen) rest = some out' ∧ out = i :: out') := by
  simp only [emitInsts] at h
  cases hs : findSeen i.name seen with
  | some prior =>
    simp only [hs] at h
    split at h
    · cases h
    · next hsrc => exact .inl ⟨prior, rfl, by simpa using hsrc, h⟩
  | none =>
    simp only [hs] at h
    cases hr : emitInsts (i :: seen) rest with
    | none => simp [hr] at h
    | some out' => exact .inr ⟨rfl, out', rfl, by simpa [hr] using h.symm⟩

theorem emit_inv (is : List Inst) : ∀ (seen out : List Inst), emitInsts seen is = some out →
    (out.map (·.name)).Nodup ∧ (∀ o ∈ out, findSeen o.name seen = none) ∧ out.Sublist is := by
  induction is with
  | nil => intro seen out h; simp [emitInsts] at h; subst h; simp
  | cons i rest ih =>
    intro seen out h
    rcases emitInsts_cons h with ⟨_, _, _, h⟩ | ⟨hs, out', hr, rfl⟩
    · obtain ⟨h1, h2, h3⟩ := ih seen out h
      exact ⟨h1, h2, h3.cons i⟩
    · obtain ⟨h1, h2, h3⟩ := ih (i :: seen) out' hr
      refine ⟨?_, ?_, h3.cons_cons i⟩
      · simp only [List.map_cons, List.nodup_cons]
        refine ⟨fun hmem => ?_, h1⟩
        obtain ⟨o, ho, hn⟩ := List.mem_map.mp hmem
        exact (findSeen_cons_none.1 (h2 o ho)).1 hn.symm
      · intro o ho
        rcases List.mem_cons.mp ho with rfl | ho'
        · exact hs
        · exact (findSeen_cons_none.1 (h2 o ho')).2

theorem emit_declares (is : List Inst) : ∀ (seen out : List Inst), emitInsts seen is = some out →
    ∀ i ∈ is, (∃ o ∈ out, o.name = i.name ∧ o.src = i.src) ∨ (∃ p, findSeen i.name seen = some p ∧ p.src = i.src) := by
  induction is with
  | nil => intro seen out _ i hi; simp at hi
  | cons x rest ih =>
    intro seen out h i hi
    rcases emitInsts_cons h with ⟨prior, hs, hsrc, h⟩ | ⟨hs, out', hr, rfl⟩
    · cases List.mem_cons.mp hi with
      | inl e => subst e; exact Or.inr ⟨prior, hs, hsrc⟩
      | inr hi' => exact ih seen out h i hi'
    · cases List.mem_cons.mp hi with
      | inl e => subst e; exact Or.inl ⟨i, by simp, rfl, rfl⟩
      | inr hi' =>
        cases ih (x :: seen) out' hr i hi' with
        | inl h1 =>
          obtain ⟨o, ho, hn, hsr⟩ := h1
          exact Or.inl ⟨o, List.mem_cons_of_mem _ ho, hn, hsr⟩
        | inr h2 =>
          obtain ⟨p, hp, hsr⟩ := h2
          by_cases hn : x.name = i.name
          · simp [findSeen, hn] at hp; subst hp
            exact Or.inl ⟨x, by simp, hn, hsr⟩
          · simp [findSeen, hn] at hp
            exact Or.inr ⟨p, hp, hsr⟩

/-- what `groupStep` does to the list of keys -/
def appendNew (acc : List Str) (g : Str) : List Str := if g ∈ acc then acc else acc ++ [g]

theorem keys_fold (key : Str) (rows : List Cells) : ∀ acc : List (Str × List Cells),
    (rows.foldl (groupStep key) acc).map (·.1) = (rows.filterMap (lookup key)).foldl appendNew (acc.map (·.1)) := by
  induction rows with
  | nil => intro acc; simp
  | cons r rs ih =>
    intro acc
    simp only [List.foldl_cons]
    rw [ih]
    cases hr : lookup key r with
    | none => simp [groupStep, hr]
    | some g => simp [groupStep, hr, keys_addToGroup, appendNew]

theorem foldl_appendNew (gs : List Str) : ∀ acc : List Str,
    gs.foldl appendNew acc = acc ++ (Spec.dedup gs).filter (fun x => decide (x ∉ acc)) := by
  induction gs with
  | nil => intro acc; simp [Spec.dedup]
  | cons g rest ih =>
    intro acc
    -- with `g` among the keys, what follows is filtered against `g` as well
    have hf : ∀ acc' : List Str, (∀ x, x ∈ acc' ↔ x ∈ acc ∨ x = g) →
        (Spec.dedup rest).filter (fun x => decide (x ∉ acc')) =
          ((Spec.dedup rest).filter (· ≠ g)).filter (fun x => decide (x ∉ acc)) := by
      intro acc' h
      rw [List.filter_filter]
      exact List.filter_congr fun x _ => by by_cases hx : x ∈ acc <;> by_cases hxg : x = g <;> simp [h, hx, hxg]
    rw [List.foldl_cons, ih, Spec.dedup, appendNew, List.filter_cons]
    by_cases hg : g ∈ acc
    · rw [if_pos hg, if_neg (by simpa using hg), hf acc fun x => ⟨.inl, fun h => h.elim id (· ▸ hg)⟩]
    · rw [if_neg hg, if_pos (by simpa using hg), hf (acc ++ [g]) fun x => by simp, List.append_assoc]; rfl

theorem mem_dedup {x : Str} : ∀ {l : List Str}, x ∈ Spec.dedup l ↔ x ∈ l
  | [] => by simp [Spec.dedup]
  | a :: l => by
    by_cases h : x = a
    · subst h; simp [Spec.dedup]
    · simp [Spec.dedup, List.mem_filter, mem_dedup (l := l), h]

theorem dedup_nodup : ∀ l : List Str, (Spec.dedup l).Nodup
  | [] => .nil
  | x :: xs => by
    rw [Spec.dedup, List.nodup_cons]
    exact ⟨by simp [List.mem_filter], (dedup_nodup xs).sublist List.filter_sublist⟩

theorem paramsOf_append (a b : Cells) : paramsOf (a ++ b) = paramsOf a ++ paramsOf b := by
  simp [paramsOf, List.filterMap_append]

theorem paramsOf_prefixed (ps : Cells) :
    paramsOf (ps.map fun kv => (c!"parameters::" ++ kv.1, kv.2)) = ps := by
  -- every prefixed cell passes the filter and loses the twelve characters again
  rw [paramsOf, List.filterMap_map]
  exact (filterMap_congr fun kv _ => by
    simp only [Function.comp, startsWith_append_self, if_true]; rfl).trans List.filterMap_some

theorem hasOther_addOtherTo (cs : List Choice) : hasOther (addOtherTo cs) = true := by
  unfold addOtherTo
  by_cases h : hasOther cs = true
  · rw [if_pos h, h]
  · rw [if_neg h]; simp [hasOther, otherChoice]

theorem addOtherTo_idem (cs : List Choice) : addOtherTo (addOtherTo cs) = addOtherTo cs := by
  have h := hasOther_addOtherTo cs
  generalize addOtherTo cs = d at h ⊢
  rw [addOtherTo, if_pos h]

section
open Pyxv.Xml Pyxv.Asm

theorem instanceId_withSpaces (n : Node) : instanceId (withSpaces n) = instanceId n := by
  cases n with
  | text b s => simp [withSpaces]
  | elem t a ks => simp only [withSpaces]; split <;> simp [instanceId]

theorem instanceId_normNode (n : Node) (h : isElem n = true) : instanceId (normNode n) = instanceId n := by
  cases n with
  | text b s => simp [isElem] at h
  | elem t a ks => simp [normNode, instanceId]

theorem isElem_withSpaces (n : Node) : isElem (withSpaces n) = isElem n := by
  cases n with
  | text b s => simp [withSpaces]
  | elem t a ks => simp only [withSpaces]; split <;> simp [isElem]

theorem ids_eprojKids : ∀ ks : List Node, (eprojKids ks).filterMap instanceId = ks.filterMap instanceId
  | [] => by simp [eprojKids_nil]
  | .text b s :: rest => by
    rw [eprojKids_text, ids_eprojKids rest, List.filterMap_cons]; rfl
  | .elem t a ks :: rest => by
    rw [eprojKids_elem, List.filterMap_cons, List.filterMap_cons, ids_eprojKids rest]
    simp [instanceId]

theorem instanceIds_eproj (n : Node) : instanceIds (eproj n) = instanceIds n := by
  cases n with
  | text => rfl
  | elem t a ks => simp only [eproj, instanceIds, ids_eprojKids]

/-- the strict reader's view has the instance ids of the tree: they are attributes of elements -/
theorem instanceIds_expected (t : Node) : instanceIds (expected t) = instanceIds t := by
  rw [← instanceIds_eproj, expected, eproj_normNode, eproj_withSpaces, instanceIds_eproj]

theorem instanceId_instNode (i : Inst) : instanceId (instNode i) = some i.name := by
  unfold instNode; cases i.src <;> simp [instanceId, lookup]

theorem ids_instNodes (out : List Inst) : (out.map instNode).filterMap instanceId = out.map (·.name) := by
  induction out with
  | nil => rfl
  | cons i rest ih => simp [instanceId_instNode, ih]


end

end Pyxv.Choices
