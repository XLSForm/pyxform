import Pyxv.Proofs.C17Rows
/-!
# C17 — further catalogue entries on whole sheets: missing list, or_other with choice_filter, unclosed begin
-/
namespace Pyxv.C17
open Pyxv Pyxv.Form Pyxv.Rows

/-- a row that reaches the select branch of `classifyNamed` (xls2json.py 962 ff.) with list `ln` -/
structure SelectRow (r : Cells) (t name sel ln : Str) (other : Bool) : Prop where
  plain : PlainTyped r t
  hname : Rows.get r "name" = some name
  nameOk : isXmlTag name = true
  noSaveTo : has r "bind::entities:saveto" = false
  notBegin : matchControl "begin" true t = none
  select : matchSelect t = some (sel, ln, other)
  notExternal : sel ≠ "select one external".toList
  plainList : ((splitOnChar '.' ln).length > 1 || isInfix "${".toList ln) = false

theorem classify_select (lists : List Str) (n : Nat) (r : Cells) (t name sel ln : Str) (other : Bool)
    (h : SelectRow r t name sel ln other) :
    classify lists n r = classifySelect lists r name sel ln other := by
  rw [classify_plainTyped lists n r t h.plain]
  simp only [nameOrErr, h.hname, h.nameOk, ↓reduceIte]
  unfold classifyNamed
  simp only [h.noSaveTo, Bool.false_eq_true, ↓reduceIte, h.notBegin, h.select]

/-- xls2json.py 1009-1029: the list of a select is not on the choices sheet -/
theorem classify_listMissing (lists : List Str) (n : Nat) (r : Cells) (t name sel ln : Str) (other : Bool)
    (h : SelectRow r t name sel ln other) (hl : lists.contains ln = false) :
    classify lists n r = .row (.bad (.other "list not in choices".toList)) := by
  rw [classify_select lists n r t name sel ln other h]
  unfold classifySelect
  rw [if_neg h.notExternal]
  simp only [h.plainList, hl, Bool.false_eq_true, ↓reduceIte, Bool.not_false]

/-- xls2json.py 1052-1058: `or_other` together with a choice_filter -/
theorem classify_orOtherFilter (lists : List Str) (n : Nat) (r : Cells) (t name sel ln : Str)
    (h : SelectRow r t name sel ln true) (hl : lists.contains ln = true) (hf : has r "choice_filter" = true) :
    classify lists n r = .row (.bad (.other "or_other with choice_filter".toList)) := by
  rw [classify_select lists n r t name sel ln true h]
  unfold classifySelect
  rw [if_neg h.notExternal]
  simp only [h.plainList, hl, hf, Bool.false_eq_true, ↓reduceIte, Bool.not_true, Bool.and_self]

section
variable (root : Str) (lists : List Str) (settings : Cells)
  (pre : List Cells) (r : Cells) (post : List Cells) (ks ks' : List (Nat × RowK)) (st : St)

theorem list_missing_rejected (t name sel ln : Str) (other : Bool)
    (h1 : classifyAll lists 2 pre = .ok ks) (hrun : run ([], []) ks = .ok st)
    (h3 : classifyAll lists (2 + pre.length + 1) post = .ok ks')
    (h : SelectRow r t name sel ln other) (hl : lists.contains ln = false) :
    formOut root lists (pre ++ r :: post) settings
      = .error (.err (.row (2 + pre.length) (.other "list not in choices".toList))) :=
  row_error_rejected root lists settings pre r post ks ks' st _ h1 hrun
    (classify_listMissing lists _ r t name sel ln other h hl) h3

theorem or_other_filter_rejected (t name sel ln : Str)
    (h1 : classifyAll lists 2 pre = .ok ks) (hrun : run ([], []) ks = .ok st)
    (h3 : classifyAll lists (2 + pre.length + 1) post = .ok ks')
    (h : SelectRow r t name sel ln true) (hl : lists.contains ln = true) (hf : has r "choice_filter" = true) :
    formOut root lists (pre ++ r :: post) settings
      = .error (.err (.row (2 + pre.length) (.other "or_other with choice_filter".toList))) :=
  row_error_rejected root lists settings pre r post ks ks' st _ h1 hrun
    (classify_orOtherFilter lists _ r t name sel ln h hl hf) h3

/-- **a `begin` row that is never closed** (its `end` dropped, or a stray `begin` inserted) between balanced parts: the
    sheet is rejected naming the control -/
theorem unclosed_begin_row_rejected (ts kids : List Item) (ct : Ctl) (name : Str) (b : Bool) (hp : Option QData)
    (h1 : classifyAll lists 2 pre = .ok ks) (hbal : parseRows ks = .ok ts)
    (h2 : classify lists (2 + pre.length) r = .row (.begin_ ct name b hp))
    (h3 : classifyAll lists (2 + pre.length + 1) post = .ok ks') (hbody : parseRows ks' = .ok kids) :
    formOut root lists (pre ++ r :: post) settings = .error (.err (.unmatchedBegin ct name)) :=
  formOut_split_error root lists settings pre r post ks ks' _ _ h1 h2 h3
    (unclosed_begin_rejected ks ks' ts kids _ ct name b hp hbal hbody)
end

def selRow : Cells := [c "type" "select_one colours", c "name" "s", c "label" "S"]
example : SelectRow selRow "select_one colours".toList "s".toList "select one".toList "colours".toList false :=
  ⟨⟨by decide +kernel, by decide +kernel, by decide +kernel, by decide +kernel, by decide +kernel,
    by decide +kernel, by decide +kernel⟩,
   by decide +kernel, by decide +kernel, by decide +kernel, by decide +kernel, by decide +kernel,
   by decide +kernel, by decide +kernel⟩
example : isRowErr 4 (.other "list not in choices".toList)
    (formOut "data".toList ["sizes".toList] (exPre ++ selRow :: exPost) []) = true := by decide +kernel
example : isRowErr 4 (.other "or_other with choice_filter".toList)
    (formOut "data".toList ["colours".toList]
      (exPre ++ [c "type" "select_one colours or_other", c "name" "s", c "label" "S", c "choice_filter" "x=1"] :: exPost) [])
      = true := by decide +kernel
example : (match formOut "data".toList [] ([[c "type" "text", c "name" "a"]] ++
      [c "type" "begin repeat", c "name" "r"] :: [[c "type" "text", c "name" "b"]]) [] with
    | .error (.err (.unmatchedBegin .rep n)) => n == "r".toList | _ => false) = true := by decide +kernel

end Pyxv.C17
