import Pyxv.Proofs.C03Rel
/-!
# C03: the chain list of a well-formed element tree is `Valid`

`El.WF` is what `SurveyElement.validate` / `Section._validate_uniqueness_of_element_names` enforce:
every name is an XML name (here: non-empty, no `/`) and sibling names are pairwise different.
With `chains_valid`, `relative_when_enclosed` needs nothing beyond that (and that the survey root is
not a repeat).
-/
namespace Pyxv.Refs
open Pyxv

def El.name : El → Str | .mk _ n _ => n
def El.kind : El → Kind | .mk k _ _ => k

mutual
def El.WF : El → Prop
  | .mk _ n kids => ('/' ∉ n ∧ n ≠ []) ∧ WFL kids
def WFL : List El → Prop
  | [] => True
  | e :: es => e.WF ∧ (∀ e' ∈ es, e'.name ≠ e.name) ∧ WFL es
end

mutual
theorem chains_head (pre : Chain) : (e : El) → ∀ c ∈ e.chains pre, ∃ suf, c = pre ++ (e.name, e.kind) :: suf
  | .mk k n kids, c, hc => by
    simp only [El.chains, List.mem_cons] at hc
    rcases hc with rfl | hc
    · exact ⟨[], by simp [El.name, El.kind]⟩
    · obtain ⟨e', _, suf, hs⟩ := chainsL_head (pre ++ [(n, k)]) kids c hc
      exact ⟨(e'.name, e'.kind) :: suf, by simp [hs, El.name, El.kind]⟩
theorem chainsL_head (pre : Chain) : (es : List El) → ∀ c ∈ chainsL pre es,
    ∃ e ∈ es, ∃ suf, c = pre ++ (e.name, e.kind) :: suf
  | [], c, hc => by simp [chainsL] at hc
  | e :: es, c, hc => by
    simp only [chainsL, List.mem_append] at hc
    rcases hc with h | h
    · obtain ⟨suf, hs⟩ := chains_head pre e c h
      exact ⟨e, by simp, suf, hs⟩
    · obtain ⟨e', he', suf, hs⟩ := chainsL_head pre es c h
      exact ⟨e', by simp [he'], suf, hs⟩
end

/-- the chain list of a subtree under the prefix `pre`: every chain continues `pre`, and `Valid`'s clauses hold from `pre` downwards -/
structure Inv (pre : Chain) (S : List Chain) : Prop where
  starts : ∀ c ∈ S, ∃ suf, c = pre ++ suf ∧ suf ≠ []
  good : GoodNames pre.path → ∀ c ∈ S, GoodNames c.path
  closed : ∀ c ∈ S, ∀ j, pre.length < j → j ≤ c.length → c.take j ∈ S
  uniq : ∀ c ∈ S, ∀ d ∈ S, c.path = d.path → c = d

theorem path_append (a b : Chain) : Chain.path (a ++ b) = a.path ++ b.path := by simp [Chain.path]

theorem Inv.cons {pre : Chain} {seg : Seg} {S : List Chain} (hn : '/' ∉ seg.1 ∧ seg.1 ≠ [])
    (ih : Inv (pre ++ [seg]) S) : Inv pre ((pre ++ [seg]) :: S) := by
  have hlen : (pre ++ [seg]).length = pre.length + 1 := by simp
  -- a descendant's chain is longer than the element's own
  have longer : ∀ d ∈ S, (pre ++ [seg]).path ≠ d.path := by
    intro d hd hp
    obtain ⟨suf, hs, hne⟩ := ih.starts d hd
    have := congrArg List.length hp
    rw [hs] at this
    simp only [Chain.path, List.length_map, List.length_append] at this
    exact hne (List.length_eq_zero_iff.1 (by omega))
  refine ⟨?_, ?_, ?_, ?_⟩
  · intro c hc
    rcases List.mem_cons.1 hc with rfl | hc
    · exact ⟨[seg], rfl, by simp⟩
    · obtain ⟨suf, hs, _⟩ := ih.starts c hc
      exact ⟨seg :: suf, by simp [hs], by simp⟩
  · intro hpre c hc
    have hp' := hpre.snoc hn
    rcases List.mem_cons.1 hc with rfl | hc
    · exact hp'
    · exact ih.good hp' c hc
  · intro c hc j hj1 hj2
    rcases List.mem_cons.1 hc with rfl | hc
    · rw [show j = (pre ++ [seg]).length by omega, List.take_length]
      exact List.mem_cons_self ..
    · obtain ⟨suf, hs, _⟩ := ih.starts c hc
      by_cases hj : j = pre.length + 1
      · rw [hs, hj, ← hlen, List.take_left']
        · exact List.mem_cons_self ..
        · rfl
      · exact List.mem_cons_of_mem _ (ih.closed c hc j (by omega) hj2)
  · intro c hc d hd hp
    rcases List.mem_cons.1 hc with rfl | hc <;> rcases List.mem_cons.1 hd with rfl | hd
    · rfl
    · exact (longer d hd hp).elim
    · exact (longer c hc hp.symm).elim
    · exact ih.uniq c hc d hd hp

theorem Inv.append {pre : Chain} {A B : List Chain} (ia : Inv pre A) (ib : Inv pre B)
    (hsep : ∀ c ∈ A, ∀ d ∈ B, c.path ≠ d.path) : Inv pre (A ++ B) where
  starts c hc := (List.mem_append.1 hc).elim (ia.starts c) (ib.starts c)
  good hpre c hc := (List.mem_append.1 hc).elim (ia.good hpre c) (ib.good hpre c)
  closed c hc j h1 h2 :=
    List.mem_append.2 ((List.mem_append.1 hc).imp (ia.closed c · j h1 h2) (ib.closed c · j h1 h2))
  uniq c hc d hd hp := by
    rcases List.mem_append.1 hc with hc | hc <;> rcases List.mem_append.1 hd with hd | hd
    · exact ia.uniq c hc d hd hp
    · exact (hsep c hc d hd hp).elim
    · exact (hsep d hd c hc hp.symm).elim
    · exact ib.uniq c hc d hd hp

mutual
theorem chains_inv (pre : Chain) : (e : El) → e.WF → Inv pre (e.chains pre)
  | .mk k n kids, hwf => by
    simp only [El.WF] at hwf
    exact (chainsL_inv (pre ++ [(n, k)]) kids hwf.2).cons hwf.1
theorem chainsL_inv (pre : Chain) : (es : List El) → WFL es → Inv pre (chainsL pre es)
  | [], _ => ⟨nofun, fun _ => nofun, nofun, nofun⟩
  | e :: es, hwf => by
    simp only [WFL] at hwf
    refine (chains_inv pre e hwf.1).append (chainsL_inv pre es hwf.2.2) ?_
    -- siblings have different names, so chains below different siblings differ right behind `pre`
    intro c hc d hd hp
    obtain ⟨s1, h1⟩ := chains_head pre e c hc
    obtain ⟨e', he', s2, h2⟩ := chainsL_head pre es d hd
    rw [h1, h2, path_append, path_append] at hp
    have := List.append_cancel_left hp
    simp [Chain.path] at this
    exact hwf.2.1 e' he' this.1.symm
end

/-- The element list of a tree whose names are XML names and whose sibling names are
pairwise different — what `Survey.validate` checks — is `Valid`, provided the root is not a repeat. -/
theorem chains_valid (tree : El) (hwf : tree.WF) (hroot : tree.kind ≠ .rep) : Valid (tree.chains []) := by
  have inv := chains_inv [] tree hwf
  refine ⟨?_, ?_, ?_, ?_⟩
  · exact fun c hc => inv.good (by intro s hs; simp [Chain.path] at hs) c hc
  · intro c hc i hi
    exact inv.closed c hc (i + 1) (by simp) (by omega)
  · exact inv.uniq
  · intro c hc
    obtain ⟨suf, hs⟩ := chains_head [] tree c hc
    rw [hs]
    simp only [List.nil_append, List.take_succ_cons, List.take_zero, Chain.isRep, List.getLast?_singleton]
    cases hk : tree.kind with
    | rep => exact absurd hk hroot
    | _ => simp

/-- `relative_when_enclosed` for element trees: nothing is assumed beyond what pyxform validates. -/
theorem relative_when_enclosed_tree (tree : El) (hwf : tree.WF) (hroot : tree.kind ≠ .rep)
    (c t : Chain) (hc : c ∈ tree.chains []) (name : Str) (fl : Flags)
    (hlook : (tree.chains []).filter (named name) = [t])
    (r : Nat) (hrt : r < t.length) (hrc : r < c.length)
    (hrep : Chain.isRep (t.take r) = true)
    (hinner : ∀ j, r < j → j < t.length → Chain.isRep (t.take j) = false)
    (henc : c.take r = t.take r) (hls : fl.lastSaved = false) (hia : fl.indexedArg = false) :
    ∃ k d, refFor (tree.chains []) (some c) name fl = .ok (fl.useCurrent || fl.inPredicate) (.rel k d) :=
  relative_when_enclosed _ (chains_valid tree hwf hroot) c t hc name fl hlook r hrt hrc hrep hinner henc hls hia

theorem exTree_wf : exTree.WF ∧ exTree.kind ≠ .rep := by
  refine ⟨?_, by decide⟩
  simp [exTree, El.WF, WFL, El.name]

example : exTree.WF ∧ exTree.kind ≠ .rep := exTree_wf

theorem exValid : Valid exEls := chains_valid exTree exTree_wf.1 exTree_wf.2

def exT : Chain := [("data".toList, .group), ("R".toList, .rep), ("abcde_r2".toList, .group), ("t".toList, .q)]

/-- the target's innermost repeat `R` encloses the referrer (two repeats deeper) -/
example : ∃ k d, refFor exEls (some exC) "t".toList {} = .ok false (.rel k d) :=
  relative_when_enclosed exEls exValid exC exT (by decide +kernel) "t".toList {} (by decide +kernel) 2
    (by decide +kernel) (by decide +kernel) (by decide +kernel)
    (by
      intro j h1 h2
      have : j = 3 := by simp [exT] at h2; omega
      subst this; decide +kernel)
    (by decide +kernel) rfl rfl

example : related exC exT = true :=
  related_of_common_repeat exC exT 2 (by decide +kernel) (by decide +kernel) (by decide +kernel) (by decide +kernel) (by decide +kernel)


end Pyxv.Refs
