import Pyxv.Model.Controls
import Pyxv.Proofs.BaseLemmas
/-! `Controls.dset` / `dupdate` / `keysNodupB` are the dict operations of `DictLemmas`; lookups after them.
`prep_eq_self`: the rows on which `Controls.prep` is the identity. -/
namespace Pyxv.Controls
open Pyxv Pyxv.Rows

/-- the equations of `AList.set`, the hit storing `k` where `AList.set` keeps `k'` -/
theorem dset_eq (d : Dict) (k v : Str) : dset d k v = AList.set k v d :=
  AList.set_of_eqns (s := fun d => dset d k v) rfl (fun _ _ _ => ite_congr rfl (fun h => h ▸ rfl) fun _ => rfl) d

theorem dupdate_eq (d e : Dict) : dupdate d e = AList.update d e := by
  simp only [dupdate, AList.update, dset_eq]

theorem keysNodupB_iff (d : Dict) : keysNodupB d = true ↔ (d.map (·.1)).Nodup := by
  induction d with
  | nil => simp [keysNodupB]
  | cons p r ih =>
    rw [keysNodupB, Bool.and_eq_true, Bool.not_eq_true', ← Bool.not_eq_true, AList.any_fst_eq, ih,
      List.map_cons, List.nodup_cons]

theorem lookup_dset (d : Dict) (k k' v : Str) :
    lookup k (dset d k' v) = if k = k' then some v else lookup k d := by
  rw [dset_eq, lookup_set]

theorem lookup_dupdate {e : Dict} (hn : keysNodupB e = true) (d : Dict) (k : Str) :
    lookup k (dupdate d e) = (lookup k e).or (lookup k d) := by
  rw [dupdate_eq, lookup_update_of_nodup ((keysNodupB_iff e).1 hn)]

theorem keysNodupB_dset (d : Dict) (k v : Str) (h : keysNodupB d = true) : keysNodupB (dset d k v) = true :=
  (keysNodupB_iff _).2 (dset_eq .. ▸ AList.nodup_set ((keysNodupB_iff d).1 h))

theorem lookup_filter_ite (d : Dict) (k t : Str) :
    lookup k (d.filter fun kv => kv.1 ≠ t) = if k = t then none else lookup k d := by
  rw [lookup_filter (fun a => decide (a ≠ t))]
  by_cases h : k = t <;> simp [h]

theorem prep_eq_self {r : Cells} (hp : ∀ kv ∈ r, kv.1 ≠ k!"parameters")
    (hs : ∀ kv ∈ r, kv.1 ≠ "bind::entities:saveto".toList) (ht : ∀ kv ∈ r, kv.1 = k!"type" → dealias kv.2 = kv.2) :
    prep r = (r, none) := by
  have hget : get r "parameters" = none :=
    (lookup_eq_none_iff _ r).2 fun hm => by
      obtain ⟨kv, hkv, e⟩ := List.mem_map.1 hm
      exact hp kv hkv (e.trans (by decide))
  have hfilter : r.filter (fun kv => kv.1 ≠ (k!"parameters")) = r :=
    List.filter_eq_self.mpr fun kv hm => by simpa using hp kv hm
  have hmap : r.map (fun kv => if kv.1 = (k!"type") then (kv.1, dealias kv.2) else kv) = r :=
    (List.map_congr_left fun kv hm => by
      split
      · next h => rw [ht kv hm h]; rfl
      · rfl).trans (List.map_id r)
  have hsave : plainSaveto r = r :=
    (List.map_congr_left fun kv hm => (if_neg (hs kv hm)).trans rfl).trans (List.map_id r)
  rw [prep, hfilter, hmap, hsave, hget]

end Pyxv.Controls
