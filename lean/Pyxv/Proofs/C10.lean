import Pyxv.Proofs.LexerLemmas
import Pyxv.Proofs.DefaultsLemmas
/-!
# Property C10 — defaults and triggered calculations are applied exactly once

Theorems about the mechanism model `Pyxv.Defaults` (for ALL element trees; `dyn` = the static/dynamic
classification and `sub` = reference substitution are arbitrary parameters, so nothing depends on what the lexer
answers) and about the lexer model `Pyxv.Lexer` (all strings, all rule tables).  Facts about the regenerated tables
are proved by evaluation, hence re-checked against the current source on every run.
-/
namespace Pyxv.C10
open Pyxv Pyxv.Defaults Pyxv.Lexer List

/-- the three string sets of `utils.default_is_dynamic`: hyphen data types, dynamic token names, and (d989f12) the
    token names that keep a hyphenated date/geo default dynamic -/
theorem dynamic_sets_pinned :
    Pyxv.Gen.defaultHyphenTypes = Lexer.pinnedHyphenTypes ∧
    Pyxv.Gen.defaultDynamicTokenNames = Lexer.pinnedDynNames ∧
    Pyxv.Gen.defaultHyphenOverrideNames = Lexer.pinnedOverrideNames := by
  decide +kernel

/-- names, ORDER and regex sources of `get_lexer_rules()` are the ones the 26 matchers of
    `Pyxv.Lexer.pinned` were written for -/
theorem lexer_rules_pinned : Pyxv.Gen.lexerRules = Lexer.pinnedSources := Lexer.lexerRules_eq

theorem active_rules_idx : Lexer.resolveIdx Pyxv.Gen.lexerRules = some (List.range 26) := Lexer.resolveIdx_lexerRules

theorem active_rules_pinned : Lexer.activeRules = some Lexer.pinnedRules := Lexer.activeRules_eq

theorem dynamicPinned_eq (dflt ty : Str) : Lexer.dynamicPinned dflt ty = dynamicWith pinnedRules dflt ty := by
  unfold Lexer.dynamicPinned dynamicWith
  rw [dynamic_sets_pinned.1, dynamic_sets_pinned.2.1, dynamic_sets_pinned.2.2]

/-- the classification the property is stated with (`dynamicPinned`: the model's lexicon and name sets) is
    `default_is_dynamic` of the current source as modelled -/
theorem classification_is_pinned (dflt ty : Str) :
    Lexer.defaultIsDynamic dflt ty = some (Lexer.dynamicPinned dflt ty) := by
  unfold Lexer.defaultIsDynamic
  rw [active_rules_pinned, dynamicPinned_eq]
  rfl

/-- `re.Scanner.scan` loses nothing, for every rule table and input — so positions can be derived from the lengths
    of the values (the F11 repair) -/
theorem scan_consumes_all (rules : Rules) (s : Str) :
    Lexer.values (scanWith rules s).1 ++ (scanWith rules s).2 = s :=
  scanAux_consumes rules (s.length + 1) s

/-- the positions `parse_expression` assigns (running sums of value lengths) are the true positions:
    each token's value is the slice `[start, stop)` of the text -/
theorem token_positions (rules : Rules) (s : Str) :
    ∀ t ∈ (parseWith rules s).1,
      t.stop = t.start + t.value.length ∧ (s.drop t.start).take t.value.length = t.value := by
  intro t ht
  have h := withPos_slices s (scanWith rules s).2 (scanWith rules s).1 [] (by simpa using scan_consumes_all rules s)
  exact h t (by simpa [parseWith] using ht)

/-- under the lexicon of the current source the scan never stops early (every rule consumes a character; OTHER, or
    WHITESPACE for a newline, always matches): the remainder `parse_expression` returns is empty -/
theorem scan_remainder_empty (s : Str) : ∃ toks, Lexer.scan s = some (toks, []) ∧ Lexer.values toks = s := by
  have hrem : (scanWith pinnedRules s).2 = [] :=
    scanAux_rem_nil pinnedRules pinned_eats firstMatch_total (s.length + 1) s (Nat.lt_succ_self _)
  refine ⟨(scanWith pinnedRules s).1, ?_, ?_⟩
  · simp only [Lexer.scan, active_rules_pinned, Option.map_some]
    rw [← hrem]
  · have := scan_consumes_all pinnedRules s
    rw [hrem, List.append_nil] at this
    exact this

/-- a function-call / operator / reference token makes the default dynamic, when the DATA type is not a hyphen type -/
theorem dynamic_of_token (rules : Rules) (dflt ty : Str)
    (hty : Pyxv.Gen.defaultHyphenTypes.contains (String.ofList (Lexer.dataTypeOf ty)) = false) (hne : dflt ≠ [])
    (h : ∃ t ∈ (scanWith rules dflt).1, Pyxv.Gen.defaultDynamicTokenNames.contains t.1 = true) :
    dynamicWith rules dflt ty = true := by
  unfold dynamicWith
  have : dflt.isEmpty = false := List.isEmpty_eq_false_iff.2 hne
  simp only [this, hty]
  exact dynLoop_true _ false _ (fun h => nomatch h) _ h

/-- a default without any such token (and without a reference / call token) is static, for every element type -/
theorem static_of_no_token (rules : Rules) (dflt ty : Str)
    (h : ∀ t ∈ (scanWith rules dflt).1, Pyxv.Gen.defaultDynamicTokenNames.contains t.1 = false)
    (h2 : ∀ t ∈ (scanWith rules dflt).1, Pyxv.Gen.defaultHyphenOverrideNames.contains t.1 = false) :
    dynamicWith rules dflt ty = false := by
  unfold dynamicWith
  split
  · rfl
  · have hov : ((scanWith rules dflt).1.any fun t => Pyxv.Gen.defaultHyphenOverrideNames.contains t.1) = false := by
      rw [List.any_eq_false]
      intro t ht
      have := h2 t ht
      simpa using this
    simp only [hov]
    exact dynLoop_false_of_none _ _ _ h

/-- the date-type exception (d989f12): for a hyphen data type a lone `-` token met before any dynamic token decides —
    static, unless a `${reference}` or a function call occurs anywhere in the default (`ov`) -/
theorem hyphen_type_exception (names : List String) (ov : Bool) (pre post : List (String × Str))
    (hpre : ∀ t ∈ pre, names.contains t.1 = false ∧ ¬ (t.1 = "OPS_MATH" ∧ t.2 = ['-'])) :
    dynLoop names true ov (pre ++ ("OPS_MATH", ['-']) :: post) = ov := by
  induction pre with
  | nil => simp [dynLoop]
  | cons t rest ih =>
    obtain ⟨n, v⟩ := t
    have h1 := hpre (n, v) (by simp)
    have ih' := ih (fun t ht => hpre t (by simp [ht]))
    simp only [List.cons_append, dynLoop, h1.1, Bool.true_and]
    by_cases hh : (n == "OPS_MATH" && v == ['-']) = true
    · simp only [Bool.and_eq_true, beq_iff_eq] at hh; exact absurd hh h1.2
    · simp [hh, ih']

theorem override_dynName (x : String) (hx : Lexer.pinnedOverrideNames.contains x = true) :
    Lexer.pinnedDynNames.contains x = true := by
  simp only [Lexer.pinnedOverrideNames, Lexer.pinnedDynNames, List.contains_cons, List.contains_nil,
    Bool.or_false, Bool.or_eq_true, beq_iff_eq] at hx ⊢
  rcases hx with rfl | rfl <;> simp

/-- **a reference or a function call always makes the default dynamic** (d989f12), for EVERY question type, the
    hyphen data types included, whatever hyphens precede it -/
theorem reference_or_call_dynamic (dflt ty : Str) (hne : dflt ≠ [])
    (h : ∃ t ∈ (scanWith pinnedRules dflt).1, Lexer.pinnedOverrideNames.contains t.1 = true) :
    Lexer.defaultIsDynamic dflt ty = some true := by
  rw [classification_is_pinned]
  unfold Lexer.dynamicPinned
  have he : dflt.isEmpty = false := List.isEmpty_eq_false_iff.2 hne
  have hov : ((scanWith pinnedRules dflt).1.any fun t => Lexer.pinnedOverrideNames.contains t.1) = true := by
    rw [List.any_eq_true]
    obtain ⟨t, ht, hc⟩ := h
    exact ⟨t, ht, hc⟩
  have hdyn : ∃ t ∈ (scanWith pinnedRules dflt).1, Lexer.pinnedDynNames.contains t.1 = true := by
    obtain ⟨t, ht, hc⟩ := h
    exact ⟨t, ht, override_dynName _ hc⟩
  simp only [he, Bool.false_eq_true, if_false, hov]
  exact congrArg some (dynLoop_true _ _ _ (fun _ => rfl) _ hdyn)

theorem static_single_token (n : String) (v ty : Str)
    (hn : Lexer.pinnedDynNames.contains n = false) (hscan : scanWith pinnedRules v = ([(n, v)], [])) :
    Lexer.defaultIsDynamic v ty = some false := by
  have hov : Lexer.pinnedOverrideNames.contains n = false :=
    Bool.eq_false_iff.2 fun hc => Bool.eq_false_iff.1 hn (override_dynName n hc)
  rw [classification_is_pinned, dynamicPinned_eq,
    static_of_no_token pinnedRules v ty (by simpa [hscan, dynamic_sets_pinned.2.1] using hn)
      (by simpa [hscan, dynamic_sets_pinned.2.2] using hov)]

/-- a plain number (non-empty string of ASCII digits) is a static default, for every element type -/
theorem static_plain_number (c : Char) (cs ty : Str) (h : Lexer.allDigits (c :: cs)) :
    Lexer.defaultIsDynamic (c :: cs) ty = some false :=
  static_single_token "NUMBER" (c :: cs) ty (by decide) (Lexer.scan_number c cs h)

/-- a date literal `dddd-dd-dd` is a static default, for every element type -/
theorem static_date_literal (a b c d e f g h : Char) (ty : Str)
    (ha : isDigit a = true) (hb : isDigit b = true) (hc : isDigit c = true) (hd : isDigit d = true)
    (he : isDigit e = true) (hf : isDigit f = true) (hg : isDigit g = true) (hh : isDigit h = true) :
    Lexer.defaultIsDynamic [a, b, c, d, '-', e, f, '-', g, h] ty = some false :=
  static_single_token "DATE" _ ty (by decide) (Lexer.scan_date a b c d e f g h ha hb hc hd he hf hg hh)

/-- a dateTime literal `dddd-dd-ddTdd:dd:dd` is a static default for EVERY element type name: it is one DATETIME
    token, so the hyphen rule never comes into play -/
theorem static_datetime_literal (y1 y2 y3 y4 m1 m2 d1 d2 h1 h2 n1 n2 s1 s2 : Char) (ty : Str)
    (hy1 : isDigit y1 = true) (hy2 : isDigit y2 = true) (hy3 : isDigit y3 = true) (hy4 : isDigit y4 = true)
    (hm1 : isDigit m1 = true) (hm2 : isDigit m2 = true) (hd1 : isDigit d1 = true) (hd2 : isDigit d2 = true)
    (hh1 : isDigit h1 = true) (hh2 : isDigit h2 = true) (hn1 : isDigit n1 = true) (hn2 : isDigit n2 = true)
    (hs1 : isDigit s1 = true) (hs2 : isDigit s2 = true) :
    Lexer.defaultIsDynamic [y1, y2, y3, y4, '-', m1, m2, '-', d1, d2, 'T', h1, h2, ':', n1, n2, ':', s1, s2] ty = some false :=
  static_single_token "DATETIME" _ ty (by decide)
    (Lexer.scan_datetime y1 y2 y3 y4 m1 m2 d1 d2 h1 h2 n1 n2 s1 s2 hy1 hy2 hy3 hy4 hm1 hm2 hd1 hd2 hh1 hh2 hn1 hn2 hs1 hs2)

/-- a quote-free word (an ASCII letter or `_`, then letters / digits / `_`) is a static default, for every
    element type: it lexes as one NAME token -/
theorem static_word (c : Char) (cs ty : Str) (hc : c ∈ Lexer.letters) (h : ∀ x ∈ cs, x ∈ Lexer.wordChars) :
    Lexer.defaultIsDynamic (c :: cs) ty = some false :=
  static_single_token "NAME" (c :: cs) ty (by decide) (Lexer.scan_word c cs hc h)

/-- **exactly once, all trees**: the first-load setvalues of the output — in `<model>` and inside each `<repeat>` —
    are, as a multiset, the spec `expSets`: one per question with a dynamic default, at its nearest repeat ancestor
    (`<model>` if none); none for any other question -/
theorem setvalues_exactly_once (dyn : Q → Bool) (sub : Path → Str → Str) (root : Str) (els : List El) :
    (setFacts (gen dyn sub root els)).Perm (expSets dyn sub [root] none els) := by
  simp only [setFacts, gen]
  exact model_sets dyn sub _ _ els [root]

/-- the setvalue of a question with a dynamic default -/
def dynFact (sub : Path → Str → Str) (pre : Path) (near : Option Path) (d : Q) : SetFact :=
  { loc := near,
    set := { tag := "setvalue".toList, ref := pre ++ [d.name],
             event := if near.isSome then evNewRepeat else evFirstLoad,
             value := some (sub (pre ++ [d.name]) d.default) } }

/-- a static default (or none) contributes no setvalue; a dynamic one contributes exactly one -/
theorem expSet_cases (dyn : Q → Bool) (sub : Path → Str → Str) (pre : Path) (near : Option Path) (d : Q) :
    (hasDynDefault dyn d = false → expSet dyn sub pre near d = []) ∧
    (hasDynDefault dyn d = true → expSet dyn sub pre near d = [dynFact sub pre near d]) := by
  unfold expSet dynFact
  constructor <;> intro h <;> simp [h]

theorem mem_inst_leaves (dyn : Q → Bool) (sub : Path → Str → Str) (root : Str) (els : List El)
    (hne : secsNonEmpty els = true) (hels : els ≠ []) (l : Leaf) :
    l ∈ leaves [] false (gen dyn sub root els).inst ↔
      l ∈ (qwp [root] els).map (expLeaf dyn false) ∨ l ∈ (qInRepeat [root] els).map (expLeaf dyn true) := by
  rw [gen_inst, leaves_node_of_ne (instKids_ne dyn false els hels), (mem_leaves dyn els hne).1]
  simp

/-- **static ⇒ literal text, dynamic ⇒ empty, in every copy**: every leaf of the primary instance (instance and
    `jr:template` copies alike) is the node of a question at that path and carries the default iff it is static -/
theorem instance_text_sound (dyn : Q → Bool) (sub : Path → Str → Str) (root : Str) (els : List El)
    (hne : secsNonEmpty els = true) (hels : els ≠ []) :
    ∀ l ∈ leaves [] false (gen dyn sub root els).inst,
      ∃ x ∈ qwp [root] els, l.path = x.1 ∧
        l.text = (if !x.2.default.isEmpty && !dyn x.2 then x.2.default else []) := by
  intro l hl
  rw [mem_inst_leaves dyn sub root els hne hels] at hl
  rcases hl with hl | hl <;> obtain ⟨x, hx, rfl⟩ := List.mem_map.1 hl
  · exact ⟨x, hx, rfl, rfl⟩
  · exact ⟨x, qInRepeat_subset els _ hx, rfl, rfl⟩

/-- every question has its instance node with the prescribed text, and a question with a repeat
    ancestor also has a template copy with the same text -/
theorem instance_text_covers (dyn : Q → Bool) (sub : Path → Str → Str) (root : Str) (els : List El)
    (x : Path × Q) :
    (x ∈ qwp [root] els → expLeaf dyn false x ∈ leaves [] false (gen dyn sub root els).inst) ∧
    (x ∈ qInRepeat [root] els → expLeaf dyn true x ∈ leaves [] false (gen dyn sub root els).inst) :=
  ⟨fun h => mem_leaves_node ((leaves_cover dyn els).1 _ _ _ (List.mem_map_of_mem h)),
    fun h => mem_leaves_node ((leaves_cover dyn els).2.1 _ _ (List.mem_map_of_mem h))⟩

/-- for a question `y` (trees without an empty section — an empty group crashes pyxform, finding F13; question paths
    pairwise different, which `Survey.validate` enforces): every copy of its node, instance or `jr:template`, carries
    the default iff it is static, and the copies due exist; the first-load setvalues targeting it, wherever they are,
    are none when the default is static or absent, else exactly one — in `<model>` or the nearest repeat (`expSetP`). -/
theorem exactly_once (dyn : Q → Bool) (sub : Path → Str → Str) (root : Str) (els : List El)
    (y : Path × Option Path × Q) (hy : y ∈ qwn [root] none els)
    (huniq : ((qwn [root] none els).map (·.1)).Nodup) (hne : secsNonEmpty els = true) :
    (∀ l ∈ leaves [] false (gen dyn sub root els).inst, l.path = y.1 →
        l.text = (if !y.2.2.default.isEmpty && !dyn y.2.2 then y.2.2.default else [])) ∧
    expLeaf dyn false (y.1, y.2.2) ∈ leaves [] false (gen dyn sub root els).inst ∧
    (y.2.1.isSome = true → expLeaf dyn true (y.1, y.2.2) ∈ leaves [] false (gen dyn sub root els).inst) ∧
    (setFacts (gen dyn sub root els)).filter (fun f => decide (f.set.ref = y.1)) = expSetP dyn sub y := by
  have hels : els ≠ [] := by intro h0; subst h0; simp [qwn] at hy
  have hx : (y.1, y.2.2) ∈ qwp [root] els := qwn_forget els [root] none ▸ List.mem_map_of_mem hy
  refine ⟨?_, (instance_text_covers dyn sub root els _).1 hx, ?_, ?_⟩
  · intro l hl hp
    obtain ⟨x, hxq, h1, h2⟩ := instance_text_sound dyn sub root els hne hels l hl
    rw [← qwn_forget els [root] none] at hxq
    obtain ⟨y', hy', rfl⟩ := List.mem_map.1 hxq
    have : y' = y := eq_of_map_nodup (·.1) huniq hy' hy (by simpa using h1.symm.trans hp)
    subst this
    exact h2
  · intro hs
    exact (instance_text_covers dyn sub root els _).2 (qwn_inRepeat els [root] y hy hs)
  · have hperm := (setvalues_exactly_once dyn sub root els).filter (fun f => decide (f.set.ref = y.1))
    rw [expSets_eq_flatMap,
      filter_flatMap_unique (·.1) (·.set.ref) (expSetP dyn sub) (expSetP_ref dyn sub) _ huniq y hy] at hperm
    unfold expSetP at hperm ⊢
    split at hperm
    · rename_i h; simp only [h, if_true]; exact List.perm_singleton.1 hperm
    · rename_i h; simp only [h]; exact hperm.eq_nil

/-- the builder's trigger table holds exactly one entry per question with a trigger cell -/
theorem trigger_table_spec (root : Str) (els : List El) :
    trigTable els = (qwp [root] els).flatMap fun x => saveTrigger x.2 :=
  trigTable_eq els [root]

/-- all value-changed set-nodes of the body, control by control: the control of a shown question `t` nests one node
    per table entry keyed exactly `${t}`; hidden questions and sections nest nothing -/
theorem trigger_nodes_spec (dyn : Q → Bool) (sub : Path → Str → Str) (root : Str) (els : List El) :
    trigFacts (gen dyn sub root els) =
      (qwp [root] els).flatMap (expNested sub (pathOf (qPaths [root] els)) (trigTable els)) := by
  simp only [trigFacts, gen]
  exact trigs_eq dyn sub _ _ els [root]

/-- one `<bind>` per question that has a bind dict; it carries `calculate` iff the question has a calculation and no trigger -/
theorem calculate_omitted_with_trigger (dyn : Q → Bool) (sub : Path → Str → Str) (root : Str) (els : List El) :
    (gen dyn sub root els).binds =
      (qwp [root] els).flatMap fun x => if x.2.hasBind then [expBind sub x] else [] := by
  simp only [gen]
  exact binds_eq sub els [root]

/-- the value-changed node that a triggered question `q` must have inside the control at `ctl` -/
def trigFactOf (sub : Path → Str → Str) (paths : Str → Path) (ctl : Path) (q : Q) : TrigFact :=
  { ctl := ctl,
    set := { tag := if (entryOf q).geo then "odk:setgeopoint".toList else "setvalue".toList,
             ref := paths (entryOf q).target, event := evChanged,
             value := if (entryOf q).value.isEmpty then none
                      else some (sub (paths (entryOf q).target) (entryOf q).value) } }

/-- `trigFactOf` spelled out -/
theorem trigFactOf_eq (sub : Path → Str → Str) (paths : Str → Path) (ctl : Path) (q : Q) :
    trigFactOf sub paths ctl q =
      { ctl := ctl,
        set := { tag := if q.type == "background-geopoint".toList then "odk:setgeopoint".toList else "setvalue".toList,
                 ref := paths q.name, event := evChanged,
                 value := if q.calcu.isEmpty then none else some (sub (paths q.name) q.calcu) } } := rfl

/-- the nodes nested in the control of `x` that target `y`: one, iff the control is rendered and `y`'s trigger is `${x}` -/
theorem expNested_filter (sub : Path → Str → Str) (els : List El) (pre : Path) (y : Path × Q) (hy : y ∈ qwp pre els)
    (hn : ((qwp pre els).map fun x => x.2.name).Nodup) (htrig : y.2.trigger.isEmpty = false) (x : Path × Q) :
    (expNested sub (pathOf (qPaths pre els)) (trigTable els) x).filter
        (fun f => decide (f.set.ref = pathOf (qPaths pre els) y.2.name)) =
      if shown x.2 = true ∧ (entryOf y.2).key = refOf x.2.name then [trigFactOf sub (pathOf (qPaths pre els)) x.1 y.2]
      else [] := by
  unfold expNested
  split
  · rename_i hs
    rw [List.filter_append, nested_half_filter els pre y hy hn htrig x.2.name false _ (fun _ => rfl),
      nested_half_filter els pre y hy hn htrig x.2.name true _ (fun _ => rfl)]
    unfold trigFactOf
    generalize entryOf y.2 = e
    rcases e with ⟨k, tg, v, g⟩
    by_cases hk : k = refOf x.2.name <;> cases g <;> simp [hs, hk]
  · rename_i hs
    simp [hs]

/-- **the set-nodes that target a triggered question**, for ANY trigger text: one in the control of every rendered
    question whose `${name}` is the trigger — none when the trigger names no rendered question -/
theorem trigFacts_target (dyn : Q → Bool) (sub : Path → Str → Str) (root : Str) (els : List El) (pq : Path) (q : Q)
    (hq : (pq, q) ∈ qwp [root] els) (hn : ((qPaths [root] els).map (·.1)).Nodup) (htrig : q.trigger.isEmpty = false) :
    (trigFacts (gen dyn sub root els)).filter (fun f => decide (f.set.ref = pq)) =
      (qwp [root] els).flatMap fun x =>
        if shown x.2 = true ∧ strip q.trigger = refOf x.2.name then [trigFactOf sub (pathOf (qPaths [root] els)) x.1 q]
        else [] := by
  have hpq : pathOf (qPaths [root] els) q.name = pq := pathOf_question els [root] (pq, q) hq hn
  rw [trigger_nodes_spec, List.filter_flatMap, ← hpq]
  exact flatMap_congr fun x _ =>
    expNested_filter sub els [root] (pq, q) hq ((qwp_names_sublist els [root]).nodup hn) htrig x

/-- (element names pairwise different, which `Survey.validate` / `_setup_xpath_dictionary` enforce for referenced
    names): if `q` has the trigger cell `${t}` and `t` renders a control, then among ALL value-changed set-nodes of the
    body exactly one targets `q`: it sits in the control of `t`, with `ref` = `q`'s path and `q`'s calculation, expanded
    from `q`'s node, as value; and no bind of `q` carries `calculate`. -/
theorem trigger_setvalue (dyn : Q → Bool) (sub : Path → Str → Str) (root : Str) (els : List El)
    (pq pt : Path) (q t : Q)
    (hq : (pq, q) ∈ qwp [root] els) (ht : (pt, t) ∈ qwp [root] els)
    (hn : ((qPaths [root] els).map (·.1)).Nodup)
    (htrig : q.trigger.isEmpty = false) (hkey : strip q.trigger = refOf t.name) (hshown : shown t = true) :
    (trigFacts (gen dyn sub root els)).filter (fun f => decide (f.set.ref = pq)) =
      [trigFactOf sub (pathOf (qPaths [root] els)) pt q] ∧
    (trigFactOf sub (pathOf (qPaths [root] els)) pt q).set.ref = pq ∧
    (∀ b ∈ (gen dyn sub root els).binds, b.path = pq → b.calculate = none) := by
  have hnq : ((qwp [root] els).map fun x => x.2.name).Nodup := (qwp_names_sublist els [root]).nodup hn
  have hpq : pathOf (qPaths [root] els) q.name = pq := pathOf_question els [root] (pq, q) hq hn
  refine ⟨?_, hpq, ?_⟩
  · rw [trigFacts_target dyn sub root els pq q hq hn htrig,
      flatMap_single (fun x : Path × Q => x.2.name) _ _ hnq (pt, t) ht, if_pos ⟨hshown, hkey⟩]
    intro x _ hne
    exact if_neg fun h => hne (refOf_inj (hkey ▸ h.2)).symm
  · intro b hb hp
    rw [calculate_omitted_with_trigger] at hb
    obtain ⟨x, hx, hbx⟩ := List.mem_flatMap.1 hb
    have hbe : b = expBind sub x := by
      split at hbx
      · simpa using hbx
      · simp at hbx
    subst hbe
    have hxp : pathOf (qPaths [root] els) x.2.name = x.1 := pathOf_question els [root] x hx hn
    have hname : x.2.name = q.name :=
      pathOf_inj els [root] x (pq, q) hx hq (by rw [hxp, hpq]; exact hp)
    have : x = (pq, q) := eq_of_map_nodup (fun x : Path × Q => x.2.name) hnq hx hq hname
    subst this
    simp [expBind, htrig]

/-- in an accepted form every trigger cell is exactly one reference `${t}` to a question `t` that renders a control
    (`Survey._is_usable_trigger` and the "not user-visible" error): the hypotheses of `trigger_setvalue` -/
theorem accepted_trigger_visible (dyn : Q → Bool) (root : Str) (els : List El) (h : check dyn els = none)
    (pq : Path) (q : Q) (hq : (pq, q) ∈ qwp [root] els) (htrig : q.trigger.isEmpty = false) :
    ∃ x ∈ qwp [root] els, strip q.trigger = refOf x.2.name ∧ shown x.2 = true :=
  accepted_trigger_visible_aux dyn els [root] h (pq, q) hq htrig

/-- **a calculation with a trigger is never lost and never doubled** (accepted forms, element names pairwise
    different): it becomes exactly one value-changed set-node, in the control of the question its trigger names, and
    is not emitted as bind calculate -/
theorem accepted_trigger_setvalue (dyn : Q → Bool) (sub : Path → Str → Str) (root : Str) (els : List El) (o : Out)
    (h : run dyn sub root els = .ok o) (hn : ((qPaths [root] els).map (·.1)).Nodup)
    (pq : Path) (q : Q) (hq : (pq, q) ∈ qwp [root] els) (htrig : q.trigger.isEmpty = false) :
    ∃ x ∈ qwp [root] els, shown x.2 = true ∧ strip q.trigger = refOf x.2.name ∧
      (trigFacts o).filter (fun f => decide (f.set.ref = pq)) = [trigFactOf sub (pathOf (qPaths [root] els)) x.1 q] ∧
      (∀ b ∈ o.binds, b.path = pq → b.calculate = none) := by
  unfold run at h
  split at h
  · cases h
  · rename_i hc
    simp only [Except.ok.injEq] at h
    subst h
    obtain ⟨x, hx, hkey, hshown⟩ := accepted_trigger_visible dyn root els hc pq q hq htrig
    have := trigger_setvalue dyn sub root els pq x.1 q x.2 hq hx hn htrig hkey hshown
    exact ⟨x, hx, hshown, hkey, this.1, this.2.2⟩

def dynEx : Q → Bool := fun d => d.default == "now()".toList
def subEx : Path → Str → Str := fun _ s => s
def exB : Q := { name := "b".toList, type := "text".toList, default := "now()".toList }
def exC : Q := { name := "c".toList, type := "calculate".toList, calcu := "1".toList,
                 trigger := "${b}".toList, labelled := false, hasCtl := false }
def exTree : List El :=
  [.q { name := "a".toList, type := "text".toList, default := "abc".toList },
   .rep "r".toList [.q exB, .grp "g".toList [.q exC]],
   .q { name := "z".toList, type := "text".toList, default := "now()".toList }]

-- the example tree has one setvalue in <model> (z) and one in the repeat (b); c is triggered by b
example : secsNonEmpty exTree = true ∧ exTree ≠ [] := by simp [exTree, secsNonEmpty]
example : (expSets dynEx subEx ["data".toList] none exTree).map (·.loc) = [some ["data".toList, "r".toList], none] := by
  simp [exTree, exB, exC, expSets, expSet, hasDynDefault, dynEx]
example : (["data".toList, "r".toList, "g".toList, "c".toList], exC) ∈ qwp ["data".toList] exTree
    ∧ (["data".toList, "r".toList, "b".toList], exB) ∈ qwp ["data".toList] exTree
    ∧ (["data".toList, "r".toList, "b".toList], exB) ∈ qInRepeat ["data".toList] exTree := by
  simp [exTree, exB, exC, qwp, qInRepeat]
example : exC.trigger.isEmpty = false ∧ strip exC.trigger = refOf exB.name ∧ shown exB = true := by
  simp [exC, exB, strip, lstrip, rstrip, pyIsSpace, refOf, shown, hiddenQ]
example : check dynEx exTree = none ∧ ((qPaths ["data".toList] exTree).map (·.1)).Nodup := by
  simp [exTree, exB, exC, check, questions, allNames, trigTable, hasDup, saveTrigger, firstErr, rowErr, geoRefErr,
    keyErr, usableErr, defaultRefErr, calcRefErr, ctlErr, dynEx, hiddenQ, triggered, refOf, refsOf, refNames, strip,
    lstrip, rstrip, isInfix, startsWith, pyIsSpace, qPaths]
-- hypotheses of `exactly_once` hold for question b (dynamic default inside repeat r) of the example tree
example : (["data".toList, "r".toList, "b".toList], some ["data".toList, "r".toList], exB) ∈ qwn ["data".toList] none exTree
    ∧ ((qwn ["data".toList] none exTree).map (·.1)).Nodup := by
  simp [exTree, exB, exC, qwn]
example : expSetP dynEx subEx (["data".toList, "r".toList, "b".toList], some ["data".toList, "r".toList], exB)
    = [{ loc := some ["data".toList, "r".toList],
         set := { tag := "setvalue".toList, ref := ["data".toList, "r".toList, "b".toList], event := evNewRepeat,
                  value := some "now()".toList } }] := by
  simp [expSetP, hasDynDefault, dynEx, exB, subEx]
example : Lexer.allDigits "2024".toList := by intro c hc; simp at hc; rcases hc with rfl | rfl | rfl | rfl <;> decide
example : 'y' ∈ Lexer.letters ∧ ∀ x ∈ "es_2".toList, x ∈ Lexer.wordChars := by
  unfold wordChars letters
  simp only [toList_lit rfl]
  decide +kernel
/-- the data types of the element types used below, looked up in the regenerated type table once -/
theorem dataTypeOf_values :
    dataTypeOf "dateTime".toList = "dateTime".toList ∧ dataTypeOf "datetime".toList = "dateTime".toList ∧
    dataTypeOf "gps".toList = "geopoint".toList ∧ dataTypeOf "date".toList = "date".toList ∧
    dataTypeOf "q date".toList = "date".toList ∧ dataTypeOf "text".toList = "string".toList := by
  simp only [toList_lit rfl]
  decide +kernel

-- 5a69025 and d989f12 on the model: the hyphen rule follows the DATA type, and a reference / call overrides it
example : Lexer.dynamicPinned "2020-01-01 - 1".toList "dateTime".toList = false
    ∧ Lexer.dynamicPinned "2020-01-01 - 1".toList "datetime".toList = false
    ∧ Lexer.dynamicPinned "- 5".toList "gps".toList = false
    ∧ Lexer.dynamicPinned "2020-01-01 - ${a}".toList "date".toList = true
    ∧ Lexer.dynamicPinned "1 - today()".toList "q date".toList = true
    ∧ Lexer.dynamicPinned "2020-01-01T00:00:00".toList "datetime".toList = false
    ∧ Lexer.dataTypeOf "gps".toList = "geopoint".toList ∧ Lexer.dataTypeOf "text".toList = "string".toList := by
  obtain ⟨h1, h2, h3, h4, h5, h6⟩ := dataTypeOf_values
  simp only [dynamicPinned, h1, h2, h3, h4, h5, h6]
  simp only [toList_lit rfl]
  decide +kernel
example : ∃ t ∈ (scanWith pinnedRules "2020-01-01 - ${a}".toList).1, Lexer.pinnedOverrideNames.contains t.1 = true := by
  simp only [toList_lit rfl]
  decide +kernel
-- lexer: the traps of DESIGN Appendix F
example : (scanWith pinnedRules "a <= b".toList).1.map (·.1) = ["NAME", "WHITESPACE", "OPS_COMP", "OPS_COMP", "WHITESPACE", "NAME"] := by
  simp only [toList_lit rfl]
  decide +kernel
example : (scanWith pinnedRules "1 -2".toList).1.map (·.1) = ["NUMBER", "WHITESPACE", "NUMBER"] := by
  simp only [toList_lit rfl]
  decide +kernel
example : (scanWith pinnedRules "x mod y".toList).1.map (·.1) = ["NAME", "OPS_MATH", "NAME"] := by
  simp only [toList_lit rfl]
  decide +kernel
example : (scanWith pinnedRules "2020-01-01".toList).1.map (·.1) = ["DATE"] := by
  simp only [toList_lit rfl]
  decide +kernel
example : (scanWith pinnedRules "a:b:c".toList).1 = [("NAME", "a:b".toList), ("OTHER", ":".toList), ("NAME", "c".toList)] := by
  simp only [toList_lit rfl]
  decide +kernel
example : dynamicWith pinnedRules "now()".toList "text".toList = true
    ∧ dynamicWith pinnedRules "2020-01-01".toList "date".toList = false
    ∧ dynamicWith pinnedRules "1 - today()".toList "date".toList = true
    ∧ dynamicWith pinnedRules "1 - 2".toList "date".toList = false
    ∧ dynamicWith pinnedRules "1 - today()".toList "text".toList = true := by
  simp only [dynamicWith, dataTypeOf_values.2.2.2.1, dataTypeOf_values.2.2.2.2.2]
  simp only [toList_lit rfl]
  decide +kernel
example : ∃ t ∈ (scanWith pinnedRules "now()".toList).1, Pyxv.Gen.defaultDynamicTokenNames.contains t.1 = true := by
  simp only [toList_lit rfl]
  decide +kernel

end Pyxv.C10
