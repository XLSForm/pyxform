import Pyxv.Model.Spell
import Pyxv.Proofs.Literals
import Pyxv.Proofs.BaseLemmas
/-! Lemmas about `Pyxv.Spell` (whitespace splitting, lower-casing).  `Spell.splitWs` carries the algebra of Python's
`str.split()`: the copies in `Binds`, `Headers`, `Settings`, `Entities` and `Assemble` are proved equal to it in their
slices' lemma files (`splitWs_acc` serves the accumulator versions); `Controls.splitWs` and `Warn.pySplitWs` are not. -/
namespace Pyxv.Spell
open Pyxv

theorem toNat_ofNat_small (m : Nat) (h : m < 0xD800) : (Char.ofNat m).toNat = m := by
  have hv : m.isValidChar := Or.inl h
  simp [Char.ofNat, hv, Char.ofNatAux, Char.toNat]

theorem spaceNat (c : Char) : pyIsSpace c = true ↔
    (9 ≤ c.toNat ∧ c.toNat ≤ 13) ∨ (28 ≤ c.toNat ∧ c.toNat ≤ 32) ∨ c.toNat = 0x85 ∨ c.toNat = 0xA0 ∨ c.toNat = 0x1680 ∨
    (0x2000 ≤ c.toNat ∧ c.toNat ≤ 0x200A) ∨ c.toNat = 0x2028 ∨ c.toNat = 0x2029 ∨ c.toNat = 0x202F ∨ c.toNat = 0x205F ∨ c.toNat = 0x3000 := by
  simp [pyIsSpace, or_assoc]

theorem lowerChar_space (c : Char) : pyIsSpace (lowerChar c) = pyIsSpace c := by
  unfold lowerChar
  simp only
  -- in both cased ranges the character and the one 32 above it are outside the whitespace ranges
  split
  · rename_i h
    have e := toNat_ofNat_small (c.toNat + 32) (by omega)
    rw [Bool.eq_iff_iff, spaceNat, spaceNat, e]
    omega
  · split
    · rename_i h
      have e := toNat_ofNat_small (c.toNat + 32) (by omega)
      rw [Bool.eq_iff_iff, spaceNat, spaceNat, e]
      omega
    · rfl

abbrev nonSp (c : Char) : Bool := !pyIsSpace c

theorem splitWs_space (c : Char) (cs : Str) (h : pyIsSpace c = true) : splitWs (c :: cs) = splitWs cs := by
  simp [splitWs, h]

theorem splitWs_word_cons (c : Char) (cs : Str) (h : pyIsSpace c = false) :
    splitWs (c :: cs) = (c :: cs.takeWhile nonSp) :: splitWs (cs.dropWhile nonSp) := by
  induction cs generalizing c with
  | nil => simp [splitWs, h]
  | cons d ds ih =>
    rw [splitWs]
    by_cases hd : pyIsSpace d = true
    · simp [h, hd, nonSp]
    · have hd' : pyIsSpace d = false := by simpa using hd
      simp [h, hd', nonSp, ih d hd']

theorem splitWs_induction {P : Str → Prop} (nil : P [])
    (space : ∀ c cs, pyIsSpace c = true → P cs → P (c :: cs))
    (word : ∀ c cs, pyIsSpace c = false → P (cs.dropWhile nonSp) → P (c :: cs)) : ∀ s, P s := by
  have key : ∀ n (s : Str), s.length ≤ n → P s := by
    intro n
    induction n with
    | zero => intro s hs; rw [List.eq_nil_of_length_eq_zero (Nat.le_zero.mp hs)]; exact nil
    | succ n ih =>
      intro s hs
      cases s with
      | nil => exact nil
      | cons c cs =>
        by_cases hc : pyIsSpace c = true
        · exact space c cs hc (ih cs (by simpa using hs))
        · have := (List.dropWhile_sublist nonSp (l := cs)).length_le
          exact word c cs (by simpa using hc) (ih _ (by simp at hs; omega))
  exact fun s => key _ s (Nat.le_refl _)

/-- a whitespace character separates cleanly: the words left of it and the words right of it -/
theorem splitWs_append_space (a : Str) (s : Char) (b : Str) (hs : pyIsSpace s = true) :
    splitWs (a ++ s :: b) = splitWs a ++ splitWs b := by
  induction a using splitWs_induction with
  | nil => simp [splitWs_space _ _ hs, splitWs]
  | space c cs hc ih => rw [List.cons_append, splitWs_space _ _ hc, splitWs_space _ _ hc, ih]
  | word c cs hc ih =>
    have stop := dropWhile_append_stop (p := nonSp) cs s b (by simp [nonSp, hs])
    rw [List.cons_append, splitWs_word_cons _ _ hc, splitWs_word_cons _ _ hc, stop.1, stop.2, ih, List.cons_append]

theorem splitWs_map (f : Char → Char) (hf : ∀ c, pyIsSpace (f c) = pyIsSpace c) (s : Str) :
    splitWs (s.map f) = (splitWs s).map (·.map f) := by
  have hns : nonSp ∘ f = nonSp := funext fun c => by simp [nonSp, hf]
  induction s using splitWs_induction with
  | nil => rfl
  | space c cs hc ih => rw [List.map_cons, splitWs_space _ _ (by rw [hf]; exact hc), splitWs_space _ _ hc, ih]
  | word c cs hc ih =>
    rw [List.map_cons, splitWs_word_cons _ _ (by rw [hf]; exact hc), splitWs_word_cons _ _ hc,
      List.takeWhile_map, List.dropWhile_map, hns, ih]
    rfl

theorem splitWs_ws_append (ws x : Str) (h : ∀ c ∈ ws, pyIsSpace c = true) : splitWs (ws ++ x) = splitWs x := by
  induction ws with
  | nil => rfl
  | cons c r ih => rw [List.cons_append, splitWs_space _ _ (h c (by simp)), ih (fun y hy => h y (by simp [hy]))]

theorem splitWs_append_ws (x ws : Str) (h : ∀ c ∈ ws, pyIsSpace c = true) : splitWs (x ++ ws) = splitWs x := by
  cases ws with
  | nil => rw [List.append_nil]
  | cons s r =>
    rw [splitWs_append_space _ _ _ (h s (by simp)), ← List.append_nil r, splitWs_ws_append r [] (fun y hy => h y (by simp [hy]))]
    exact List.append_nil _

theorem splitWs_word (w : Str) (hne : w ≠ []) (hw : ∀ c ∈ w, pyIsSpace c = false) : splitWs w = [w] := by
  obtain ⟨c, r, rfl⟩ := List.exists_cons_of_ne_nil hne
  have hr : ∀ d ∈ r, nonSp d = true := fun d hd => by simp [nonSp, hw d (by simp [hd])]
  have tw : r.takeWhile nonSp = r := by simpa using List.takeWhile_append_of_pos (p := nonSp) (l₁ := r) (l₂ := []) hr
  have dw : r.dropWhile nonSp = [] := dropWhile_eq_nil hr
  rw [splitWs_word_cons _ _ (hw c (by simp)), tw, dw]
  rfl

theorem splitWs_lstrip (x : Str) : splitWs (lstrip x) = splitWs x := by
  obtain ⟨ws, hws, e⟩ := lstrip_decomp x
  conv => rhs; rw [e]
  exact (splitWs_ws_append ws _ hws).symm

theorem splitWs_rstrip (x : Str) : splitWs (rstrip x) = splitWs x := by
  obtain ⟨ws, hws, e⟩ := rstrip_decomp x
  conv => rhs; rw [e]
  exact (splitWs_append_ws _ ws hws).symm

theorem splitWs_strip (s : Str) : splitWs (strip s) = splitWs s := by
  unfold strip
  rw [splitWs_rstrip, splitWs_lstrip]

theorem mem_splitWs (c : Char) (hc : pyIsSpace c = false) : ∀ (s : Str), c ∈ s → ∃ w ∈ splitWs s, c ∈ w := by
  intro s
  induction s using splitWs_induction with
  | nil => intro h; cases h
  | space x xs hx ih =>
    intro h
    rw [splitWs_space _ _ hx]
    rcases List.mem_cons.mp h with rfl | h
    · rw [hx] at hc; cases hc
    · exact ih h
  | word x xs hx ih =>
    intro h
    rw [splitWs_word_cons _ _ hx]
    rw [← List.takeWhile_append_dropWhile (p := nonSp) (l := xs), ← List.cons_append, List.mem_append] at h
    rcases h with h | h
    · exact ⟨_, List.mem_cons_self .., h⟩
    · obtain ⟨w, hw, hcw⟩ := ih h
      exact ⟨w, List.mem_cons_of_mem _ hw, hcw⟩

/-- `g`: `lowerAscii` or `pyLower`, the two lower-casings of `to_snake_case` in the model -/
theorem mem_snake (g : Char → Char) (c : Char) (s : Str) (hm : c ∈ s) (hs : pyIsSpace c = false) (hg : g c = c) :
    c ∈ (joinWith ['_'] (splitWs s)).map g := by
  obtain ⟨w, hw, hcw⟩ := mem_splitWs c hs s hm
  exact List.mem_map.mpr ⟨c, mem_joinWith_of_mem ['_'] hw hcw, hg⟩

/-- An accumulator version of `str.split()` (`cur`: the word in progress, reversed) in terms of `splitWs`.  The two
    hypotheses are its defining equations; they hold by `rfl` for each copy. -/
theorem splitWs_acc (f : Str → Str → List Str)
    (nil : ∀ cur, f cur [] = if cur.isEmpty then [] else [cur.reverse])
    (cons : ∀ cur c cs, f cur (c :: cs) =
      if pyIsSpace c then (if cur.isEmpty then f [] cs else cur.reverse :: f [] cs) else f (c :: cur) cs)
    (s : Str) : f [] s = splitWs s := by
  have key : ∀ s cur : Str, f cur s = if cur.isEmpty then splitWs s
      else (cur.reverse ++ s.takeWhile nonSp) :: splitWs (s.dropWhile nonSp) := by
    intro s
    induction s with
    | nil => intro cur; rw [nil]; cases cur <;> simp [splitWs]
    | cons c cs ih =>
      intro cur
      rw [cons]
      by_cases hc : pyIsSpace c = true
      · rw [if_pos hc, ih []]
        cases cur <;> simp [nonSp, hc, splitWs_space c cs hc]
      · have hc' : pyIsSpace c = false := by simpa using hc
        rw [if_neg hc, ih (c :: cur)]
        cases cur <;> simp [nonSp, hc', splitWs_word_cons c cs hc']
  rw [key]
  rfl

theorem pyLower_joinWith (l : List Str) : pyLower (joinWith ['_'] l) = joinWith ['_'] (l.map pyLower) :=
  map_joinWith pyLower ['_'] rfl (fun x z => by simp only [pyLower, List.map_append]; rfl) l

/-- `to_snake_case` may lower-case first and split afterwards -/
theorem toSnake_lower_first (s : Str) : toSnake s = joinWith ['_'] (splitWs (pyLower s)) := by
  unfold toSnake
  rw [pyLower_joinWith]
  unfold pyLower
  rw [splitWs_map lowerChar lowerChar_space]

end Pyxv.Spell
