import Pyxv.Model.HeaderRules
/-!
# C17: header rules — alias clash and missing required column are rejected, naming sheet and header(s)

Theorems about `Pyxv.Headers.dealiasAndGroupHeaders` (the model of `dealias_and_group_headers`, tied function-level by
C08's `c08.dealias` stream and workbook-level — message text of `convert()` — by C17's `c17.headers` stream) for
every header row, every data, every alias / column / required table.
-/
namespace Pyxv.C17.Hdr
open Pyxv Pyxv.Headers Pyxv.HeaderRules

theorem headerLoop_append (ud : Bool) (al : List (Str × List Str)) (cols : List Str) (pre rest : List Str)
    (hk : List (Str × List Str)) (tk : List (List Str × Str)) :
    headerLoop ud al cols (pre ++ rest) hk tk =
      match headerLoop ud al cols pre hk tk with
      | .error e => .error e
      | .ok (hk', tk') => headerLoop ud al cols rest hk' tk' := by
  induction pre generalizing hk tk with
  | nil => simp [headerLoop]
  | cons h hs ih =>
    simp only [List.cons_append]
    rw [headerLoop.eq_def (ud) al cols (h :: (hs ++ rest)), headerLoop.eq_def ud al cols (h :: hs)]
    simp only
    split
    · exact ih _ _            -- seen before
    · split
      · rfl                   -- `processHeader` fails
      · split
        · split
          · rfl               -- duplicate
          · exact ih _ _      -- tokens on record: renamed
        · exact ih _ _        -- new tokens

/-- one step: a new header whose tokens are on record under an earlier header `o` and which is not the canonical spelling
of its column stops the loop with `duplicate o h`.  `o ≠ []`: the test is `if other_header and …`, an empty name is falsy. -/
theorem alias_clash_step (ud : Bool) (al : List (Str × List Str)) (cols : List Str) (h : Str) (hs : List Str)
    (hk : List (Str × List Str)) (tk : List (List Str × Str)) (nh : Option Str) (toks t : List Str) (o : Str)
    (hnew : lookup h hk = none) (hp : processHeader h ud al cols = .ok (nh, toks))
    (hf : tk.find? (fun p => p.1 = toks) = some (t, o)) (ho : o ≠ []) (hc : nh ≠ some h) :
    headerLoop ud al cols (h :: hs) hk tk = .error (.duplicate o h) := by
  rw [headerLoop.eq_def]
  simp only [hnew, hp, hf, Option.map_some]
  have : o.isEmpty = false := by cases o <;> simp_all
  simp [this, hc]

/-- **alias clash rejected**: if the headers before `h` are accepted and leave `o` as the name on record for `h`'s
tokens, the sheet is refused with `duplicate o h`, whatever follows and whatever the rows contain -/
theorem alias_clash_rejected (pre post : List Str) (h : Str) (rows : List (List (Str × Str)))
    (al : List (Str × List Str)) (cols req : List Str) (dk : Str) (isSurvey : Bool)
    (hk : List (Str × List Str)) (tk : List (List Str × Str)) (nh : Option Str) (toks t : List Str) (o : Str)
    (hpre : headerLoop ((pre ++ h :: post).any fun x => isInfix "::".toList x) al cols pre [] [] = .ok (hk, tk))
    (hnew : lookup h hk = none)
    (hp : processHeader h ((pre ++ h :: post).any fun x => isInfix "::".toList x) al cols = .ok (nh, toks))
    (hf : tk.find? (fun p => p.1 = toks) = some (t, o)) (ho : o ≠ []) (hc : nh ≠ some h) :
    dealiasAndGroupHeaders (pre ++ h :: post) rows al cols req dk isSurvey = .error (.duplicate o h) := by
  unfold dealiasAndGroupHeaders
  simp only [headerLoop_append, hpre, alias_clash_step _ al cols h post hk tk nh toks t o hnew hp hf ho hc]

/-- the same with the message the implementation must raise: it names the sheet and both headers -/
theorem alias_clash_message (sheet : Str) (pre post : List Str) (h : Str) (rows : List (List (Str × Str)))
    (al : List (Str × List Str)) (cols req : List Str) (dk : Str)
    (hk : List (Str × List Str)) (tk : List (List Str × Str)) (nh : Option Str) (toks t : List Str) (o : Str)
    (hpre : headerLoop ((pre ++ h :: post).any fun x => isInfix "::".toList x) al cols pre [] [] = .ok (hk, tk))
    (hnew : lookup h hk = none)
    (hp : processHeader h ((pre ++ h :: post).any fun x => isInfix "::".toList x) al cols = .ok (nh, toks))
    (hf : tk.find? (fun p => p.1 = toks) = some (t, o)) (ho : o ≠ []) (hc : nh ≠ some h) :
    sheetHeaders sheet (pre ++ h :: post) rows al cols req dk = .reject (invalidDuplicateMsg sheet o h) := by
  unfold sheetHeaders
  rw [alias_clash_rejected pre post h rows al cols req dk _ hk tk nh toks t o hpre hnew hp hf ho hc]
  rfl

/-- **missing required column rejected**, with the located outcome: when the header loop and the rows go through but
no header has `r` as its first token, the sheet is refused with `missingRequired` listing `r` -/
theorem missing_required_rejected (header : List Str) (rows : List (List (Str × Str))) (al : List (Str × List Str))
    (cols req : List Str) (dk : Str) (isSurvey : Bool) (hk : List (Str × List Str)) (tk : List (List Str × Str))
    (data : List Kvs) (r : Str)
    (hl : headerLoop (header.any fun x => isInfix "::".toList x) al cols header [] [] = .ok (hk, tk))
    (hm : mapRows dk hk rows = .ok data) (hr : r ∈ req)
    (hno : ∀ p ∈ tk, p.1.head? ≠ some r) (hdata : data ≠ [] ∨ isSurvey = true) :
    ∃ missing, r ∈ missing ∧
      dealiasAndGroupHeaders header rows al cols req dk isSurvey = .error (.missingRequired missing) := by
  have hin : r ∈ req.filter fun h => !(tk.filterMap fun p => p.1.head?).contains h := by
    refine List.mem_filter.mpr ⟨hr, ?_⟩
    have : r ∉ tk.filterMap fun p => p.1.head? := by
      intro hmem
      obtain ⟨p, hp, hph⟩ := List.mem_filterMap.mp hmem
      exact hno p hp hph
    simpa using this
  refine ⟨_, hin, ?_⟩
  unfold dealiasAndGroupHeaders
  simp only [hl, hm]
  have hreq := List.isEmpty_eq_false_iff.2 (List.ne_nil_of_mem hr)
  have hd : (!data.isEmpty || isSurvey) = true := by
    rcases hdata with h | h
    · rw [List.isEmpty_eq_false_iff.2 h]; rfl
    · rw [h, Bool.or_true]
  have hmiss := List.isEmpty_eq_false_iff.2 (List.ne_nil_of_mem hin)
  split
  · rfl
  · rename_i hcn
    rw [hreq, hd, hmiss] at hcn
    exact absurd (by decide) hcn

/-- **an accepted sheet has every required column**: whenever the header stage returns a result for a sheet with
data rows (or for the survey sheet), each required header is the first token of one of the result's headers -/
theorem accepted_has_required (header : List Str) (rows : List (List (Str × Str))) (al : List (Str × List Str))
    (cols req : List Str) (dk : Str) (isSurvey : Bool) (g : Grouped)
    (hok : dealiasAndGroupHeaders header rows al cols req dk isSurvey = .ok g)
    (hdata : g.rows ≠ [] ∨ isSurvey = true) :
    ∀ r ∈ req, ∃ t ∈ g.headers, t.head? = some r := by
  intro r hr
  -- were `r` missing, `missing_required_rejected` would refuse the sheet
  have hrun := hok
  unfold dealiasAndGroupHeaders at hrun
  cases hl : headerLoop (header.any fun x => isInfix "::".toList x) al cols header [] [] with
  | error e => simp only [hl] at hrun; cases hrun
  | ok st =>
    obtain ⟨hk, tk⟩ := st
    cases hm : mapRows dk hk rows with
    | error e => simp only [hl, hm] at hrun; cases hrun
    | ok data =>
      simp only [hl, hm] at hrun
      split at hrun
      · cases hrun
      · cases hrun
        refine Classical.byContradiction fun hno => ?_
        obtain ⟨_, _, herr⟩ := missing_required_rejected header rows al cols req dk isSurvey hk tk data r hl hm hr
          (fun p hp e => hno ⟨p.1, List.mem_map_of_mem hp, e⟩) hdata
        rw [hok] at herr
        cases herr

/-- a survey sheet with no columns at all is refused: `'type'` is missing (even without data rows) -/
theorem survey_without_headers_rejected (al : List (Str × List Str)) (cols : List Str) (dk : Str) :
    sheetHeaders "survey".toList [] [] al cols ["type".toList] dk =
      .reject (missingRequiredMsg "survey".toList ["type".toList]) := by
  rfl

def L (l : List String) : List Str := l.map String.toList
def isDup (o h : String) : Except Err Grouped → Bool
  | .error (.duplicate a b) => a == o.toList && b == h.toList
  | _ => false
def isMissing (hs : List String) : Except Err Grouped → Bool
  | .error (.missingRequired a) => a == L hs
  | _ => false
def isReject (m : Str) : Outcome → Bool
  | .reject x => x == m
  | _ => false

-- alias clash: `name` and its alias `value` on the choices sheet; `relevant` and `bind::relevant` on the survey sheet
example : isDup "name" "value"
    (dealiasAndGroupHeaders (L ["list_name", "name", "value", "label"]) [] listAliases listColumns (L ["name"]) "default".toList false) = true := by
  decide +kernel
example : isDup "relevant" "bind::relevant"
    (dealiasAndGroupHeaders (L ["type", "name", "relevant", "bind::relevant"]) [] surveyAliases surveyColumns (L ["type"]) "default".toList true) = true := by
  decide +kernel
-- the hypotheses of `alias_clash_rejected` hold there (pre = [list_name, name], h = value)
example : (match headerLoop false listAliases listColumns (L ["list_name", "name"]) [] [] with
    | .ok (hk, tk) => lookup "value".toList hk == none &&
        tk.find? (fun p => p.1 = L ["name"]) == some (L ["name"], "name".toList)
    | _ => false) = true := by decide +kernel
example : (match processHeader "value".toList false listAliases listColumns with
    | .ok (nh, toks) => nh == some "name".toList && toks == L ["name"] | _ => false) = true := by decide +kernel
-- missing required: survey without `type`, choices with rows but without `name`; a choices sheet without rows passes
example : isMissing ["type"]
    (dealiasAndGroupHeaders (L ["name", "label"]) [] surveyAliases surveyColumns (L ["type"]) "default".toList true) = true := by
  decide +kernel
example : isMissing ["name"]
    (dealiasAndGroupHeaders (L ["list_name", "label"]) [[("list_name".toList, "l".toList)]] listAliases listColumns (L ["name"]) "default".toList false) = true := by
  decide +kernel
example : (match dealiasAndGroupHeaders (L ["list_name", "label"]) [] listAliases listColumns (L ["name"]) "default".toList false with
    | .ok _ => true | _ => false) = true := by decide +kernel
-- accepted: the required header is among the result's headers
example : (match dealiasAndGroupHeaders (L ["Type", "name", "label::en"]) [] surveyAliases surveyColumns (L ["type"]) "default".toList true with
    | .ok g => g.headers.any (fun t => t.head? == some "type".toList) | _ => false) = true := by decide +kernel
example : isReject (invalidDuplicateMsg "choices".toList "name".toList "value".toList)
    (sheetHeaders "choices".toList (L ["list_name", "name", "value"]) [] listAliases listColumns (L ["name"]) "default".toList) = true := by
  decide +kernel

end Pyxv.C17.Hdr
