import Pyxv.Proofs.C11
import Pyxv.Proofs.BackendsExcel
/-!
# C11 ∘ C12: the settings statement starting at the decoded spreadsheet grid

`Pyxv.Backends.Excel.excel_roundtrip` (C12): whatever typed grids the third-party decoder delivers, as long as they
*show* the workbook, `xlsx_to_dict` / `xls_to_dict` return the workbook's dict container.  Composed with
`settings_header2`, the header statement of C11 starts at the grid.
-/
namespace Pyxv.C11
open Pyxv Pyxv.Settings Pyxv.Backends

/-- `workbook_dict.settings` / `settings_header` of a dict container: row 0 and the header row the
    settings handling starts from (xls2json.py 314-316; header row guessed from the row when absent) -/
def settingsOfBook (b : Book) : Option (List Str × List (Str × Str)) :=
  match dget "settings".toList b with
  | some (.rows (r :: _)) =>
    let row := r.filterMap fun kv => kv.1.map fun k => (k, kv.2)
    (match dget "settings_header".toList b with
     | some (.header (h :: _)) => some (h, row)
     | _ => some (row.map (·.1), row))
  | _ => none

/-- decoded sheets ↦ header: the Excel backend model, then the settings model -/
def fromGrids (sheets : List (Str × Grid)) (ss : List (Str × Option Str)) (a : Args) : M Header :=
  match excelToDict sheets with
  | .ok b => model2 (settingsOfBook b) ss a
  | .error _ => .error (.unsupported "spreadsheet outside the backend model")

/-- for every workbook inside the Excel guard and every list of typed grids that show it, an accepted conversion has, at
    every header location, the table's value for the workbook's settings — the typing, padding and raggedness of the
    decoded cells cannot move the header. -/
theorem settings_from_grid (wb : Workbook) (gs : List Grid) (hs : Excel.ShowsAll wb gs)
    (hx : Excel.ExcelOK wb = true) (ss : List (Str × Option Str)) (a : Args) (h : Header)
    (hm : fromGrids (Excel.sheetsOf wb gs) ss a = .ok h) :
    excelToDict (Excel.sheetsOf wb gs) = .ok (toBook wb) ∧
    ∃ st, (match settingsOfBook (toBook wb) with
           | some (hdr, row) => dealias hdr row = .ok st
           | none => st = []) ∧ (keys st).Nodup ∧
      (LocalsDistinct (Spec.rootAttrKeys (sig st)) →
        ∀ L, h.read L = Spec.want (Spec.overlay (sig st) a (surveyAssigns ss)) a L) := by
  have hr := Excel.excel_roundtrip wb gs hs hx
  refine ⟨hr, ?_⟩
  unfold fromGrids at hm
  rw [hr] at hm
  obtain ⟨st, hst, hn, hh⟩ := model2_ok hm
  exact ⟨st, hst, hn, settings_header2 hn hh⟩

def exWb : Workbook :=
  [⟨"survey".toList, ["type".toList, "name".toList, "label".toList], [["text".toList, "q".toList, "Q".toList]]⟩,
   ⟨"settings".toList, ["form_title".toList, "version".toList, "attribute::k".toList],
     [["T".toList, "3".toList, "v".toList]]⟩]

/-- the version as a numeric cell, padded text cells -/
def exGrids : List Grid :=
  [[[.text "type".toList, .text "name".toList, .text "label".toList],
    [.text " text ".toList, .text "q".toList, .text "Q".toList]],
   [[.text "form_title".toList, .text "version".toList, .text "attribute::k".toList],
    [.text "T ".toList, .int 3, .text "v".toList]]]

theorem exWb_shows : Excel.ShowsAll exWb exGrids :=
  .cons ⟨_, rfl, by decide⟩ (.cons ⟨_, rfl, by decide⟩ .nil)

attribute [local instance] okAndDecidable

example : Excel.ExcelOK exWb = true ∧
    ∃ h, fromGrids (Excel.sheetsOf exWb exGrids) [] {} = .ok h ∧ h.read .title = some (S "T") ∧
      h.read (.rootAttr (S "version")) = some (S "3") ∧ h.read (.rootAttr (S "k")) = some (S "v") := by
  decide +kernel

end Pyxv.C11
