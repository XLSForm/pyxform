import Pyxv.Proofs.C17
/-!
# C17 (row-level part) — catalogue mutations on whole sheets

The row-level checks of `workbook_to_json` as mirrored by `Rows.classify`, on sheets of *cells*: for every sheet
`pre ++ r :: post` whose rows before `r` the row loop accepts and where `r` carries the catalogued defect, `Rows.formOut`
answers the located error `[row : 2 + pre.length]` (header = row 1).  The hypothesis on `post` only says that the rest of
the sheet is inside the modelled fragment; it need not be valid.
-/
namespace Pyxv.C17
open Pyxv Pyxv.Form Pyxv.Rows

theorem classifyAll_split (lists : List Str) (pre : List Cells) (r : Cells) (post : List Cells) :
    ∀ (n : Nat) (ks ks' : List (Nat × RowK)) (k : RowK),
      classifyAll lists n pre = .ok ks →
      classify lists (n + pre.length) r = .row k →
      classifyAll lists (n + pre.length + 1) post = .ok ks' →
      classifyAll lists n (pre ++ r :: post) = .ok (ks ++ (n + pre.length, k) :: ks') := by
  intro n ks ks' k h1 h2 h3
  rw [classifyAll_eq_num] at h1 h3 ⊢
  simp only [number_append, classifyNum_append, number, classifyNum, h1, h2, h3]

theorem formOut_split_error (root : Str) (lists : List Str) (settings : Cells) (pre : List Cells) (r : Cells)
    (post : List Cells) (ks ks' : List (Nat × RowK)) (k : RowK) (e : Err)
    (h1 : classifyAll lists 2 pre = .ok ks) (h2 : classify lists (2 + pre.length) r = .row k)
    (h3 : classifyAll lists (2 + pre.length + 1) post = .ok ks')
    (hp : parseRows (ks ++ (2 + pre.length, k) :: ks') = .error e) :
    formOut root lists (pre ++ r :: post) settings = .error (.err e) := by
  unfold formOut
  rw [classifyAll_split lists pre r post 2 ks ks' _ h1 h2 h3]
  simp only []
  rw [hp]

/-- **Located rejection of a row-level error**: if `r` classifies as the row-level error `e`, the sheet is rejected with
    `e` citing the row of `r`. -/
theorem row_error_rejected (root : Str) (lists : List Str) (settings : Cells)
    (pre : List Cells) (r : Cells) (post : List Cells)
    (ks ks' : List (Nat × RowK)) (st : St) (e : RowErr)
    (h1 : classifyAll lists 2 pre = .ok ks)
    (hrun : run ([], []) ks = .ok st)
    (h2 : classify lists (2 + pre.length) r = .row (.bad e))
    (h3 : classifyAll lists (2 + pre.length + 1) post = .ok ks') :
    formOut root lists (pre ++ r :: post) settings = .error (.err (.row (2 + pre.length) e)) :=
  formOut_split_error root lists settings pre r post ks ks' _ _ h1 h2 h3 (bad_row_rejected ks ks' st _ e hrun)

/-- the same for a stray `end` row after a balanced sheet -/
theorem stray_end_row_rejected (root : Str) (lists : List Str) (settings : Cells)
    (pre : List Cells) (r : Cells) (post : List Cells)
    (ks ks' : List (Nat × RowK)) (ts : List Item) (ct : Ctl)
    (h1 : classifyAll lists 2 pre = .ok ks)
    (hbal : parseRows ks = .ok ts)
    (h2 : classify lists (2 + pre.length) r = .row (.end_ ct))
    (h3 : classifyAll lists (2 + pre.length + 1) post = .ok ks') :
    formOut root lists (pre ++ r :: post) settings = .error (.err (.unmatchedEnd (2 + pre.length))) :=
  formOut_split_error root lists settings pre r post ks ks' _ _ h1 h2 h3 (stray_end_rejected ks ks' ts _ ct hbal)

def dropKey (k : String) (r : Cells) : Cells := r.filter fun kv => kv.1 ≠ k.toList

theorem has_dropKey_other (k k2 : String) (hk : k2.toList ≠ k.toList) (r : Cells) :
    has (dropKey k r) k2 = has r k2 := by
  unfold has dropKey; rw [get_filter_ne hk]

theorem classify_enabled (lists : List Str) (n : Nat) (r : Cells) (hd : Rows.get r "disabled" = none) :
    classify lists n r = match Rows.get r "type" with
      | none => if has r "name" || has r "label" || hasPrefix r "label::" then .row (.bad .noType) else .row .skip
      | some t => classifyTyped lists n r t := by
  have hf : r.filter (fun kv => kv.1 ≠ "disabled".toList) = r := filter_ne_of_lookup_none hd
  cases r with
  | nil => rfl
  | cons kv r =>
    unfold classify
    simp only [hf, hd]
    cases Rows.get (kv :: r) "type" <;> simp

/-- xls2json.py 578-592: a row without type that has a name or a label → "Question with no type" -/
theorem classify_noType (lists : List Str) (n : Nat) (r : Cells)
    (hd : Rows.get r "disabled" = none) (ht : Rows.get r "type" = none)
    (hn : has r "name" = true ∨ has r "label" = true ∨ hasPrefix r "label::" = true) :
    classify lists n r = .row (.bad .noType) := by
  rw [classify_enabled lists n r hd, ht]
  rcases hn with h | h | h <;> simp [h]

theorem classify_typed (lists : List Str) (n : Nat) (r : Cells) (t : Str)
    (hd : Rows.get r "disabled" = none) (ht : Rows.get r "type" = some t) :
    classify lists n r = classifyTyped lists n r t := by
  rw [classify_enabled lists n r hd, ht]

/-- the typed-row prelude of `classifyTyped` (audit, parameters, calculate, settings types, `end`) does
    not fire for this row -/
structure PlainTyped (r : Cells) (t : Str) : Prop where
  disabled : Rows.get r "disabled" = none
  type : Rows.get r "type" = some t
  notAudit : t ≠ "audit".toList
  noParams : has r "parameters" = false
  calcOk : (t = "calculate".toList && !has r "bind::calculate") = false
  notSetting : settingsTypes.contains t = false
  notEnd : matchControl "end" false t = none

theorem classify_plainTyped (lists : List Str) (n : Nat) (r : Cells) (t : Str) (h : PlainTyped r t) :
    classify lists n r =
      (match nameOrErr r t n with
       | .error e => .row (.bad e)
       | .ok name => classifyNamed lists r t name) := by
  rw [classify_typed lists n r t h.disabled h.type]
  unfold classifyTyped
  rw [if_neg h.notAudit]
  simp only [h.noParams, h.calcOk, h.notSetting, h.notEnd, Bool.false_eq_true, ↓reduceIte]
  cases nameOrErr r t n <;> rfl

/-- xls2json.py 797-808: no name on a row that is not a note → "Question or group with no name" -/
theorem classify_noName (lists : List Str) (n : Nat) (r : Cells) (t : Str) (h : PlainTyped r t)
    (hname : Rows.get r "name" = none) (hnote : t ≠ "note".toList) :
    classify lists n r = .row (.bad .noName) := by
  rw [classify_plainTyped lists n r t h]
  simp only [nameOrErr, hname, if_neg hnote]

/-- xls2json.py 809-816: a name that is not an XML tag → "Invalid question name" -/
theorem classify_badName (lists : List Str) (n : Nat) (r : Cells) (t nm : Str) (h : PlainTyped r t)
    (hname : Rows.get r "name" = some nm) (hbad : isXmlTag nm = false) :
    classify lists n r = .row (.bad .badName) := by
  rw [classify_plainTyped lists n r t h]
  simp only [nameOrErr, hname, hbad, Bool.false_eq_true, ↓reduceIte]

/-- xls2json.py 752-760: `calculate` without calculation or default → "Missing calculation" -/
theorem classify_missingCalculation (lists : List Str) (n : Nat) (r : Cells)
    (hd : Rows.get r "disabled" = none) (ht : Rows.get r "type" = some "calculate".toList)
    (hp : has r "parameters" = false) (hc : has r "bind::calculate" = false) (hdef : has r "default" = false) :
    classify lists n r = .row (.bad .missingCalculation) := by
  rw [classify_typed lists n r _ hd ht]
  unfold classifyTyped
  rw [if_neg (by decide : ¬ "calculate".toList = "audit".toList)]
  simp only [hp, hc, hdef, Bool.false_eq_true, ↓reduceIte, decide_true, Bool.not_false, Bool.and_self]

/-- xls2json.py 599-607: an `audit` row with a name other than `audit` -/
theorem classify_auditNamed (lists : List Str) (n : Nat) (r : Cells) (nm : Str)
    (hd : Rows.get r "disabled" = none) (ht : Rows.get r "type" = some "audit".toList)
    (hname : Rows.get r "name" = some nm) (hnm : nm ≠ "audit".toList) :
    classify lists n r = .row (.bad (.other "audit name".toList)) := by
  rw [classify_typed lists n r _ hd ht]
  unfold classifyTyped
  simp only [↓reduceIte, hname, if_neg hnm]

section
variable (root : Str) (lists : List Str) (settings : Cells)
  (pre : List Cells) (r : Cells) (post : List Cells) (ks ks' : List (Nat × RowK)) (st : St)

/-- **blank the type** of a row that has a name or an (unsuffixed) label -/
theorem blank_type_rejected
    (h1 : classifyAll lists 2 pre = .ok ks) (hrun : run ([], []) ks = .ok st)
    (h3 : classifyAll lists (2 + pre.length + 1) post = .ok ks')
    (hd : Rows.get r "disabled" = none) (hn : has r "name" = true ∨ has r "label" = true) :
    formOut root lists (pre ++ dropKey "type" r :: post) settings
      = .error (.err (.row (2 + pre.length) .noType)) := by
  apply row_error_rejected root lists settings pre _ post ks ks' st _ h1 hrun _ h3
  apply classify_noType
  · exact (get_filter_ne (k := "disabled") (d := "type") (by decide) r).trans hd
  · exact get_filter_self "type" r
  · rcases hn with h | h
    · exact .inl ((has_dropKey_other "type" "name" (by decide) r).trans h)
    · exact .inr (.inl ((has_dropKey_other "type" "label" (by decide) r).trans h))

/-- **blank the name** of a non-note question or of a group (`r` is the row before the mutation) -/
theorem blank_name_rejected (t : Str)
    (h1 : classifyAll lists 2 pre = .ok ks) (hrun : run ([], []) ks = .ok st)
    (h3 : classifyAll lists (2 + pre.length + 1) post = .ok ks')
    (h : PlainTyped r t) (hnote : t ≠ "note".toList) :
    formOut root lists (pre ++ dropKey "name" r :: post) settings
      = .error (.err (.row (2 + pre.length) .noName)) := by
  apply row_error_rejected root lists settings pre _ post ks ks' st _ h1 hrun _ h3
  have hp : PlainTyped (dropKey "name" r) t :=
    { h with
      disabled := (get_filter_ne (k := "disabled") (d := "name") (by decide) r).trans h.disabled
      type := (get_filter_ne (k := "type") (d := "name") (by decide) r).trans h.type
      noParams := (has_dropKey_other "name" "parameters" (by decide) r).trans h.noParams
      calcOk := by rw [has_dropKey_other "name" "bind::calculate" (by decide)]; exact h.calcOk }
  exact classify_noName lists _ _ t hp (get_filter_self "name" r) hnote

/-- **invalid name** (leading digit, space, `$`, `/`, …): the row as mutated carries `nm` -/
theorem invalid_name_rejected (t nm : Str)
    (h1 : classifyAll lists 2 pre = .ok ks) (hrun : run ([], []) ks = .ok st)
    (h3 : classifyAll lists (2 + pre.length + 1) post = .ok ks')
    (h : PlainTyped r t) (hname : Rows.get r "name" = some nm) (hbad : isXmlTag nm = false) :
    formOut root lists (pre ++ r :: post) settings
      = .error (.err (.row (2 + pre.length) .badName)) :=
  row_error_rejected root lists settings pre r post ks ks' st _ h1 hrun
    (classify_badName lists _ r t nm h hname hbad) h3

/-- **calculate without calculation** (and without default) -/
theorem calc_no_calculation_rejected
    (h1 : classifyAll lists 2 pre = .ok ks) (hrun : run ([], []) ks = .ok st)
    (h3 : classifyAll lists (2 + pre.length + 1) post = .ok ks')
    (hd : Rows.get r "disabled" = none) (ht : Rows.get r "type" = some "calculate".toList)
    (hp : has r "parameters" = false) (hc : has r "bind::calculate" = false) (hdef : has r "default" = false) :
    formOut root lists (pre ++ r :: post) settings
      = .error (.err (.row (2 + pre.length) .missingCalculation)) :=
  row_error_rejected root lists settings pre r post ks ks' st _ h1 hrun
    (classify_missingCalculation lists _ r hd ht hp hc hdef) h3

theorem audit_named_rejected (nm : Str)
    (h1 : classifyAll lists 2 pre = .ok ks) (hrun : run ([], []) ks = .ok st)
    (h3 : classifyAll lists (2 + pre.length + 1) post = .ok ks')
    (hd : Rows.get r "disabled" = none) (ht : Rows.get r "type" = some "audit".toList)
    (hname : Rows.get r "name" = some nm) (hnm : nm ≠ "audit".toList) :
    formOut root lists (pre ++ r :: post) settings
      = .error (.err (.row (2 + pre.length) (.other "audit name".toList))) :=
  row_error_rejected root lists settings pre r post ks ks' st _ h1 hrun
    (classify_auditNamed lists _ r nm hd ht hname hnm) h3
end

/-! `formOut` is total and `FormErr` has three constructors, so the theorem below holds of any value of the type: it is a
statement about the *model*; for the implementation "no internal exception" rests on the correspondence run.  The partial
operations of the modelled code are explicit in the model, each dominated by a check (cell lookup, type table, popping the
control stack, the list name of a select).  Not in `Pyxv.Rows` (`RowLoop` / `PreLoop` have them): the dictionary accesses of
`add_choices_info_to_question`, header grouping, settings merging; not modelled: translation setup, XML generation. -/
theorem formOut_outcomes (root : Str) (lists : List Str) (rows : List Cells) (settings : Cells) :
    (∃ o, formOut root lists rows settings = .ok o) ∨
    (∃ e, formOut root lists rows settings = .error (.err e)) ∨
    (∃ n, formOut root lists rows settings = .error (.unknownType n)) ∨
    (∃ w, formOut root lists rows settings = .error (.unsupported w)) := by
  cases h : formOut root lists rows settings with
  | ok o => exact Or.inl ⟨o, rfl⟩
  | error e =>
    cases e with
    | unsupported w => exact Or.inr (Or.inr (Or.inr ⟨w, rfl⟩))
    | err e => exact Or.inr (Or.inl ⟨e, rfl⟩)
    | unknownType n => exact Or.inr (Or.inr (Or.inl ⟨n, rfl⟩))

/-- an error of the row loop that cites a row cites a row of the sheet: 2 … length + 1 (header = row 1) -/
theorem row_stage_error_in_sheet (lists : List Str) (rows : List Cells) (ks : List (Nat × RowK))
    (n : Nat) (hc : classifyAll lists 2 rows = .ok ks)
    (h : (∃ e, parseRows ks = .error (.row n e)) ∨ parseRows ks = .error (.unmatchedEnd n)) :
    2 ≤ n ∧ n < 2 + rows.length := by
  -- of the three shapes `error_located` offers, the one that matches the error puts row `n` among `ks`
  have hmem : ∃ k, (n, k) ∈ ks := by
    rcases h with ⟨e, h⟩ | h
    · rcases error_located ks _ h with ⟨_, _, heq, hm⟩ | ⟨_, _, heq, _⟩ | ⟨_, _, heq⟩ <;> cases heq
      exact ⟨_, hm⟩
    · rcases error_located ks _ h with ⟨_, _, heq, _⟩ | ⟨_, _, heq, hm⟩ | ⟨_, _, heq⟩ <;> cases heq
      exact ⟨_, hm⟩
  obtain ⟨k, hm⟩ := hmem
  obtain ⟨_, _, _, hb⟩ := classifyAll_mem hc hm
  exact hb


def c (k v : String) : Str × Str := (k.toList, v.toList)
def exPre : List Cells :=
  [[c "type" "text", c "name" "a", c "label" "A"], [c "type" "begin group", c "name" "g", c "label" "G"]]
def exRow : Cells := [c "type" "integer", c "name" "b", c "label" "B", c "bind::relevant" "${a} > 1"]
def exPost : List Cells := [[c "type" "end group"], [c "type" "note", c "label" "bye"]]

/-- the prefix is accepted by the row loop (with a group left open) -/
theorem exPre_accepted : (match classifyAll [] 2 exPre with
    | .ok ks => (match run ([], []) ks with | .ok (_, [_]) => true | _ => false)
    | .error _ => false) = true := by decide +kernel
/-- the suffix is inside the fragment -/
theorem exPost_classified :
    (match classifyAll [] (2 + exPre.length + 1) exPost with | .ok ks => ks.length == 2 | _ => false) = true := by
  decide +kernel
theorem exRow_plain : PlainTyped exRow "integer".toList :=
  ⟨by decide +kernel, by decide +kernel, by decide +kernel, by decide +kernel, by decide +kernel,
   by decide +kernel, by decide +kernel⟩

theorem ex_context : ∃ ks ks' st, classifyAll [] 2 exPre = .ok ks ∧ run ([], []) ks = .ok st ∧
    classifyAll [] (2 + exPre.length + 1) exPost = .ok ks' := by
  have h1 := exPre_accepted
  have h3 := exPost_classified
  generalize hc : classifyAll [] 2 exPre = x at h1
  generalize hc' : classifyAll [] (2 + exPre.length + 1) exPost = y at h3
  cases x with
  | error _ => cases h1
  | ok ks =>
    cases y with
    | error _ => cases h3
    | ok ks' =>
      dsimp only at h1
      generalize hr : run ([], []) ks = z at h1
      cases z with
      | error _ => cases h1
      | ok st => exact ⟨ks, ks', st, rfl, hr, rfl⟩

example : (match classifyAll [] 2 exPre with
    | .ok ks => (match run ([], []) ks with | .ok (_, [_]) => true | _ => false)
    | .error _ => false) = true := exPre_accepted
example : (match classifyAll [] (2 + exPre.length + 1) exPost with | .ok ks => ks.length == 2 | _ => false) = true :=
  exPost_classified
example : PlainTyped exRow "integer".toList := exRow_plain
example : (has exRow "name" = true ∨ has exRow "label" = true) ∧ Rows.get exRow "disabled" = none :=
  ⟨Or.inl (by decide +kernel), by decide +kernel⟩
example : isXmlTag "1abc".toList = false ∧ isXmlTag "a b".toList = false ∧ isXmlTag "$a".toList = false
    ∧ isXmlTag "a/b".toList = false := by decide +kernel

def isRowErr (n : Nat) (e : RowErr) : Except FormErr FormOut → Bool
  | .error (.err (.row m e')) => m == n && e' == e
  | _ => false

-- the sheet itself is accepted; each mutation of row 4 is rejected citing row 4
example : (match formOut "data".toList [] (exPre ++ exRow :: exPost) [] with | .ok _ => true | _ => false) = true := by
  decide +kernel
example : isRowErr 4 .noType (formOut "data".toList [] (exPre ++ dropKey "type" exRow :: exPost) []) = true := by
  obtain ⟨ks, ks', st, h1, hrun, h3⟩ := ex_context
  rw [blank_type_rejected _ _ _ _ _ _ ks ks' st h1 hrun h3 (by decide +kernel) (.inl (by decide +kernel))]; rfl
example : isRowErr 4 .noName (formOut "data".toList [] (exPre ++ dropKey "name" exRow :: exPost) []) = true := by
  obtain ⟨ks, ks', st, h1, hrun, h3⟩ := ex_context
  rw [blank_name_rejected _ _ _ _ _ _ ks ks' st _ h1 hrun h3 exRow_plain (by decide +kernel)]; rfl
example : isRowErr 4 .badName (formOut "data".toList []
    (exPre ++ (c "name" "1abc" :: dropKey "name" exRow) :: exPost) []) = true := by
  obtain ⟨ks, ks', st, h1, hrun, h3⟩ := ex_context
  rw [invalid_name_rejected _ _ _ _ _ _ ks ks' st "integer".toList "1abc".toList h1 hrun h3
    ⟨by decide +kernel, by decide +kernel, by decide +kernel, by decide +kernel, by decide +kernel,
     by decide +kernel, by decide +kernel⟩ (by decide +kernel) (by decide +kernel)]; rfl
example : isRowErr 4 .missingCalculation (formOut "data".toList []
    (exPre ++ [c "type" "calculate", c "name" "k"] :: exPost) []) = true := by
  obtain ⟨ks, ks', st, h1, hrun, h3⟩ := ex_context
  rw [calc_no_calculation_rejected _ _ _ _ _ _ ks ks' st h1 hrun h3 (by decide +kernel) (by decide +kernel)
    (by decide +kernel) (by decide +kernel) (by decide +kernel)]; rfl
example : isRowErr 4 (.other "audit name".toList) (formOut "data".toList []
    (exPre ++ [c "type" "audit", c "name" "my_audit"] :: exPost) []) = true := by
  obtain ⟨ks, ks', st, h1, hrun, h3⟩ := ex_context
  rw [audit_named_rejected _ _ _ _ _ _ ks ks' st "my_audit".toList h1 hrun h3 (by decide +kernel) (by decide +kernel)
    (by decide +kernel) (by decide +kernel)]; decide +kernel
example : (match formOut "data".toList [] ([[c "type" "text", c "name" "a"]] ++ [c "type" "end group"] :: exPost) [] with
    | .error (.err (.unmatchedEnd 3)) => true | _ => false) = true := by decide +kernel

end Pyxv.C17
