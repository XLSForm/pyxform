import Pyxv.Proofs.ChannelLemmas
import Pyxv.Proofs.Literals
/-!
# C06: `find_boundaries` on cells that contain an instance() expression

Token level (where `instance_expression.find_boundaries` works): for EVERY token list of the shape
  pre ++ [instance(, 'lit', ), /] ++ path₁ ++ [name[] ++ pred ++ [], /] ++ path₂ ++ post
the loop reports exactly ONE boundary, from the start of `instance(` to the end of the last path token.  The guards are the
complement of the open findings: `post` is empty or begins with WHITESPACE (F15: ` and ` / ` or ` / ` div ` / ` mod ` lex
as operators and are swallowed); no `instance(` token in `pre` or the rest of `post` (F40: a quote in `pre` opens a
SYSTEM_LITERAL); the predicate is flat, no `/` and no `]` inside (a `)/` inside a predicate re-enters path mode).
-/
namespace Pyxv.Chan
open Pyxv.Lexer

def lastOr (l : Token) : List Token → Token
  | [] => l
  | t :: ts => lastOr t ts

def plainPathTok (t : Token) : Bool := t.name != "WHITESPACE" && t.name != "XPATH_PRED_START"
def flatPredTok (t : Token) : Bool := t.name != "XPATH_PRED_END" && t.name != "PATH_SEP"

/-- a run of tokens each of which leaves the loop in the mode `S` (`S l` = that mode with `l` as the last token) -/
theorem foldl_mode (S : Token → FB) (p : Token → Bool) (h : ∀ t l, p t = true → fbStep (S l) t = S t) :
    ∀ (toks : List Token) (l : Token), (∀ t ∈ toks, p t = true) → toks.foldl fbStep (S l) = S (lastOr l toks)
  | [], _, _ => rfl
  | t :: ts, l, ht => by
    rw [List.foldl_cons, h t l (ht t (List.mem_cons_self ..)),
      foldl_mode S p h ts t fun u hu => ht u (List.mem_cons_of_mem _ hu)]
    rfl

theorem foldl_path (toks : List Token) (l : Token) (pr : Bool) (b : List Nat)
    (h : ∀ t ∈ toks, plainPathTok t = true) :
    toks.foldl fbStep ⟨true, true, pr, some l, b⟩ = ⟨true, true, pr, some (lastOr l toks), b⟩ := by
  refine foldl_mode (fun l => ⟨true, true, pr, some l, b⟩) plainPathTok (fun t l h => ?_) toks l h
  simp only [plainPathTok, Bool.and_eq_true, bne_iff_ne, ne_eq] at h
  have h1 : (t.name == "WHITESPACE") = false := by simpa using h.1
  have h2 : (t.name != "XPATH_PRED_START") = true := by simpa using h.2
  unfold fbStep
  -- in path mode every branch of the `elif` chain gives (emit, path, pred) = (true, true, pr)
  simp only [Bool.not_true, Bool.false_and, Bool.false_eq_true, if_false, if_true, h1, h2, ite_self]

theorem foldl_pred (toks : List Token) (l : Token) (b : List Nat) (h : ∀ t ∈ toks, flatPredTok t = true) :
    toks.foldl fbStep ⟨true, false, true, some l, b⟩ = ⟨true, false, true, some (lastOr l toks), b⟩ := by
  refine foldl_mode (fun l => ⟨true, false, true, some l, b⟩) flatPredTok (fun t l h => ?_) toks l h
  simp only [flatPredTok, Bool.and_eq_true, bne_iff_ne, ne_eq] at h
  have h1 : (t.name != "XPATH_PRED_END") = true := by simpa using h.1
  have h2 : (t.name == "PATH_SEP") = false := by simpa using h.2
  unfold fbStep
  -- inside a predicate every branch gives (true, false, true)
  simp only [Bool.not_true, Bool.false_and, Bool.false_eq_true, if_false, if_true, h1, h2, ite_self]

/-- the guards on the tokens of one instance() expression with one flat predicate -/
structure GoodExpr (inst lit close sep : Token) (path1 : List Token) (ps : Token) (pred : List Token)
    (pe sep2 : Token) (path2 : List Token) : Prop where
  inst : isInstanceCall inst = true
  lit : lit.name = "SYSTEM_LITERAL"
  close : close.name = "CLOSE_PAREN"
  sep : sep.name = "PATH_SEP"
  path1 : ∀ t ∈ path1, plainPathTok t = true
  ps : ps.name = "XPATH_PRED_START"
  pred : ∀ t ∈ pred, flatPredTok t = true
  pe : pe.name = "XPATH_PRED_END"
  sep2 : sep2.name = "PATH_SEP"
  path2 : ∀ t ∈ path2, plainPathTok t = true

/-- what follows the expression: nothing, or a WHITESPACE token and then no further `instance(` -/
def GoodPost : List Token → Prop
  | [] => True
  | w :: rest => w.name = "WHITESPACE" ∧ ∀ t ∈ rest, isInstanceCall t = false

theorem foldl_expr {inst lit close sep ps pe sep2 : Token} {path1 pred path2 : List Token}
    (h : GoodExpr inst lit close sep path1 ps pred pe sep2 path2) :
    ([inst, lit, close, sep] ++ path1 ++ [ps] ++ pred ++ [pe, sep2] ++ path2).foldl fbStep {} =
      ⟨true, true, false, some (lastOr sep2 path2), [inst.start]⟩ := by
  have hi := h.inst
  have e1 : fbStep {} inst = ⟨true, false, false, some inst, [inst.start]⟩ := by
    simp [fbStep, hi]
  have e2 : fbStep ⟨true, false, false, some inst, [inst.start]⟩ lit = ⟨true, false, false, some lit, [inst.start]⟩ := by
    simp [fbStep, hi, h.lit]
  have e3 : fbStep ⟨true, false, false, some lit, [inst.start]⟩ close = ⟨true, false, false, some close, [inst.start]⟩ := by
    simp [fbStep, h.lit, h.close]
  have e4 : fbStep ⟨true, false, false, some close, [inst.start]⟩ sep = ⟨true, true, false, some sep, [inst.start]⟩ := by
    simp [fbStep, h.close, h.sep]
  have e5 : fbStep ⟨true, true, false, some (lastOr sep path1), [inst.start]⟩ ps =
      ⟨true, false, true, some ps, [inst.start]⟩ := by
    simp [fbStep, h.ps]
  have e6 : fbStep ⟨true, false, true, some (lastOr ps pred), [inst.start]⟩ pe =
      ⟨true, false, false, some pe, [inst.start]⟩ := by
    simp [fbStep, h.pe]
  have e7 : fbStep ⟨true, false, false, some pe, [inst.start]⟩ sep2 = ⟨true, true, false, some sep2, [inst.start]⟩ := by
    simp [fbStep, h.pe, h.sep2]
  simp only [List.foldl_append, List.foldl_cons, List.foldl_nil, e1, e2, e3, e4,
    foldl_path path1 sep false [inst.start] h.path1, e5, foldl_pred pred ps [inst.start] h.pred, e6, e7,
    foldl_path path2 sep2 false [inst.start] h.path2]

/-- exactly one boundary, from the start of the `instance(` token to the end of the last token of the path -/
theorem findBoundaries_single {inst lit close sep ps pe sep2 : Token} {path1 pred path2 : List Token}
    (pre post : List Token) (hpre : ∀ t ∈ pre, isInstanceCall t = false)
    (h : GoodExpr inst lit close sep path1 ps pred pe sep2 path2) (hpost : GoodPost post) :
    findBoundaries (pre ++ ([inst, lit, close, sep] ++ path1 ++ [ps] ++ pred ++ [pe, sep2] ++ path2) ++ post) =
      [(inst.start, (lastOr sep2 path2).stop)] := by
  unfold findBoundaries
  rw [List.foldl_append, List.foldl_append, foldl_fbStep_idle pre hpre {} rfl, foldl_expr h]
  cases post with
  | nil => simp [pairUp]
  | cons w rest =>
    obtain ⟨hw, hrest⟩ := hpost
    have ew : fbStep ⟨true, true, false, some (lastOr sep2 path2), [inst.start]⟩ w =
        ⟨false, false, false, some (lastOr sep2 path2), [inst.start, (lastOr sep2 path2).stop]⟩ := by
      simp [fbStep, hw]
    simp only [List.foldl_cons, ew]
    rw [foldl_fbStep_idle rest hrest _ rfl]
    simp [pairUp]

/-- string level (the guard is on the tokens of the escaped text `x`): the text before and after the expression stays as
    it is, the expression — `${refs}` resolved — becomes ONE `<output value="…"/>` -/
theorem replaceWithOutput_single {inst lit close sep ps pe sep2 : Token} {path1 pred path2 : List Token}
    (rules : Rules) (refs : List (Str × Str)) (x n : Str) (pre post : List Token) (hlen : 9 < x.length)
    (htok : (parseWith rules x).1 =
      pre ++ ([inst, lit, close, sep] ++ path1 ++ [ps] ++ pred ++ [pe, sep2] ++ path2) ++ post)
    (hpre : ∀ t ∈ pre, isInstanceCall t = false)
    (h : GoodExpr inst lit close sep path1 ps pred pe sep2 path2) (hpost : GoodPost post)
    (hsub : subRefs refs (((x.drop inst.start).take ((lastOr sep2 path2).stop - inst.start)).length + 1)
      ((x.drop inst.start).take ((lastOr sep2 path2).stop - inst.start)) = some n) :
    (match replaceWithOutputWith (some rules) refs x with
     | .ok y => y = x.take inst.start ++ outputXml n ++ x.drop (lastOr sep2 path2).stop
     | _ => False) := by
  have hl : ¬ x.length ≤ 9 := by omega
  unfold replaceWithOutputWith
  simp only [hl, if_false, Option.map_some, htok, findBoundaries_single pre post hpre h hpost,
    List.mapM_cons, List.mapM_nil, hsub]
  simp [spliceAll]

/-! ## the real lexer on a label with text before and after the expression -/

def exLabel : Str := "x instance('l')/root/item[name = 'c1']/label y".toList

def tk (n : String) (v : String) (a b : Nat) : Token := ⟨n, v.toList, a, b⟩

theorem exLabel_tokens :
    (parseWith pinnedRules exLabel).1 =
      [tk "NAME" "x" 0 1, tk "WHITESPACE" " " 1 2] ++
      ([tk "FUNC_CALL" "instance(" 2 11, tk "SYSTEM_LITERAL" "'l'" 11 14, tk "CLOSE_PAREN" ")" 14 15, tk "PATH_SEP" "/" 15 16] ++
        [tk "NAME" "root" 16 20, tk "PATH_SEP" "/" 20 21] ++ [tk "XPATH_PRED_START" "item[" 21 26] ++
        [tk "NAME" "name" 26 30, tk "WHITESPACE" " " 30 31, tk "OPS_COMP" "=" 31 32, tk "WHITESPACE" " " 32 33,
         tk "SYSTEM_LITERAL" "'c1'" 33 37] ++
        [tk "XPATH_PRED_END" "]" 37 38, tk "PATH_SEP" "/" 38 39] ++ [tk "NAME" "label" 39 44]) ++
      [tk "WHITESPACE" " " 44 45, tk "NAME" "y" 45 46] := by
  unfold exLabel tk
  simp only [toList_lit rfl]
  decide +kernel

theorem exLabel_good : GoodExpr (tk "FUNC_CALL" "instance(" 2 11) (tk "SYSTEM_LITERAL" "'l'" 11 14) (tk "CLOSE_PAREN" ")" 14 15)
    (tk "PATH_SEP" "/" 15 16) [tk "NAME" "root" 16 20, tk "PATH_SEP" "/" 20 21] (tk "XPATH_PRED_START" "item[" 21 26)
    [tk "NAME" "name" 26 30, tk "WHITESPACE" " " 30 31, tk "OPS_COMP" "=" 31 32, tk "WHITESPACE" " " 32 33,
     tk "SYSTEM_LITERAL" "'c1'" 33 37]
    (tk "XPATH_PRED_END" "]" 37 38) (tk "PATH_SEP" "/" 38 39) [tk "NAME" "label" 39 44] :=
  ⟨by decide, rfl, rfl, rfl, by decide, rfl, by decide, rfl, rfl, by decide⟩

-- one boundary (2, 44); `x ` and ` y` stay, the expression becomes one output
example : findBoundaries (parseWith pinnedRules exLabel).1 = [(2, 44)] := by
  rw [exLabel_tokens]
  exact findBoundaries_single _ _ (by decide) exLabel_good ⟨rfl, by decide⟩

example : (match replaceWithOutputWith (some pinnedRules) [] exLabel with
    | .ok y => y = "x <output value=\"instance('l')/root/item[name = 'c1']/label\"/> y".toList
    | _ => False) := by
  have := replaceWithOutput_single pinnedRules [] exLabel "instance('l')/root/item[name = 'c1']/label".toList _ _
    (by decide +kernel) exLabel_tokens (by unfold tk; decide +kernel) exLabel_good ⟨rfl, by unfold tk; decide +kernel⟩
    (by unfold exLabel tk; simp only [toList_lit rfl]; decide +kernel)
  revert this
  cases replaceWithOutputWith (some pinnedRules) [] exLabel with
  | ok y =>
    intro (h : y = _)
    subst h
    unfold exLabel tk
    simp only [toList_lit rfl]
    decide +kernel
  | _ => exact id

-- the F15 input violates the guard: what follows the path is an OPS_BOOL token, not WHITESPACE
example : ((parseWith pinnedRules "instance('l')/root/item[name = 'c1']/label and ${a} tail".toList).1.map (·.name)).drop 15 =
    ["OPS_BOOL", "PYXFORM_REF", "WHITESPACE", "NAME"] := by
  simp only [toList_lit rfl]
  decide +kernel

end Pyxv.Chan
