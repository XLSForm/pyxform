import Pyxv.Model.FormFlat
import Pyxv.Proofs.RowsLemmas
/-! The flat-aware tree of `Pyxv.FormFlat` against its lifted tree (`liftL`: the children of a flat group spliced into the
    parent's level): a flat-aware path walk is the walk of the lifted tree; what `formOutFlat` says of an accepted sheet. -/
namespace Pyxv.FormFlat
open Pyxv Pyxv.Form Pyxv.Rows

/-- induction on flat-aware forests, as `Form.items_induct` -/
theorem fforest_induct {motive : List FItem → Prop} (nil : motive [])
    (q : ∀ d rest, motive rest → motive (.q d :: rest))
    (sec : ∀ ct n b fl ks rest, motive ks → motive rest → motive (.sec ct n b fl ks :: rest)) : ∀ its, motive its :=
  @FItem.rec_1 (fun it => ∀ rest, motive rest → motive (it :: rest)) motive
    (fun d rest h => q d rest h) (fun ct n b fl ks ihk rest h => sec ct n b fl ks rest ihk h) nil
    (fun _ ks ihk ihks => ihk ks ihks)

theorem wfFL_eq_lift (its : List FItem) : wfFL its = wfL (liftL its) := by
  induction its using fforest_induct with
  | nil => rfl
  | q d rest ih => simp [wfFL, wfItem, liftL, liftItem, wfL, Item.wf, QData.wf, ih]
  | sec ct n b fl ks rest ihk ihr => cases fl <;> simp [wfFL, wfItem, liftL, liftItem, wfL_append, wfL, Item.wf, ihk, ihr]

theorem wf_liftL (its : List FItem) (h : wfFL its = true) : wfL (liftL its) = true := wfFL_eq_lift its ▸ h

theorem liftL_append (a b : List FItem) : liftL (a ++ b) = liftL a ++ liftL b :=
  append_of_eqns rfl (fun _ _ => rfl) a b

theorem formOutFlat_ok (root : Str) (lists : List Str) (rows : List Cells) (settings : Cells) (o : FlatOut)
    (h : formOutFlat root lists rows settings = .ok o) :
    ∃ all : List FItem, wfFL all = true ∧ safeL false false all = true ∧
      validateKids root (liftL all) = .ok () ∧ firstDupStr [] (root :: secNamesL all) = none ∧
      all = withMetaF (rows.map dropFlat) settings o.items ∧
      o.inst = instanceOf root (liftL all) ∧ o.binds = bindPathsL [root] (liftL all) ∧
      o.body = bodyPathsL [root] (liftL o.items) := by
  unfold formOutFlat at h
  simp only [] at h
  iterate 5 (split at h; · cases h)
  split at h; · cases h
  next hsafe =>
  split at h; · cases h
  next hwf =>
  split at h; · cases h
  split at h; · cases h
  next hv =>
  split at h; · cases h
  next hs =>
  cases h
  exact ⟨_, by simpa using hwf, by simpa using hsafe, hv, hs, rfl, rfl, rfl, rfl⟩

theorem liftL_withMetaF (rows : List Cells) (settings : Cells) (items : List FItem) :
    liftL (withMetaF rows settings items) = withMeta rows settings (liftL items) := by
  have hq : ∀ l : List QData, liftL (l.map FItem.q) = l.map Item.q :=
    eq_map_of_eqns (gL := fun l => liftL (l.map FItem.q)) rfl fun _ _ => rfl
  unfold withMetaF withMeta
  dsimp only
  split
  · rfl
  · simp [liftL_append, liftL, liftItem, hq]

/-- `Form.walk_eq_nodes` for flat-aware trees: a flat group hands its prefix on to its children and emits nothing -/
theorem walkF_eq_nodes_lift {α : Type} {g : List Str → FItem → List α} {gL : List Str → List FItem → List α}
    (f : List Str × Head → List α)
    (hq : ∀ pre d, g pre (.q d) = f (pre ++ [d.name], .q d))
    (hsec : ∀ pre ct n b fl ks, g pre (.sec ct n b fl ks) =
      if fl then gL pre ks else f (pre ++ [n], .sec ct n b) ++ gL (pre ++ [n]) ks)
    (hnil : ∀ pre, gL pre [] = []) (hcons : ∀ pre k ks, gL pre (k :: ks) = g pre k ++ gL pre ks) :
    ∀ its pre, gL pre its = (nodesL pre (liftL its)).flatMap f := by
  intro its
  induction its using fforest_induct with
  | nil => intro pre; rw [hnil]; rfl
  | q d rest ih => intro pre; rw [hcons, hq, ih]; simp [liftL, liftItem, nodesL, nodes]
  | sec ct n b fl ks rest ihk ihr =>
    intro pre
    rw [hcons, hsec, ihr, liftL, liftItem, nodesL_append, List.flatMap_append]
    cases fl
    · simp [ihk, nodesL, nodes]
    · simp [ihk]

end Pyxv.FormFlat
