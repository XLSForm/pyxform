import Pyxv.Model.Headers
import Pyxv.Proofs.SpellLemmas
/-! Lemmas about `Kvs` and `merge` (the model of `sheet_headers.merge_dicts`), in particular `mergeTop` =
`merge_dicts(out_row, {t: v})`, the one shape `process_row` uses.  First, this slice's copy of `str.split()` is `Spell.splitWs`. -/
namespace Pyxv.Headers
open Pyxv

/-- `Headers.splitWs` and `Spell.splitWs` differ in the order of two match arms -/
theorem splitWs_eq (s : Str) : splitWs s = Spell.splitWs s := by
  fun_induction splitWs s <;> simp_all [Spell.splitWs]

def Kvs.allTruthy : Kvs → Bool
  | .nil => true
  | .cons _ v rest => !v.falsy && rest.allTruthy

theorem Kvs.get_of_not_has : ∀ (m : Kvs) (q : Str), m.has q = false → m.get q = .none
  | .nil, _, _ => rfl
  | .cons k v rest, q, h => by
    simp only [Kvs.has, Bool.or_eq_false_iff, decide_eq_false_iff_not] at h
    simp only [Kvs.get, h.1, if_false]
    exact Kvs.get_of_not_has rest q h.2

theorem Kvs.truthy_get : ∀ (m : Kvs) (q : Str), m.allTruthy = true → m.has q = true → (m.get q).falsy = false
  | .nil, _, _, h => by simp [Kvs.has] at h
  | .cons k v rest, q, ht, h => by
    simp only [Kvs.allTruthy, Bool.and_eq_true, Bool.not_eq_true'] at ht
    by_cases hq : q = k
    · simp only [Kvs.get, hq, if_true]; exact ht.1
    · simp only [Kvs.has, hq, decide_false, Bool.false_or] at h
      simp only [Kvs.get, hq, if_false]
      exact Kvs.truthy_get rest q ht.2 h

theorem Kvs.append_get : ∀ (a b : Kvs) (q : Str), (a.append b).get q = if a.has q then a.get q else b.get q
  | .nil, b, q => by simp [Kvs.append, Kvs.has]
  | .cons k v rest, b, q => by
    by_cases hq : q = k
    · simp [Kvs.append, Kvs.get, Kvs.has, hq]
    · simp only [Kvs.append, Kvs.get, Kvs.has, hq, if_false, decide_false, Bool.false_or]
      exact Kvs.append_get rest b q

theorem Kvs.append_has : ∀ (a b : Kvs) (q : Str), (a.append b).has q = (a.has q || b.has q)
  | .nil, b, q => by simp [Kvs.append, Kvs.has]
  | .cons k v rest, b, q => by
    simp only [Kvs.append, Kvs.has, Kvs.append_has rest b q, Bool.or_assoc]

theorem Kvs.set_get : ∀ (m : Kvs) (t : Str) (w : V) (q : Str), (m.set t w).get q = if q = t then w else m.get q
  | .nil, t, w, q => by simp [Kvs.set, Kvs.get]
  | .cons k v rest, t, w, q => by
    by_cases htk : t = k
    · subst htk
      by_cases hq : q = t <;> simp [Kvs.set, Kvs.get, hq]
    · by_cases hq : q = k
      · subst hq
        simp [Kvs.set, Kvs.get, htk, Ne.symm htk]
      · simp only [Kvs.set, htk, if_false, Kvs.get, hq]
        exact Kvs.set_get rest t w q

theorem merge_none_right (dk : Str) (a : V) (h : a.falsy = false) : merge dk a .none = a := by
  cases a with
  | none => simp [V.falsy] at h
  | str s => cases s <;> simp_all [merge, V.falsy]
  | dict ka => cases ka <;> simp_all [merge, V.falsy]

theorem merge_none_left (dk : Str) (b : V) : merge dk .none b = b := by simp [merge]

theorem mergeKvs_get (dk : Str) : ∀ (ka kb : Kvs) (q : Str),
    (mergeKvs dk ka kb).get q =
      if ka.has q then (if kb.has q then merge dk (ka.get q) (kb.get q) else ka.get q) else .none
  | .nil, kb, q => by simp [mergeKvs, Kvs.get, Kvs.has]
  | .cons k v rest, kb, q => by
    by_cases hq : q = k
    · simp [mergeKvs, Kvs.get, Kvs.has, hq]
    · simp only [mergeKvs, Kvs.get, Kvs.has, hq, if_false, decide_false, Bool.false_or]
      exact mergeKvs_get dk rest kb q

theorem mergeKvs_has (dk : Str) : ∀ (ka kb : Kvs) (q : Str), (mergeKvs dk ka kb).has q = ka.has q
  | .nil, kb, q => by simp [mergeKvs, Kvs.has]
  | .cons k v rest, kb, q => by
    simp only [mergeKvs, Kvs.has, mergeKvs_has dk rest kb q]

theorem mergeKvs_disjoint (dk : Str) : ∀ (ka kb : Kvs), (∀ q, ka.has q = true → kb.has q = false) →
    mergeKvs dk ka kb = ka
  | .nil, _, _ => by simp [mergeKvs]
  | .cons k v rest, kb, hd => by
    have hk : kb.has k = false := hd k (by simp [Kvs.has])
    have hr : ∀ q, rest.has q = true → kb.has q = false := fun q h => hd q (by simp [Kvs.has, h])
    simp [mergeKvs, hk, mergeKvs_disjoint dk rest kb hr]

theorem mergeTop_eq (dk : Str) (out : Kvs) (t : Str) (v : V) :
    mergeTop dk out t v = (mergeKvs dk out (.cons t v .nil)).append ((Kvs.cons t v .nil).without out) := by
  cases out <;> simp [mergeTop, merge, V.falsy, V.asKvs, mergeKvs, Kvs.without, Kvs.has, Kvs.append]

/-- `merge_dicts(out_row, {t: v})` changes key `t` and no other key, for every row -/
theorem mergeTop_get (dk : Str) (out : Kvs) (t : Str) (v : V) (q : Str) :
    (mergeTop dk out t v).get q = if q = t then merge dk (out.get t) v else out.get q := by
  rw [mergeTop_eq, Kvs.append_get, mergeKvs_has, mergeKvs_get, Kvs.without]
  by_cases hq : q = t
  · subst hq
    cases hh : out.has q
    · simp [Kvs.get_of_not_has _ _ hh, merge_none_left, Kvs.get, Kvs.without]
    · simp [Kvs.get, Kvs.has]
  · cases hh : out.has q
    · cases out.has t <;> simp [hq, Kvs.get_of_not_has _ _ hh, Kvs.get, Kvs.without]
    · simp [hq, Kvs.has]

/-- merging a one-key dict into a dict is the top-level merge (also when the left dict is empty) -/
theorem merge_dict_single (dk : Str) (m : Kvs) (l : Str) (x : V) :
    merge dk (.dict m) (.dict (.cons l x .nil)) = .dict (mergeTop dk m l x) := by
  cases m <;> simp [mergeTop, merge, V.falsy, V.asKvs]

theorem mergeTop_has (dk : Str) (out : Kvs) (t : Str) (v : V) (q : Str) :
    (mergeTop dk out t v).has q = (out.has q || decide (q = t)) := by
  rw [mergeTop_eq, Kvs.append_has, mergeKvs_has, Kvs.without]
  by_cases hq : q = t
  · subst hq
    cases out.has q <;> simp [Kvs.has, Kvs.without]
  · cases out.has t <;> simp [hq, Kvs.has, Kvs.without]

theorem Kvs.has_iff_mem_keys : ∀ (m : Kvs) (q : Str), m.has q = true ↔ q ∈ m.keys
  | .nil, q => by simp [Kvs.has, Kvs.keys]
  | .cons k v rest, q => by
    simp only [Kvs.has, Kvs.keys, Bool.or_eq_true, decide_eq_true_eq, List.mem_cons, Kvs.has_iff_mem_keys rest q]

theorem Kvs.keys_append : ∀ (a b : Kvs), (a.append b).keys = a.keys ++ b.keys
  | .nil, b => by simp [Kvs.append, Kvs.keys]
  | .cons k v rest, b => by simp [Kvs.append, Kvs.keys, Kvs.keys_append rest b]

theorem mergeKvs_keys (dk : Str) : ∀ (ka kb : Kvs), (mergeKvs dk ka kb).keys = ka.keys
  | .nil, _ => by simp [mergeKvs, Kvs.keys]
  | .cons k v rest, kb => by simp [mergeKvs, Kvs.keys, mergeKvs_keys dk rest kb]

/-- the dict (if any) has pairwise distinct keys: true of every Python dict, here a property `merge` preserves -/
def NodupV : V → Prop
  | .dict m => m.keys.Nodup
  | _ => True

theorem nodupV_ite {c : Prop} [Decidable c] {a b : V} (ha : c → NodupV a) (hb : ¬c → NodupV b) :
    NodupV (if c then a else b) := by
  split
  · exact ha ‹_›
  · exact hb ‹_›

theorem Kvs.without_keys : ∀ (b a : Kvs), (b.without a).keys = b.keys.filter fun k => !a.has k
  | .nil, _ => rfl
  | .cons k v rest, a => by
    cases h : a.has k <;> simp [Kvs.without, Kvs.keys, h, Kvs.without_keys rest a]

theorem Kvs.not_mem_keys {m : Kvs} {q : Str} (h : ¬ m.has q = true) : q ∉ m.keys :=
  fun hm => h ((Kvs.has_iff_mem_keys m q).mpr hm)

theorem merge_nodup (dk : Str) (a b : V) (ha : NodupV a) (hb : NodupV b) : NodupV (merge dk a b) := by
  cases a with
  | none => rw [merge_none_left]; exact hb
  | str s =>
    simp only [merge]
    refine nodupV_ite (fun _ => hb) fun _ => nodupV_ite (fun _ => trivial) fun _ => ?_
    cases b with
    | none => trivial
    | str t => trivial
    | dict kb => exact nodupV_ite (fun _ => hb) fun hd => List.nodup_cons.mpr ⟨Kvs.not_mem_keys hd, hb⟩
  | dict ka =>
    cases ka with
    | nil => simpa [merge] using hb
    | cons k v rest =>
      simp only [merge]
      refine nodupV_ite (fun _ => ha) fun _ => ?_
      cases b with
      | none => exact ha
      | str t =>
        refine nodupV_ite (fun _ => ha) fun hd => ?_
        simp only [NodupV, Kvs.keys_append, Kvs.keys]
        exact List.nodup_append.mpr ⟨ha, by simp, fun x hx y hy e => Kvs.not_mem_keys hd (by simp at hy; exact hy ▸ e ▸ hx)⟩
      | dict kb =>
        simp only [NodupV, Kvs.keys_append, mergeKvs_keys, Kvs.without_keys]
        exact List.nodup_append.mpr ⟨ha, hb.filter _, fun x hx y hy e => by
          have := (List.mem_filter.mp hy).2
          exact Kvs.not_mem_keys (by simpa using this) (e ▸ hx)⟩

theorem mergeTop_keys_nodup (dk : Str) (out : Kvs) (t : Str) (v : V) (h : out.keys.Nodup) :
    (mergeTop dk out t v).keys.Nodup := by
  have := merge_nodup dk (.dict out) (.dict (.cons t v .nil)) h (by simp [NodupV, Kvs.keys])
  rwa [merge_dict_single] at this

end Pyxv.Headers
