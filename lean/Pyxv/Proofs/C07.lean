import Pyxv.Proofs.ItextLemmas
import Pyxv.Proofs.ItextIds
import Pyxv.Proofs.ItextSlots
import Pyxv.Proofs.ItextValues
import Pyxv.Proofs.Literals
/-!
# C07 — every itext reference resolves in every language

Theorems about `Pyxv.Itext`, the model of the translation-table pipeline of `survey.py` and of the itext references the XForm
emits, for all surveys: any element tree, any number of languages, any sparse pattern of translated slots.  `refs_exist`
carries one guard, `wf` (shape of the builder's output: no empty dict in a translatable slot, bind-message keys unique —
evaluated by the check on every generated input, derived from the sheet cells in C07Rows / C07Sheets); the other components of
the oracle predicate `Itext.holds` need no hypothesis.
-/
namespace Pyxv.C07
open Pyxv Pyxv.Itext

/-- all itext ids referenced by the XForm: body refs, bind-message refs, choice `itextId`s -/
def refs (x : Survey) : List Str := (out x).bodyRefs ++ (out x).bindRefs ++ (out x).itemIds

def ents (x : Survey) : List Ent := entries x.defaultLanguage x.lists (flats x)

/-- whenever the model accepts, its result is `out x`, about which the theorems are stated -/
theorem run_ok {x : Survey} {o : Out} (h : run x = .ok o) : o = out x := by
  simp only [run] at h
  split at h
  · cases h
  · split at h
    · cases h
    · split at h
      · cases h; rfl
      · cases h

theorem out_translations (x : Survey) :
    (out x).translations = itext x.defaultLanguage (pad x.lists (setup (ents x))) := rfl

theorem langs_itext (dl : Str) (T : Table) : (itext dl T).map (·.lang) = keys T := by
  simp [itext, keys, List.map_map, Function.comp_def]

theorem mem_itext {dl : Str} {T : Table} {t : Tr} (h : t ∈ itext dl T) :
    ∃ lps ∈ T, t.lang = lps.1 ∧ t.isDefault = (lps.1 == dl) ∧ t.ids = keys lps.2 := by
  unfold itext at h
  obtain ⟨lps, hl, rfl⟩ := List.mem_map.mp h
  exact ⟨lps, hl, rfl, rfl, by simp [Tr.ids, keys, List.map_map, Function.comp_def]⟩

theorem tableOk (x : Survey) : TableOk (pad x.lists (setup (ents x))) := tableOk_pad (tableOk_setup _)

/-- No language appears twice in the itext block. -/
theorem langs_nodup (x : Survey) : ((out x).translations.map (·.lang)).Nodup := by
  rw [out_translations, langs_itext]
  exact (tableOk x).1

/-- No text id appears twice within a translation. -/
theorem ids_nodup (x : Survey) : ∀ t ∈ (out x).translations, t.ids.Nodup := by
  intro t ht
  rw [out_translations] at ht
  obtain ⟨lps, hl, _, _, hi⟩ := mem_itext ht
  rw [hi]
  exact (tableOk x).2 lps hl

/-- All translations contain the same text ids — as sets: the order differs between languages, in the implementation and
in the model. -/
theorem pad_uniform (x : Survey) :
    ∀ t₁ ∈ (out x).translations, ∀ t₂ ∈ (out x).translations, ∀ i, i ∈ t₁.ids ↔ i ∈ t₂.ids := by
  intro t₁ h₁ t₂ h₂ i
  rw [out_translations] at h₁ h₂
  obtain ⟨l₁, hl₁, _, _, hi₁⟩ := mem_itext h₁
  obtain ⟨l₂, hl₂, _, _, hi₂⟩ := mem_itext h₂
  rw [hi₁, hi₂, mem_keys_pad hl₁, mem_keys_pad hl₂]

/-- the mark is `lang == default_language` on every translation (also when the default language is
not among them: then nothing is marked) -/
theorem default_mark (x : Survey) :
    ∀ t ∈ (out x).translations, t.isDefault = (t.lang == x.defaultLanguage) := by
  intro t ht
  rw [out_translations] at ht
  obtain ⟨lps, _, hlang, hdef, _⟩ := mem_itext ht
  rw [hdef, hlang]

/-- When the default language is one of the translations, exactly that translation carries `default="true()"`. -/
theorem default_unique (x : Survey)
    (hd : x.defaultLanguage ∈ (out x).translations.map (·.lang)) :
    ∃ pre t post, (out x).translations = pre ++ t :: post ∧ t.lang = x.defaultLanguage ∧
      t.isDefault = true ∧ ∀ u ∈ pre ++ post, u.isDefault = false := by
  obtain ⟨t, ht, hl⟩ := List.mem_map.mp hd
  obtain ⟨pre, post, heq⟩ := List.append_of_mem ht
  have hm := default_mark x
  have hn := langs_nodup x
  rw [heq] at hm hn
  refine ⟨pre, t, post, heq, hl, by rw [hm t (by simp), hl, beq_self_eq_true], fun u hu => ?_⟩
  -- the languages are distinct, so no translation before or after `t` has the language of `t`
  rw [List.map_append, List.map_cons, List.nodup_append, List.nodup_cons] at hn
  obtain ⟨_, ⟨hpost, _⟩, hpre⟩ := hn
  have hne : u.lang ≠ t.lang := by
    rcases List.mem_append.mp hu with h | h
    · exact hpre _ (List.mem_map_of_mem h) _ List.mem_cons_self
    · exact fun e => hpost (e ▸ List.mem_map_of_mem h)
  rw [hm u (by rcases List.mem_append.mp hu with h | h <;> simp [h]), ← hl]
  exact beq_false_of_ne hne

theorem mem_ents {x : Survey} {e : Ent} :
    e ∈ ents x ↔ e ∈ choiceEntries x.defaultLanguage x.lists ∨
      ∃ f ∈ (flats x).filter visited, e ∈ elemEntries x.defaultLanguage f ++ mediaEntries x.defaultLanguage f := by
  simp only [ents, entries, List.mem_append, List.mem_flatMap, or_assoc, ← exists_or, ← and_or_left]

theorem mem_ents_of_elem {x : Survey} {f : Flat} (hf : f ∈ flats x) (hv : visited f = true) {e : Ent}
    (he : e ∈ elemEntries x.defaultLanguage f ++ mediaEntries x.defaultLanguage f) : e ∈ ents x :=
  mem_ents.mpr (.inr ⟨f, List.mem_filter.mpr ⟨hf, hv⟩, he⟩)

theorem mem_ents_of_choice {x : Survey} {e : Ent} (he : e ∈ choiceEntries x.defaultLanguage x.lists) :
    e ∈ ents x :=
  mem_ents.mpr (.inl he)

theorem wf_elem {x : Survey} (hw : wf x = true) {f : Flat} (hf : f ∈ flats x) : elemWf f.d = true := by
  simp only [wf, Bool.and_eq_true, List.all_eq_true] at hw
  exact hw.1 f hf

/-- `r` is the id of a choice of an itext-requiring list, and some language exists -/
def ChoiceRef (x : Survey) (r : Str) : Prop := r ∈ x.lists.flatMap listIds ∧ ∃ e, e ∈ ents x

theorem listIds_choiceRef {x : Survey} (hw : wf x = true) {l : CList} (hl : l ∈ x.lists) {r : Str}
    (hr : r ∈ listIds l) : ChoiceRef x r := by
  refine ⟨List.mem_flatMap.mpr ⟨l, hl, hr⟩, ?_⟩
  simp only [wf, Bool.and_eq_true, List.all_eq_true] at hw
  obtain ⟨e, he⟩ := requires_entry x.defaultLanguage hl (hw.2 l hl) (mem_listIds_iff.mp hr).1
  exact ⟨e, mem_ents_of_choice he⟩

theorem labelAndHint_sub {f : Flat} {r : Str} (h : r ∈ labelAndHint f) : r ∈ labelRef f ∨ r ∈ hintRef f := by
  unfold labelAndHint at h
  exact (List.mem_append.mp h).imp (fun h => (List.mem_ite_nil_right.mp h).2) fun h => (List.mem_ite_nil_right.mp h).2

theorem label_or_hint_entry {x : Survey} (hw : wf x = true) {f : Flat} (hf : f ∈ flats x)
    (hv : visited f = true) {r : Str} (h : r ∈ labelRef f ∨ r ∈ hintRef f) :
    ∃ e ∈ ents x, e.path = r := by
  rcases h with h | h
  · obtain ⟨e, he, hp⟩ := labelRef_entry x.defaultLanguage (wf_elem hw hf) h
    exact ⟨e, mem_ents_of_elem hf hv he, hp⟩
  · obtain ⟨e, he, hp⟩ := hintRef_entry x.defaultLanguage (wf_elem hw hf) h
    exact ⟨e, mem_ents_of_elem hf hv (List.mem_append.mpr (Or.inl he)), hp⟩

theorem searchItemRefs_entry {x : Survey} (hw : wf x = true) {n r : Str}
    (h : r ∈ searchItemRefs x.lists n) : ChoiceRef x r := by
  unfold searchItemRefs at h
  split at h
  next l hfind => exact listIds_choiceRef hw (List.mem_of_find?_eq_some hfind) h
  next => cases h

theorem tag_mem_flatten : ∀ (e : Elem) (pre : Str) (hid : Bool), ∀ f ∈ flatten pre hid e, ∀ nl ∈ f.d.tags,
    (⟨f.xpath ++ '/' :: nl.1, tagD nl, f.hidden⟩ : Flat) ∈ flatten pre hid e := by
  intro e
  induction e using Elem.induct with
  | node d kids ih =>
    intro pre hid f hf nl hnl
    rw [mem_flatten] at hf ⊢
    rcases hf with rfl | hf | ⟨k, hk, hf⟩
    · exact .inr (.inl (List.mem_map.mpr ⟨nl, hnl, rfl⟩))
    · obtain ⟨nl', _, rfl⟩ := List.mem_map.mp hf
      simp [tagD] at hnl
    · exact .inr (.inr ⟨k, hk, ih k hk _ _ f hf nl hnl⟩)

/-- the label ref of an osm tag is filed by the tag's own visit in `_setup_translations` (eb9b6f4) -/
theorem tagRefs_entry {x : Survey} (hw : wf x = true) {f : Flat} (hf : f ∈ flats x) {r : Str}
    (h : r ∈ tagRefs f) : ∃ e ∈ ents x, e.path = r := by
  unfold tagRefs at h
  obtain ⟨nl, hnl, hin⟩ := List.mem_flatMap.mp h
  obtain ⟨hd, hin⟩ := List.mem_ite_nil_right.mp hin
  simp only [List.mem_singleton] at hin
  have hf' : (⟨f.xpath ++ '/' :: nl.1, tagD nl, f.hidden⟩ : Flat) ∈ flats x := by
    obtain ⟨e, he, hfe⟩ := mem_flattenL.mp hf
    exact mem_flattenL.mpr ⟨e, he, tag_mem_flatten e _ _ f hfe nl hnl⟩
  apply label_or_hint_entry hw hf' (by simp [visited, tagD])
  left
  simp [labelRef, needsItextRef, tagD, hd, hin]

theorem bodyRefs_entry {x : Survey} (hw : wf x = true) {f : Flat}
    (hf : f ∈ flats x) {r : Str} (h : r ∈ bodyRefs x.lists f) :
    (∃ e ∈ ents x, e.path = r) ∨ ChoiceRef x r := by
  unfold bodyRefs at h
  split at h
  · cases h
  · -- an element that is not visited (class `inert`) contributes no reference
    have hv : visited f = true := by
      have hne : f.d.cls ≠ .inert := fun hc => by rw [hc] at h; exact List.not_mem_nil h
      simpa [visited] using hne
    -- the arms of `bodyRefs`, in its order: group, repeat, control, osm, select, the rest
    split at h
    · exact Or.inl (label_or_hint_entry hw hf hv (Or.inl (List.mem_ite_nil_right.mp h).2))
    · exact Or.inl (label_or_hint_entry hw hf hv (Or.inl h))
    · exact Or.inl (label_or_hint_entry hw hf hv (labelAndHint_sub (List.mem_ite_nil_right.mp h).2))
    · rcases List.mem_append.mp (List.mem_ite_nil_right.mp h).2 with h | h
      · exact Or.inl (label_or_hint_entry hw hf hv (labelAndHint_sub h))
      · exact Or.inl (tagRefs_entry hw hf h)
    · rcases List.mem_append.mp (List.mem_ite_nil_right.mp h).2 with h | h
      · exact Or.inl (label_or_hint_entry hw hf hv (labelAndHint_sub h))
      · exact Or.inr (searchItemRefs_entry hw (List.mem_ite_nil_right.mp h).2)
    · cases h

theorem ref_entry {x : Survey} (hw : wf x = true) {r : Str}
    (h : r ∈ refs x) : (∃ e ∈ ents x, e.path = r) ∨ ChoiceRef x r := by
  unfold refs out at h
  simp only [List.mem_append] at h
  rcases h with (h | h) | h
  · obtain ⟨f, hf, hr⟩ := List.mem_flatMap.mp h
    exact bodyRefs_entry hw hf hr
  · obtain ⟨f, hf, hr⟩ := List.mem_flatMap.mp h
    obtain ⟨hv, e, he, hp⟩ := bindRefs_entry x.defaultLanguage (wf_elem hw hf) hr
    exact Or.inl ⟨e, mem_ents_of_elem hf hv (List.mem_append.mpr (Or.inl he)), hp⟩
  · unfold itemIds at h
    obtain ⟨l, hl, hr⟩ := List.mem_flatMap.mp h
    exact Or.inr (listIds_choiceRef hw (List.mem_filter.mp hl).1 hr)

theorem nonempty_of_ent {x : Survey} {e : Ent} (he : e ∈ ents x) :
    itext x.defaultLanguage (pad x.lists (setup (ents x))) ≠ [] := by
  obtain ⟨lps, hl, _, _⟩ := path_filed he
  intro hnil
  have : (itext x.defaultLanguage (pad x.lists (setup (ents x)))).map (·.lang) = [] := by rw [hnil]; rfl
  rw [langs_itext, keys_pad] at this
  have hm : lps.1 ∈ keys (setup (ents x)) := List.mem_map.mpr ⟨lps, hl, rfl⟩
  rw [this] at hm
  cases hm

/-- Every `jr:itext('id')` reference in the body or in bind messages, and every `itextId` of a choice
item, names a text entry that exists in every translation (and an itext block exists).  Guard: `wf`. -/
theorem refs_exist (x : Survey) (hw : wf x = true) :
    ∀ r ∈ refs x, (out x).translations ≠ [] ∧ ∀ t ∈ (out x).translations, r ∈ t.ids := by
  intro r hr
  rw [out_translations]
  -- some entry exists, and `r` is a path of the table before padding or a choice id that padding adds
  obtain ⟨e, he, hmem⟩ : ∃ e ∈ ents x, (∃ lps ∈ setup (ents x), r ∈ keys lps.2) ∨ r ∈ x.lists.flatMap listIds := by
    rcases ref_entry hw hr with ⟨e, he, hp⟩ | ⟨hc, e, he⟩
    · obtain ⟨lps, hl, _, hk⟩ := path_filed he
      exact ⟨e, he, Or.inl ⟨lps, hl, hp ▸ hk⟩⟩
    · exact ⟨e, he, Or.inr hc⟩
  refine ⟨nonempty_of_ent he, fun t ht => ?_⟩
  obtain ⟨lps', hl', _, _, hi⟩ := mem_itext ht
  rw [hi, mem_keys_pad hl']
  exact hmem

/-- at most one translation is marked default, whatever the default language is -/
theorem default_at_most_one (x : Survey) :
    ((out x).translations.filter (·.isDefault)).length ≤ 1 := by
  -- the marked translations are those whose language is the default one, and the languages are distinct
  rw [List.filter_congr (default_mark x), ← List.countP_eq_length_filter]
  have h := List.nodup_iff_count.mp (langs_nodup x) x.defaultLanguage
  rwa [List.count, List.countP_map] at h

/-- the three guard-free statements as the oracle's components -/
theorem holds_unconditional (x : Survey) :
    uniform (obsOf x.defaultLanguage (out x)) = true ∧ noDup (obsOf x.defaultLanguage (out x)) = true ∧
      defaultOk (obsOf x.defaultLanguage (out x)) = true := by
  refine ⟨?_, ?_, ?_⟩
  · simp only [uniform, obsOf, List.all_eq_true, List.contains_iff_mem]
    intro t₁ h₁ t₂ h₂ i hi
    exact (pad_uniform x t₁ h₁ t₂ h₂ i).mp hi
  · simp only [noDup, obsOf, Bool.and_eq_true, List.all_eq_true, nodupB_iff]
    exact ⟨langs_nodup x, ids_nodup x⟩
  · simp only [defaultOk, obsOf, List.all_eq_true, beq_iff_eq]
    exact default_mark x

/-- `Itext.holds`, the oracle the check evaluates on the implementation's XForm, is true of the model's output under the
guard. -/
theorem holds_out (x : Survey) (hw : wf x = true) :
    holds (obsOf x.defaultLanguage (out x)) = true := by
  obtain ⟨hu, hn, hd⟩ := holds_unconditional x
  unfold holds
  simp only [Bool.and_eq_true]
  refine ⟨⟨⟨?_, hu⟩, hn⟩, hd⟩
  simp only [refsExist, obsOf, List.all_eq_true, Bool.and_eq_true, Bool.not_eq_true',
    List.isEmpty_eq_false_iff, List.contains_iff_mem]
  exact refs_exist x hw

/-- No two choice items share an `itextId`, for any pairwise distinct list names (dict keys of `Survey.choices`) — also
ones that contain `-` or end in digits (`a-1` item 0 vs `a` item 10). -/
theorem itemIds_nodup (x : Survey) (h : (x.lists.map (·.name)).Nodup) : (out x).itemIds.Nodup := by
  unfold out itemIds
  apply nodup_flatMap_listIds
  exact List.Nodup.sublist (List.Sublist.map _ List.filter_sublist) h

/-- An id names one source: a choice id is never an element id, two element ids coincide only for the same xpath and
display element, two choice ids only for the same list and index. -/
theorem rendered_ids_injective :
    (∀ (n m : Str) (i j : Nat), choiceId n i = choiceId m j → n = m ∧ i = j) ∧
    (∀ (x y : Str) (d e : String), d ∈ displays → e ∈ displays → path x d = path y e → x = y ∧ d = e) ∧
    (∀ (n : Str) (i : Nat) (x : Str) (d : String), d ∈ displays → choiceId n i ≠ path x d) :=
  ⟨fun _ _ _ _ h => choiceId_inj h, fun _ _ _ _ hd he h => path_inj hd he h,
   fun n i x _ hd => choiceId_ne_path n i x hd⟩

/-- non-vacuity: adversarial names (`a-1` item 0 / `a` item 10; a question named `q:jr` has
`/data/q:jr:label`, not a message id of `q`) -/
example : choiceId "a-1".toList 0 ≠ choiceId "a".toList 10 ∧
    path "/data/q:jr".toList "label" ≠ path "/data/q".toList "jr:constraintMsg" ∧
    "jr:noAppErrorString" ∈ displays := by
  refine ⟨?_, ?_, by decide⟩
  · intro h; have := (choiceId_inj h).2; omega
  · intro h
    have := (path_inj (by decide) (by decide) h).2
    exact absurd this (by decide)

/-- A text written for a language is what that language's translation holds: the last assignment to
`_translations[lang][id][form]` is the value in the final table; `_add_empty_translations` never overwrites it. -/
theorem value_written (x : Survey) {pre post : List Ent} {e : Ent} (h : ents x = pre ++ e :: post)
    (hlast : ∀ e' ∈ post, ¬ sameKey e e') :
    valueAt (table x) e.lang e.path e.form = some e.text := by
  have : table x = pad x.lists (setup (ents x)) := rfl
  rw [this, h]
  exact valueAt_pad _ _ _ _ _ _ (valueAt_setup_last pre post e hlast)

/-- No language shows a text written for something else: every value of the final table is the padding `-` or the text
of a leaf assignment for exactly this language, id and content type. -/
theorem value_sound (x : Survey) :
    ∀ lps ∈ table x, ∀ pf ∈ lps.2, ∀ ft ∈ pf.2,
      ft.2 = dashStr ∨ (⟨lps.1, pf.1, ft.1, ft.2⟩ : Ent) ∈ ents x :=
  sound_pad x.lists (sound_setup (ents x))

def q (cls : Cls) (name : String) (label hint guidance : Txt) : ElemD :=
  { cls := cls, name := name.toList, type := "text".toList, label := label, hint := hint,
    guidance := guidance, media := none, msgs := [], hasCalc := false, trigger := false,
    bodyless := false, flat := false, appearance := none, itemset := none, list := [],
    hasChoices := false }

def tr (l : List (String × String)) : Txt := .dict (l.map fun ab => (ab.1.toList, ab.2.toList))

/-- four languages (en, fr from the choices; `default` from the plain hint that accompanies a
guidance hint; es from the image), a translated constraint message, a shared translated list -/
def ex1 (secondLabel : Txt) : Survey :=
  { defaultLanguage := "default".toList
    lists := [⟨"c".toList, [⟨tr [("en", "A"), ("fr", "Af")], none⟩, ⟨secondLabel, none⟩]⟩]
    root := .node (q .group "data" .none .none .none) [
      .node { q .control "a" (tr [("en", "A")]) (.str "h".toList) (tr [("fr", "g")]) with
                media := some [("image".toList, tr [("es", "a.png")])]
                msgs := [("jr:constraintMsg".toList, tr [("fr", "m")])] } [],
      .node (q .group "g" (.str "G".toList) .none .none) [
        .node { q .select "s" (.str "S".toList) .none .none with
                  itemset := some "c".toList, list := "c".toList, hasChoices := true } []] ] }

/-- the guards of `refs_exist` / `holds_out` are satisfiable by a survey with 5 references and
4 translations; the hypothesis of `default_unique` holds for it as well -/
example :
    let x := ex1 (tr [("en", "B")])
    wf x = true ∧ choicesLabeled x = true ∧ (refs x).length = 5 ∧ (out x).translations.length = 4 ∧
      ((out x).translations.map (·.lang)).contains x.defaultLanguage = true ∧
      (match run x with | .ok _ => true | _ => false) = true ∧
      holds (obsOf x.defaultLanguage (out x)) = true := by decide +kernel

/-- non-vacuity of `itemIds_nodup` -/
example : (out (ex1 (tr [("en", "B")]))).itemIds.length = 2 ∧
    ((ex1 (tr [("en", "B")])).lists.map (·.name)).Nodup := by
  refine ⟨by decide +kernel, by decide +kernel⟩

/-- non-vacuity of the value-level statements: the French constraint message is shown in French, English is
padded with `-`, the Spanish image is filed under `image` -/
example :
    let T := table (ex1 (tr [("en", "B")]))
    valueAt T "fr".toList "/data/a:jr:constraintMsg".toList "long".toList = some "m".toList ∧
    valueAt T "en".toList "/data/a:jr:constraintMsg".toList "long".toList = some dashStr ∧
    valueAt T "es".toList "/data/a:label".toList "image".toList = some "a.png".toList ∧
    valueAt T "default".toList "/data/a:hint".toList "guidance".toList = some dashStr := by
  simp only [toList_lit rfl]
  decide +kernel

/-- F6: with the second choice unlabeled, `c-1` is still padded into every translation -/
theorem f6_repaired :
    let x := ex1 .none
    wf x = true ∧ choicesLabeled x = false ∧ (match run x with | .ok _ => true | _ => false) = true ∧
      holds (obsOf x.defaultLanguage (out x)) = true := by decide +kernel

/-- an osm question with two tags, the first with a translated label -/
def exOsm (tagLabel : Txt) : Survey :=
  { defaultLanguage := "default".toList
    lists := []
    root := .node (q .group "data" .none .none .none) [
      .node { q .osm "b" (tr [("en", "B")]) .none .none with
                tags := [("name".toList, tagLabel), ("addr".toList, .str "Addr".toList)] } [] ] }

/-- F45: the label of an osm tag, `/data/b/name:label`, is filed in `en` and `fr` by the tag's own visit and padded
elsewhere -/
theorem f45_repaired :
    let x := exOsm (tr [("en", "Name"), ("fr", "Nom")])
    wf x = true ∧ (match run x with | .ok _ => true | _ => false) = true ∧
      (refs x).contains "/data/b/name:label".toList = true ∧
      holds (obsOf x.defaultLanguage (out x)) = true := by decide +kernel

/-- the languages' id lists differ in order but not as sets (why `pad_uniform` is stated on membership) -/
example :
    let ts := (out (ex1 (tr [("en", "B")]))).translations
    (ts.map (·.ids)).eraseDups.length > 1 := by decide +kernel

/-- `tables_*`: table facts the model's lookups rely on, re-checked against the current source on every run -/
theorem tables_media : Pyxv.Gen.supportedMediaTypes = ["audio", "big-image", "image", "video"] := rfl

theorem tables_external_ext : Pyxv.Gen.externalInstanceExtensions = [".csv", ".geojson", ".xml"] := rfl

theorem tables_regex :
    Pyxv.Gen.regexSources.lookup "survey.SEARCH_FUNCTION_REGEX" = some "search\\(.*?\\)" ∧
    Pyxv.Gen.regexSources.lookup "survey.BRACKETED_TAG_REGEX" = some "\\${(last-saved#)?(.*?)}" ∧
    Pyxv.Gen.defaultLanguageValue = "default" := by decide +kernel

end Pyxv.C07
