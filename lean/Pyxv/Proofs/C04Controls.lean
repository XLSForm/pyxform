import Pyxv.Proofs.ControlsLemmas
import Pyxv.Model.TableList
import Pyxv.Proofs.C04
import Pyxv.Proofs.C02
import Pyxv.Proofs.BaseLemmas
/-!
# C04 on the attribute model — every body control carries the attributes its type and cells dictate

`Pyxv.Controls` mirrors the code (ordered dict updates in `xls2json` / `Question.__init__` / `_build_xml`);
`Pyxv.Controls.Spec` is the table-driven statement; `body_attrs_of_row` equates them key by key for a non-select
question.  Select controls (`selAttrs`), group / repeat controls (`beginCtl`) and the list forms `Spec.bodyAttrs` /
`Spec.rowSpecs` that the driver evaluates are tied by the correspondence run only.  Also here: visibility, body
order, `controls_aligned` (attribute model and structure model emit the same controls), templates.
-/
namespace Pyxv.C04
open Pyxv Pyxv.Rows Pyxv.Controls


theorem fillDefault_eq (acc : Dict) (kv : Str × Str) : fillDefault acc kv = AList.upd kv.1 (·.getD kv.2) acc := by
  unfold fillDefault
  cases h : lookup kv.1 acc with
  | some w => exact (upd_eq_self_of_lookup h rfl).symm
  | none =>
    rw [dset_eq]
    exact upd_congr_of_lookup (by rw [h]; rfl)

theorem lookup_rangeParams (ps : Dict) (k : Str) :
    lookup k (rangeParams ps) = (lookup k ps).or (lookup k rangeDefaults) := by
  unfold rangeParams
  generalize rangeDefaults = defs
  induction defs generalizing ps with
  | nil => simp [lookup]
  | cons x rest ih =>
    rw [List.foldl_cons, ih, fillDefault_eq, lookup_upd, lookup]
    by_cases hk : k = x.1
    · rw [hk]; cases lookup x.1 ps <;> simp
    · cases lookup k ps <;> simp [hk]

theorem keysNodupB_rangeParams (ps : Dict) (h : keysNodupB ps = true) : keysNodupB (rangeParams ps) = true :=
  List.foldlRecOn (motive := (keysNodupB · = true)) rangeDefaults fillDefault h fun acc ha _ _ =>
    (keysNodupB_iff _).2 (fillDefault_eq .. ▸ AList.nodup_upd ((keysNodupB_iff acc).1 ha))

theorem keysNodupB_dset? (c : Dict) (k : Str) (o : Option Str) (h : keysNodupB c = true) :
    keysNodupB (match o with | some v => dset c k v | none => c) = true := by
  cases o with
  | none => exact h
  | some v => exact keysNodupB_dset _ _ _ h

theorem keysNodupB_paramCtl (t : Str) (r : Cells) (ps c : Dict) (h : keysNodupB c = true) :
    keysNodupB (paramCtl t r ps c) = true := by
  unfold paramCtl
  split
  · -- text
    exact keysNodupB_dset? _ _ _ h
  split
  · -- photo
    cases lookup (k!"app") ps with
    | none => exact h
    | some v =>
      cases appApplies r with
      | false => exact h
      | true => exact keysNodupB_dset _ _ _ h
  split
  · -- geo
    exact keysNodupB_dset? _ _ _ (keysNodupB_dset? _ _ _ h)
  · exact h

theorem find?_and {α : Type} (p q : α → Bool) (l : List α) :
    l.find? (fun a => p a && q a) = (l.filter p).find? q := by
  simp only [List.find?_filter, Bool.decide_and, Bool.decide_eq_true]

theorem paramCtl_lookup (t : Str) (r : Cells) (ps c : Dict) (k : Str) (ht : t ≠ k!"range") :
    lookup k (paramCtl t r ps c) =
      match Spec.paramAttr t r ps k with | some v => some v | none => lookup k c := by
  unfold paramCtl Spec.paramAttr
  rw [if_neg ht]
  -- in each branch: the rows of the table for type `t` first, then the key
  by_cases h1 : t = k!"text"
  · subst h1
    rw [find?_and, show Spec.paramAttrTable.filter (fun x => x.1 = k!"text") =
      [(k!"text", k!"rows", k!"rows")] from by decide]
    by_cases hk : k!"rows" = k
    · subst hk; cases hl : lookup (k!"rows") ps <;> simp [List.find?, lookup_dset, hl]
    · cases hl : lookup (k!"rows") ps <;> simp [List.find?, lookup_dset, hk, Ne.symm hk]
  · by_cases h2 : t = k!"photo"
    · subst h2
      rw [find?_and, show Spec.paramAttrTable.filter (fun x => x.1 = k!"photo") =
        [(k!"photo", k!"app", k!"intent")] from by decide]
      by_cases hk : k!"intent" = k
      · subst hk
        cases hl : lookup (k!"app") ps <;> cases ha : appApplies r <;> simp [List.find?, lookup_dset, hl]
      · cases hl : lookup (k!"app") ps <;> cases ha : appApplies r <;>
          simp [List.find?, lookup_dset, hk, Ne.symm hk]
    · by_cases h3 : isGeo t = true
      · have hf : Spec.paramAttrTable.filter (fun x => x.1 = t) =
            [(t, k!"capture-accuracy", k!"accuracyThreshold"),
             (t, k!"warning-accuracy", k!"unacceptableAccuracyThreshold")] := by
          have hg : t = k!"geopoint" ∨ t = k!"geoshape" ∨ t = k!"geotrace" := by
            simpa [isGeo, or_assoc] using h3
          rcases hg with rfl | rfl | rfl <;> decide
        rw [find?_and, hf, if_neg h1, if_neg h2, if_pos h3]
        -- `h2` in the `simp` sets below: the table's exception for `photo` (`appApplies`) does not apply to a geo type
        have hne : (k!"accuracyThreshold") ≠ k!"unacceptableAccuracyThreshold" := by decide
        by_cases hka : k!"accuracyThreshold" = k
        · subst hka
          cases hc : lookup (k!"capture-accuracy") ps <;> cases hw : lookup (k!"warning-accuracy") ps <;>
            simp [List.find?, lookup_dset, hc, h2, hne]
        · by_cases hku : k!"unacceptableAccuracyThreshold" = k
          · subst hku
            cases hc : lookup (k!"capture-accuracy") ps <;> cases hw : lookup (k!"warning-accuracy") ps <;>
              simp [List.find?, lookup_dset, hw, h2, hne, Ne.symm hne]
          · cases hc : lookup (k!"capture-accuracy") ps <;> cases hw : lookup (k!"warning-accuracy") ps <;>
              simp [List.find?, lookup_dset, hka, hku, Ne.symm hka, Ne.symm hku]
      · have hg : t ≠ k!"geopoint" ∧ t ≠ k!"geoshape" ∧ t ≠ k!"geotrace" := by
          simpa [isGeo, not_or, and_assoc] using h3
        simp [h1, h2, h3, Spec.paramAttrTable, List.find?, Ne.symm h1, Ne.symm h2, hg.1.symm, hg.2.1.symm,
          hg.2.2.symm]

theorem paramCtl_range (r : Cells) (ps c : Dict) : paramCtl (k!"range") r ps c = c := by
  simp [paramCtl, isGeo]

theorem paramAttr_not_target (t : Str) (r : Cells) (ps : Dict) (k : Str) (ht : t ≠ k!"range")
    (hk : Spec.paramAttrTable.all (fun x => x.2.2 != k) = true) : Spec.paramAttr t r ps k = none := by
  have : Spec.paramAttrTable.find? (fun x => x.1 = t && x.2.2 = k) = none :=
    List.find?_eq_none.mpr fun x hx => by have := List.all_eq_true.mp hk x hx; simp_all
  unfold Spec.paramAttr
  rw [if_neg ht, this]

/-- Model = specification (C04): attribute `k` of the body control the code builds (type-table `control` dict ⊕ row
    cells ⊕ parameter block, `tag` removed, `range` parameters set afterwards) is the parameter-derived value if the
    type's vocabulary gives one, else the row's `control::k` cell, else the type table's entry. -/
theorem body_attrs_of_row (t : Str) (e : List (String × String × String)) (r : Cells) (ps : Dict) (k : Str)
    (hr : keysNodupB (rowCtlCells r) = true) (hp : keysNodupB ps = true) :
    lookup k (qAttrs t e r ps) = Spec.bodyAttr t e r ps k := by
  unfold qAttrs Spec.bodyAttr
  by_cases ht : t = k!"range"
  · subst ht
    simp only [if_true, lookup_dupdate (keysNodupB_rangeParams ps hp), lookup_rangeParams,
      Spec.paramAttr, lookup_filter_ite, paramCtl_range, lookup_dupdate hr]
    cases lookup k ps with
    | some v => rfl
    | none =>
      cases lookup k rangeDefaults with
      | some v => rfl
      | none =>
        by_cases hk : k = k!"tag"
        · simp [hk]
        · simp only [hk, if_false]; cases lookup k (rowCtlCells r) <;> rfl
  · have hn : keysNodupB (paramCtl t r ps (rowCtlCells r)) = true := keysNodupB_paramCtl _ _ _ _ hr
    simp only [ht, if_false, lookup_filter_ite, lookup_dupdate hn,
      paramCtl_lookup t r ps _ k ht]
    by_cases hk : k = k!"tag"
    · subst hk
      simp [paramAttr_not_target t r ps (k!"tag") ht (by decide)]
    · simp only [hk, if_false]
      cases Spec.paramAttr t r ps k with
      | some v => rfl
      | none => cases lookup k (rowCtlCells r) <;> rfl


theorem paramAttr_appearance (t : Str) (r : Cells) (ps : Dict)
    (hrange : t = k!"range" → lookup (k!"appearance") ps = none) :
    Spec.paramAttr t r ps (k!"appearance") = none := by
  by_cases ht : t = k!"range"
  · simp [Spec.paramAttr, ht, hrange ht, rangeDefaults, lookup]
  · exact paramAttr_not_target t r ps (k!"appearance") ht (by decide)

theorem appearance_is_the_cell (t : Str) (e : List (String × String × String)) (r : Cells) (ps : Dict)
    (hr : keysNodupB (rowCtlCells r) = true) (hp : keysNodupB ps = true)
    (hrange : t = k!"range" → lookup (k!"appearance") ps = none) :
    lookup (k!"appearance") (qAttrs t e r ps) =
      match lookup (k!"appearance") (rowCtlCells r) with
      | some v => some v
      | none => lookup (k!"appearance") (typeCtl e) := by
  rw [body_attrs_of_row _ _ _ _ _ hr hp]
  unfold Spec.bodyAttr
  rw [paramAttr_appearance t r ps hrange]
  rfl

/-- The `appearance` attribute does not depend on the parameters cell (seeded change C04-1).  `range` sets every
    parameter as an attribute, hence `hrange` (`parameters_generic.validate` guarantees it). -/
theorem appearance_independent_of_parameters (t : Str) (e : List (String × String × String)) (r : Cells)
    (ps ps' : Dict) (hr : keysNodupB (rowCtlCells r) = true) (hp : keysNodupB ps = true) (hp' : keysNodupB ps' = true)
    (hrange : t = k!"range" → lookup (k!"appearance") ps = none ∧ lookup (k!"appearance") ps' = none) :
    lookup (k!"appearance") (qAttrs t e r ps) = lookup (k!"appearance") (qAttrs t e r ps') := by
  rw [appearance_is_the_cell t e r ps hr hp fun h => (hrange h).1,
    appearance_is_the_cell t e r ps' hr hp' fun h => (hrange h).2]

/-- Changing only the appearance cell changes no other attribute, with the one coded exception that a `photo`'s `app`
    parameter becomes `intent` only when the appearance is absent or `annotate` (xls2json.py 1276-1278). -/
theorem parameters_independent_of_appearance (t : Str) (e : List (String × String × String)) (r r' : Cells)
    (ps : Dict) (k : Str) (hr : keysNodupB (rowCtlCells r) = true) (hr' : keysNodupB (rowCtlCells r') = true)
    (hp : keysNodupB ps = true) (hk : k ≠ k!"appearance")
    (hsame : ∀ k', k' ≠ k!"appearance" → lookup k' (rowCtlCells r) = lookup k' (rowCtlCells r'))
    (hphoto : ¬ (t = k!"photo" ∧ k = k!"intent")) :
    lookup k (qAttrs t e r ps) = lookup k (qAttrs t e r' ps) := by
  rw [body_attrs_of_row _ _ _ _ _ hr hp, body_attrs_of_row _ _ _ _ _ hr' hp]
  have hpa : Spec.paramAttr t r ps k = Spec.paramAttr t r' ps k := by
    unfold Spec.paramAttr
    by_cases ht : t = k!"range"
    · simp [ht]
    · simp only [ht, if_false]
      by_cases hph : t = k!"photo"
      · subst hph
        have hk2 : ¬ k = k!"intent" := fun h => hphoto ⟨rfl, h⟩
        have hk3 : ¬ (k!"intent") = k := fun h => hk2 h.symm
        simp [Spec.paramAttrTable, List.find?, hk3]
      · simp [hph]
  unfold Spec.bodyAttr
  rw [hpa, hsame k hk]


/-- the control tag by which `builder._get_question_class` picks the class -/
def classTag (e : List (String × String × String)) : String :=
  let tag := (entryGet e "control" "tag").getD ""
  if tag = "upload" && entryGet e "control" "mediatype" = some "osm/*" then "osm" else tag

/-- A row of a table type other than the external-instance types has a body control iff its control class builds one and
    it is user-visible: not `calculate`, and with a calculation or a trigger only if it shows a label or a hint
    (seeded change C04-2). -/
theorem control_iff_visible (name t : Str) (r : Cells) (e : List (String × String × String)) (d : Form.QData)
    (hx : (t = "xml-external".toList || t = "csv-external".toList) = false) (he : typeEntry t = some e)
    (h : qdata name t r = some d) :
    d.control = (tagHasControl (classTag e) && Spec.visible t e r) := by
  unfold qdata at h
  split at h
  · rename_i h1; rw [hx] at h1; cases h1
  · rw [he] at h
    injection h with h
    subst h
    -- `qdata` writes `!(calculate || computed && !shown)`, `Spec.visible` its De Morgan form
    unfold Spec.visible
    rw [Bool.not_or, Bool.not_and, Bool.not_not]
    rfl

/-- the same for select rows; `select_types_plain` checks the two hypotheses against the tables -/
theorem select_control_iff_visible (lists : List Str) (r : Cells) (name sel ln : Str) (other : Bool)
    (e : List (String × String × String)) (d : Form.QData) (o : Option Form.QData)
    (hs : decide (sel = "calculate".toList) = false) (he : entryHas e "" = false)
    (h : classifySelect lists r name sel ln other = .row (.q d o)) :
    d.control = Spec.visible sel e r := by
  rcases classifySelect_inv h with ⟨_, hb⟩ | ⟨-, hq⟩
  · cases hb
  · cases hq
    unfold Spec.visible selectQ
    rw [hs, he, Bool.not_and, Bool.not_not, Bool.not_false, Bool.true_and, Bool.or_false]

def entryOf (t : String) : Option (List (String × String × String)) :=
  (Pyxv.Gen.questionTypes.find? fun p => p.1 = t).map (·.2)

/-- every type's control tag has a control class in `builder.QUESTION_CLASSES` -/
theorem every_tag_has_class :
    Pyxv.Gen.questionTypes.all (fun p => Pyxv.Gen.questionClasses.any fun c => c.1 = classTag p.2) = true := by
  decide +kernel

/-- `tagHasControl` = "the class of that tag overrides `Question.build_xml`" -/
theorem tagHasControl_is_build_xml :
    Pyxv.Gen.questionClasses.all (fun c => tagHasControl c.1 == c.2.2) = true := by decide +kernel

/-- the type table's `control` sections hold only `tag` and `mediatype`: every other attribute comes from the row -/
theorem type_control_keys :
    Pyxv.Gen.questionTypes.all (fun p => p.2.all fun x => x.1 != "control" || x.2.1 == "tag" || x.2.1 == "mediatype")
      = true := by decide +kernel

/-- a `mediatype` exactly on the `upload` types, from the documented set -/
theorem mediatype_iff_upload :
    Pyxv.Gen.questionTypes.all (fun p =>
      match entryGet p.2 "control" "mediatype" with
      | some m => entryGet p.2 "control" "tag" == some "upload" &&
                  ["image/*", "audio/*", "video/*", "application/*", "osm/*"].contains m
      | none => entryGet p.2 "control" "tag" != some "upload") = true := by decide +kernel

theorem mediatypes_as_documented :
    [("image", "image/*"), ("photo", "image/*"), ("audio", "audio/*"), ("video", "video/*"),
     ("file", "application/*")].all (fun tm =>
      match entryOf tm.1 with
      | some e => entryGet e "control" "tag" == some "upload" && entryGet e "control" "mediatype" == some tm.2
      | none => false) = true := by decide +kernel

/-- rows that are not user-visible by type — calculate, hidden, metadata, actions, external instances —
    have no control class that builds a node -/
theorem invisible_types_have_no_control :
    ["calculate", "hidden", "start", "end", "today", "deviceid", "username", "phonenumber", "email", "simserial",
     "subscriberid", "audit", "start-geopoint", "background-audio", "xml-external",
     "csv-external"].all (fun t =>
      match entryOf t with
      | some e => !tagHasControl (classTag e)
      | none => false) = true := by decide +kernel

theorem select_types_plain :
    Pyxv.Gen.aliasSelect.all (fun p =>
      p.2 != "calculate" &&
      match entryOf p.2 with
      | some e => !entryHas e "" && tagHasControl (classTag e)
      | none => false) = true := by decide +kernel

open Pyxv.Form

mutual
/-- element names of the body controls below an item, document order -/
def tagsOf : Item → List Str
  | .q d => if d.control then [d.tag] else []
  | .sec .rep _ _ ks => "group".toList :: "repeat".toList :: tagsOfL ks
  | .sec .group _ _ ks => "group".toList :: tagsOfL ks
  | .sec .loop _ _ ks => "group".toList :: tagsOfL ks
def tagsOfL : List Item → List Str
  | [] => []
  | k :: ks => tagsOf k ++ tagsOfL ks
end

def optTags : Option QData → List Str
  | some d => if d.control then [d.tag] else []
  | none => []

def headerTags : Form.Ctl → List Str
  | .rep => ["group".toList, "repeat".toList]
  | _ => ["group".toList]

/-- the controls one classified row contributes, in order -/
def rowTags : RowK → List Str
  | .q d other => (if d.control then [d.tag] else []) ++ optTags other
  | .begin_ ct _ _ helper => optTags helper ++ headerTags ct
  | _ => []

def allRowTags : List (Nat × RowK) → List Str
  | [] => []
  | (_, k) :: rest => rowTags k ++ allRowTags rest

/-- the element names of the controls of one node -/
def headTags : Head → List Str
  | .q d => if d.control then [d.tag] else []
  | .sec ct _ _ => headerTags ct

theorem tagsOfL_eq_heads : ∀ its, tagsOfL its = (headsL its).flatMap headTags :=
  walk_eq_heads headTags (fun _ => rfl) (fun ct _ _ _ => by cases ct <;> rfl) rfl (fun _ _ => rfl)

theorem optTags_eq (o : Option QData) : optTags o = (optHeads o).flatMap headTags := by
  cases o <;> simp [optTags, optHeads, headTags]

theorem rowTags_eq (k : RowK) : rowTags k = (rowHeads k).flatMap headTags := by
  cases k <;> simp [rowTags, rowHeads, optTags_eq, headTags]

theorem allRowTags_eq : ∀ rows : List (Nat × RowK), allRowTags rows = rows.flatMap fun r => rowTags r.2 :=
  eq_flatMap_of_eqns rfl fun _ _ => rfl

/-- Body order = sheet order (C04): the element names of the body controls in document order are the concatenation, row
    by row, of what each row contributes — its control if user-visible, `group` (+ `repeat`) for a begin row, the
    `_other` companion after its select, nothing for end / skipped / invisible rows. -/
theorem body_order_is_row_order (rows : List (Nat × RowK)) (its : List Item) (h : parseRows rows = .ok its) :
    tagsOfL its = allRowTags rows := by
  rw [tagsOfL_eq_heads, heads_parseRows h, allRowTags_eq, List.flatMap_assoc]
  simp only [rowTags_eq]

theorem ctlAt_tags (x : List Str × Head) : (ctlAt x).map (·.1) = headTags x.2 := by
  rcases x with ⟨p, d | ⟨ct, n, b⟩⟩
  · by_cases h : d.control <;> simp [ctlAt, headTags, h]
  · cases ct <;> rfl

theorem bodyCtlL_tags (pre : List Str) (its : List Item) : (bodyCtlL pre its).map (·.1) = tagsOfL its := by
  rw [bodyCtlL_eq_nodes, tagsOfL_eq_heads, ← nodesL_map_snd its pre, List.map_flatMap, List.flatMap_map]
  simp only [ctlAt_tags]

theorem bodyCtl_tags (pre : List Str) (it : Item) : (bodyCtl pre it).map (·.1) = tagsOf it := by
  simpa [bodyCtlL, tagsOfL] using bodyCtlL_tags pre [it]

theorem body_controls_in_row_order (pre : List Str) (rows : List (Nat × RowK)) (its : List Item)
    (h : parseRows rows = .ok its) : (bodyCtlL pre its).map (·.1) = allRowTags rows := by
  rw [bodyCtlL_tags, body_order_is_row_order rows its h]


theorem optCtl_tags (o : Option QData) : (optCtl o).map (·.1) = optTags o := by
  cases o with
  | none => rfl
  | some d => simp only [optCtl, optTags]; split <;> simp

theorem emitOut_tags (k : RowK) (r : Cells) (ps : Dict) : (emitOut k r ps).map (·.1) = rowTags k := by
  cases k with
  | q d other =>
    simp only [emitOut, rowTags, List.map_append, optCtl_tags]
    split <;> simp
  | begin_ ct name b helper =>
    cases ct <;> simp [emitOut, rowTags, headerTags, optCtl_tags]
  | skip => rfl
  | end_ ct => rfl
  | bad e => rfl

theorem rowGuards_nodup (r0 r : Cells) (h : rowGuards r0 r = .ok ()) : keysNodupB r = true := by
  unfold rowGuards at h
  split at h
  · cases h
  · rename_i hn
    simp only [Bool.not_eq_true', Bool.and_eq_false_iff, not_or, Bool.not_eq_false] at hn
    simpa using hn.2

/-- what `rowControls` returns when it answers -/
theorem rowControls_out (lists : List Str) (n : Nat) (r0 : Cells) (cs : List Controls.Ctl)
    (h : rowControls lists n r0 = .ok cs) :
    ∃ k ps, classify lists n (prep r0).1 = .row k ∧ keysNodupB ps = true ∧
      emitChecks k (prep r0).1 ps = .ok () ∧ cs = emitOut k (prep r0).1 ps ∧ keysNodupB (prep r0).1 = true := by
  unfold rowControls at h
  simp only [] at h
  split at h; · cases h
  next u hg =>
  split at h; · cases h
  next k hk =>
  split at h; · cases h
  next ps hps =>
  split at h; · cases h
  next hn =>
  split at h; · cases h
  next u' hu =>
  cases h
  exact ⟨k, ps, hk, by simpa using hn, hu, rfl, rowGuards_nodup _ _ hg⟩

/-- per row, the attribute model emits the controls the structure model places for the row's classification -/
theorem rowControls_aligned (lists : List Str) (n : Nat) (r0 : Cells) (cs : List Controls.Ctl)
    (h : rowControls lists n r0 = .ok cs) :
    ∃ k, classify lists n (prep r0).1 = .row k ∧ cs.map (·.1) = rowTags k := by
  obtain ⟨k, ps, hk, _, _, rfl, _⟩ := rowControls_out lists n r0 cs h
  exact ⟨k, hk, emitOut_tags _ _ _⟩

theorem allControlsN_aligned (lists : List Str) : ∀ (rows : List (Nat × Cells)) (cs : List Controls.Ctl)
    (ks : List (Nat × RowK)), allControlsN lists rows = .ok cs →
    classifyNum lists (rows.map fun nr => (nr.1, (prep nr.2).1)) = .ok ks → cs.map (·.1) = allRowTags ks := by
  intro rows
  induction rows with
  | nil => intro cs ks h1 h2; cases h1; cases h2; rfl
  | cons r rs ih =>
    intro cs ks h1 h2
    obtain ⟨n, r⟩ := r
    simp only [allControlsN] at h1
    simp only [List.map_cons, classifyNum] at h2
    split at h1; · cases h1
    next c1 hr =>
    obtain ⟨k, hk, ht⟩ := rowControls_aligned lists n r c1 hr
    rw [hk] at h2
    dsimp only at h2
    split at h1; · cases h1
    next c2 ha =>
    split at h2
    · next k2 hc =>
      cases h1; cases h2
      simp [allRowTags, ht, ih c2 k2 ha hc]
    · cases h2

theorem allControls_eq_num (lists : List Str) : ∀ (rows : List Cells) (n : Nat),
    allControls lists n rows = allControlsN lists (number n rows)
  | [], _ => rfl
  | r :: rs, n => by simp only [allControls, number, allControlsN, allControls_eq_num lists rs (n + 1)]

theorem allControls_aligned (lists : List Str) (rows : List Cells) (n : Nat) (cs : List Controls.Ctl)
    (ks : List (Nat × RowK)) (h1 : allControls lists n rows = .ok cs)
    (h2 : classifyAll lists n (rows.map fun r => (prep r).1) = .ok ks) : cs.map (·.1) = allRowTags ks := by
  rw [allControls_eq_num] at h1
  rw [classifyAll_eq_num, ← number_map (fun r => (prep r).1)] at h2
  exact allControlsN_aligned lists _ cs ks h1 h2

theorem controlsN_aligned (root : Str) (lists : List Str) (nrows : List (Nat × Cells)) (settings : Cells)
    (cs : List Controls.Ctl) (o : FormOut) (h1 : allControlsN lists nrows = .ok cs)
    (h2 : formOutN root lists (nrows.map fun nr => (nr.1, (prep nr.2).1)) settings = .ok o) :
    cs.map (·.1) = o.ctl.map (·.1) := by
  obtain ⟨ks, items, hc, hp, _, rfl⟩ := formOutN_ok root lists _ settings o h2
  show cs.map (·.1) = (bodyCtlL [root] items).map (·.1)
  rw [body_controls_in_row_order _ ks items hp]
  exact allControlsN_aligned lists _ cs ks h1 hc

/-- One model: the (element, attributes) list the attribute model emits is aligned, element by element, with the body
    control list of `Rows.formOut`: the attribute theorems speak about the controls the structure theorems place. -/
theorem controls_aligned (root : Str) (lists : List Str) (rows : List Cells) (settings : Cells)
    (cs : List Controls.Ctl) (o : FormOut) (h1 : allControls lists 2 rows = .ok cs)
    (h2 : formOut root lists (rows.map fun r => (prep r).1) settings = .ok o) :
    cs.map (·.1) = o.ctl.map (·.1) := by
  rw [allControls_eq_num] at h1
  rw [formOut_eq_num, ← number_map (fun r => (prep r).1)] at h2
  exact controlsN_aligned root lists _ settings cs o h1 h2

/-- the same for `TableList.formOutT`, the pipeline the checks run (`controls.model`) -/
theorem controls_aligned_tl (root : Str) (lists : List Str) (rows : List Cells) (settings : Cells)
    (cs : List Controls.Ctl) (o : FormOut) (h1 : allControlsN lists (TableList.sheetRows rows) = .ok cs)
    (h2 : TableList.formOutT root lists rows settings = .ok o) :
    cs.map (·.1) = o.ctl.map (·.1) :=
  controlsN_aligned root lists _ settings cs o h1 (C02.formOutT_ok h2)


mutual
/-- number of `jr:template` nodes whose name satisfies `p`, anywhere in the tree -/
def tmplCount (p : Str → Bool) : NT → Nat
  | .node n t ks => (if t && p n then 1 else 0) + tmplCountL p ks
def tmplCountL (p : Str → Bool) : List NT → Nat
  | [] => 0
  | k :: ks => tmplCount p k + tmplCountL p ks
end

mutual
/-- number of repeats whose name satisfies `p`, anywhere in the element tree -/
def repCount (p : Str → Bool) : Item → Nat
  | .q _ => 0
  | .sec .rep n _ ks => (if p n then 1 else 0) + repCountL p ks
  | .sec .group _ _ ks => repCountL p ks
  | .sec .loop _ _ ks => repCountL p ks
def repCountL (p : Str → Bool) : List Item → Nat
  | [] => 0
  | k :: ks => repCount p k + repCountL p ks
end

theorem tmplCountL_append (p : Str → Bool) (a b : List NT) :
    tmplCountL p (a ++ b) = tmplCountL p a + tmplCountL p b := by
  induction a with
  | nil => simp [tmplCountL]
  | cons x xs ih => simp [tmplCountL, ih, Nat.add_assoc]

theorem tmplCountL_qnode (p : Str → Bool) (d : QData) :
    tmplCountL p (if d.node then [NT.node d.name false []] else []) = 0 := by
  split <;> simp [tmplCountL, tmplCount]

theorem no_template_in_copy (p : Str → Bool) (its : List Item) : tmplCountL p (instKids true its) = 0 := by
  induction its using items_induct with
  | nil => simp [instKids, tmplCountL]
  | q d rest ih => rw [instKids_unfold_q, tmplCountL_append, tmplCountL_qnode, ih]
  | sec ct n b ks rest hk hr => cases ct <;> simp [instKids, tmplCountL, tmplCount, hk, hr]

/-- the two walks call each other, so the two counts are proved together -/
theorem templates_count (p : Str → Bool) (its : List Item) :
    tmplCountL p (tmplKids its) = repCountL p its ∧ tmplCountL p (instKids false its) = repCountL p its := by
  induction its using items_induct with
  | nil => simp [tmplKids, instKids, tmplCountL, repCountL]
  | q d rest ih =>
    rw [tmplKids_unfold_q, instKids_unfold_q, tmplCountL_append, tmplCountL_append, tmplCountL_qnode, ih.1, ih.2]
    simp [repCountL, repCount]
  | sec ct n b ks rest hk hr =>
    cases ct <;>
      simp [tmplKids, instKids, tmplCountL, tmplCount, repCountL, repCount, hk.1, hk.2, hr.1, hr.2,
        no_template_in_copy p ks, Nat.add_assoc]

theorem templates_in_template (p : Str → Bool) (its : List Item) :
    tmplCountL p (tmplKids its) = repCountL p its := (templates_count p its).1

/-- One template per repeat, at every depth (C04): a repeat reached through a group inside another repeat's template
    still gets exactly one template copy; its ordinary copies get none. -/
theorem one_template_per_repeat (root : Str) (its : List Item) (p : Str → Bool) :
    tmplCount p (instanceOf root its) = repCountL p its := by
  simp [instanceOf, tmplCount, (templates_count p its).2]


/-- dropping the common prefix `control::` is injective -/
theorem keysNodupB_rowCtlCells (r : Cells) (h : keysNodupB r = true) : keysNodupB (rowCtlCells r) = true := by
  rw [keysNodupB_iff] at h ⊢
  rw [List.Nodup, List.pairwise_map] at h ⊢
  refine List.Pairwise.filterMap _ (fun a a' hne b hb b' hb' e => hne ?_) h
  split at hb
  · next hs =>
    split at hb'
    · next hs' =>
      cases hb; cases hb'
      rw [startsWith_eq_append_drop hs, startsWith_eq_append_drop hs']
      exact congrArg _ e
    · cases hb'
  · cases hb

/-- `body_attrs_of_row` for the first control the pipeline emits for a visible non-select question; its side conditions
    (distinct columns, distinct parameter keys) come from the pipeline's own guards. -/
theorem pipeline_attrs_spec (lists : List Str) (n : Nat) (r0 : Cells) (cs : List Controls.Ctl)
    (d : QData) (other : Option QData)
    (h : rowControls lists n r0 = .ok cs)
    (hk : classify lists n (prep r0).1 = .row (.q d other)) (hc : d.control = true)
    (hs : matchSelect ((get (prep r0).1 "type").getD []) = none) :
    ∃ ps a rest, cs = (d.tag, a) :: rest ∧
      ∀ k, lookup k a = Spec.bodyAttr ((get (prep r0).1 "type").getD [])
        ((typeEntry ((get (prep r0).1 "type").getD [])).getD []) (prep r0).1 ps k := by
  obtain ⟨k', ps, hk', hp, _, hout, hg⟩ := rowControls_out lists n r0 cs h
  rw [hk] at hk'; injection hk' with hk'; subst hk'
  have hr := keysNodupB_rowCtlCells _ hg
  refine ⟨ps, qAttrs _ _ (prep r0).1 ps, optCtl other, ?_, fun k => body_attrs_of_row _ _ _ _ k hr hp⟩
  rw [hout]
  simp only [emitOut, hc, if_true, hs, List.cons_append, List.nil_append]


/-- A row marked disabled is skipped whatever kind of row it is, and is no audit row of the meta block
    (seeded change C04-8). -/
theorem disabled_row_vanishes (lists : List Str) (n : Nat) (r : Cells) (v : Str)
    (h : get r "disabled" = some v) (hv : yesNoTrue v = true) :
    classify lists n r = .row .skip ∧ isAuditRow r = false := by
  constructor
  · unfold classify; simp only [h, hv, if_true]
  · unfold isAuditRow; simp [h, hv]

theorem disabled_row_no_controls (lists : List Str) (n : Nat) (r0 : Cells) (cs : List Controls.Ctl)
    (hd : ∃ v, get (prep r0).1 "disabled" = some v ∧ yesNoTrue v = true)
    (h : rowControls lists n r0 = .ok cs) : cs = [] := by
  obtain ⟨v, h1, h2⟩ := hd
  obtain ⟨k, ps, hk, _, _, hout, _⟩ := rowControls_out lists n r0 cs h
  rw [(disabled_row_vanishes lists n _ v h1 h2).1] at hk
  injection hk with hk; subst hk
  rw [hout]; rfl

/-- the `<name>_count` node exists exactly when the count cell is not a bare reference (seeded change C04-9) -/
theorem count_helper_iff (name : Str) (r : Cells) :
    (countHelper name r).isSome = (match get r "control::jr:count" with
      | some e => !isPyxformRef e
      | none => false) := by
  unfold countHelper
  cases hg : get r "control::jr:count" with
  | none => rfl
  | some e => simp only []; split <;> simp_all

def exEntryText : List (String × String × String) := [("control", "tag", "input"), ("bind", "type", "string")]
def exRowText : Cells := [(k!"type", k!"text"), (k!"name", k!"a"), (k!"control::appearance", k!"multiline"),
  (k!"control::foo", k!"bar")]
def exParams : Dict := [(k!"rows", k!"3")]

-- the hypotheses of `body_attrs_of_row` hold on a row with appearance and parameters (seeded change C04-1) …
example : keysNodupB (rowCtlCells exRowText) = true ∧ keysNodupB exParams = true := by decide +kernel
-- … and the model keeps both the appearance and the rows attribute there
example : qAttrs (k!"text") exEntryText exRowText exParams =
    [(k!"appearance", k!"multiline"), (k!"foo", k!"bar"), (k!"rows", k!"3")] := by decide +kernel
example : Spec.bodyAttr (k!"text") exEntryText exRowText exParams (k!"appearance") = some (k!"multiline") ∧
    Spec.bodyAttr (k!"text") exEntryText exRowText exParams (k!"rows") = some (k!"3") ∧
    Spec.bodyAttr (k!"text") exEntryText exRowText exParams (k!"tag") = none := by decide +kernel
-- range: defaults fill in, parameters win over a `body::start` cell
example : Spec.bodyAttrs (k!"range") [("control", "tag", "range")] [(k!"control::start", k!"3")] [(k!"end", k!"5")] =
    [(k!"start", k!"1"), (k!"end", k!"5"), (k!"step", k!"1")] := by decide +kernel
example : qAttrs (k!"range") [("control", "tag", "range")] [(k!"control::start", k!"3")] [(k!"end", k!"5")] =
    [(k!"start", k!"1"), (k!"end", k!"5"), (k!"step", k!"1")] := by decide +kernel
-- photo: `app` becomes `intent` with appearance `annotate`, not with `new` (the coded exception)
example : lookup (k!"intent") (qAttrs (k!"photo") [] [(k!"control::appearance", k!"annotate")] [(k!"app", k!"a.b")]) = some (k!"a.b")
    ∧ lookup (k!"intent") (qAttrs (k!"photo") [] [(k!"control::appearance", k!"new")] [(k!"app", k!"a.b")]) = none := by
  decide +kernel
example : parseParams (k!"Rows= 3 ; app=X.y") = some [(k!"rows", k!"3"), (k!"app", k!"x.y")] := by decide +kernel
example : parseParams (k!"rows") = none ∧ parseParams [] = some [] := by decide +kernel

-- visibility: a `text` row with a calculation and only a hint is user-visible (seeded change C04-2); without the hint it is not
example : (qdata (k!"a") "text".toList [(k!"bind::calculate", k!"1"), (k!"hint", k!"h")]).map (·.control) = some true ∧
    (qdata (k!"a") "text".toList [(k!"bind::calculate", k!"1")]).map (·.control) = some false ∧
    (qdata (k!"a") "calculate".toList [(k!"bind::calculate", k!"1"), (k!"label", k!"L")]).map (·.control) = some false := by
  decide +kernel
example : (typeEntry "text".toList).isSome = true ∧
    ("text".toList = "xml-external".toList || "text".toList = "csv-external".toList) = false := by decide +kernel

-- body order on the example sheet of `Pyxv.C04`
example : (match parseRows exRows with
    | .ok its => tagsOfL its == allRowTags exRows && (allRowTags exRows).length == 8
    | .error _ => false) = true := by decide +kernel

-- one model: a sheet with a parameterised text row, a repeat and a select inside it
def exSheet : List Cells := [
  [(k!"type", k!"text"), (k!"name", k!"a"), (k!"label", k!"A"), (k!"control::appearance", k!"multiline"),
   (k!"parameters", k!"rows=3")],
  [(k!"type", k!"begin repeat"), (k!"name", k!"r"), (k!"label", k!"R"), (k!"control::appearance", k!"field-list")],
  [(k!"type", k!"select_one yn"), (k!"name", k!"s"), (k!"label", k!"S")],
  [(k!"type", k!"calculate"), (k!"name", k!"c"), (k!"bind::calculate", k!"1")],
  [(k!"type", k!"end repeat")]]

example : (match allControls [k!"yn"] 2 exSheet,
                 formOut (k!"data") [k!"yn"] (exSheet.map fun r => (prep r).1) [] with
    | .ok cs, .ok o => cs.map (·.1) == o.ctl.map (·.1) && cs.length == 4 &&
        cs.head? == some (k!"input", [(k!"appearance", k!"multiline"), (k!"rows", k!"3")])
    | _, _ => false) = true := by decide +kernel

-- templates: repeat r holds group g holding repeat r2 (seeded change C04-4): one template each
def exNested : List Item :=
  [.sec .rep (k!"r") false [.q (q "a"), .sec .group (k!"g") false [.sec .rep (k!"r2") false [.q (q "b")]]]]
example : tmplCount (fun _ => true) (instanceOf (k!"data") exNested) = 2 ∧
    tmplCount (· == k!"r2") (instanceOf (k!"data") exNested) = 1 ∧ repCountL (· == k!"r2") exNested = 1 := by
  decide +kernel

-- a table-list group with a label: the generated note and header select appear, appearances are rewritten
def exTL : List Cells := [
  [(k!"type", k!"begin group"), (k!"name", k!"t"), (k!"label", k!"T"), (k!"control::appearance", k!"table-list minimal")],
  [(k!"type", k!"select_one yn"), (k!"name", k!"s1"), (k!"label", k!"S1")],
  [(k!"type", k!"select_one yn"), (k!"name", k!"s2"), (k!"label", k!"S2"), (k!"control::appearance", k!"w1")],
  [(k!"type", k!"end group")]]

example : (match allControlsN [k!"yn"] (TableList.sheetRows exTL), TableList.formOutT (k!"data") [k!"yn"] exTL [] with
    | .ok cs, .ok o => cs.map (·.1) == o.ctl.map (·.1) &&
        cs == [(k!"group", [(k!"appearance", k!"field-list minimal")]), (k!"input", []),
               (k!"select1", [(k!"appearance", k!"label")]), (k!"select1", [(k!"appearance", k!"list-nolabel")]),
               (k!"select1", [(k!"appearance", k!"list-nolabel")])] &&
        o.body.map xpathStr == [k!"/data/t", k!"/data/t/generated_table_list_label_2",
          k!"/data/t/reserved_name_for_field_list_labels_3", k!"/data/t/s1", k!"/data/t/s2"]
    | _, _ => false) = true := by decide +kernel

-- disabled audit row: skipped and not in the meta block; count cells: `${n}` has no companion, `${n} + 1` has one
example : (match classify [] 2 [(k!"type", k!"audit"), (k!"disabled", k!"yes")] with
      | .row .skip => true | _ => false) = true ∧
    isAuditRow [(k!"type", k!"audit"), (k!"disabled", k!"yes")] = false ∧
    isAuditRow [(k!"type", k!"audit"), (k!"disabled", k!"no")] = true := by decide +kernel
example : (countHelper (k!"r") [(k!"control::jr:count", k!"${n}")]).isSome = false ∧
    (countHelper (k!"r") [(k!"control::jr:count", k!"${n} + 1")]).isSome = true ∧
    (countHelper (k!"r") [(k!"control::jr:count", k!"${n} * ${m}")]).isSome = true ∧
    (countHelper (k!"r") [(k!"control::jr:count", k!"3")]).isSome = true := by decide +kernel

-- `pipeline_attrs_spec` applies to the first row of `exSheet`
example : (match rowControls [k!"yn"] 2 exSheet.head!, classify [k!"yn"] 2 (prep exSheet.head!).1 with
    | .ok cs, .row (.q d none) => d.control && cs.length == 1 &&
        matchSelect ((get (prep exSheet.head!).1 "type").getD []) == none
    | _, _ => false) = true := by decide +kernel

end Pyxv.C04
