import Pyxv.Model.ItextOutputRepeat
import Pyxv.Proofs.C07Output
import Pyxv.Proofs.C03
/-!
# C07, DOM level, repeat contexts: `<output>` substitution with C03's relative / absolute decision

`Pyxv.ItextOut.outDomsR` (Model/ItextOutputRepeat.lean) substitutes the texts of an element at or below a repeat with
the per-element reference table `ctxRefs` built from `Refs.refFor` (C03's model of `_var_repl_function`).  Here: the table is
*exactly* `refFor` — what the channel puts into `<output value>` for `${n}` is `Refs.Out.text` of C03's result for the owning
element, for every name; `outDomsR` agrees with `outDoms` wherever that states a value; and the DOM theorems of `C07Output` are
restated under that table (`*_dom_rep`).
-/
namespace Pyxv.C07OutputRep
open Pyxv Pyxv.Itext Pyxv.ItextOut Pyxv.Xml Pyxv.Chan Pyxv.C06 Pyxv.C07Text Pyxv.C07Output

theorem lookup_filterMap_key {β} (g : Str → Option Str) (n : Str) : ∀ d : List (Str × β),
    lookup n (d.filterMap fun kv => (g kv.1).map fun r => (kv.1, r)) = if (lookup n d).isSome then g n else none
  | [] => by simp [lookup]
  | (k, v) :: rest => by
    have ih := lookup_filterMap_key g n rest
    by_cases hk : n = k
    · subst hk
      cases hg : g n with
      | none => simp [hg, lookup, ih]
      | some r => simp [hg, lookup]
    · cases hg : g k with
      | none => simp [hg, lookup, hk, ih]
      | some r => simp [hg, lookup, hk, ih]

/-- the table is C03's function: a lookup in the reference table of context element `c` gives the path `Refs.refFor` emits
for `${name}` seen from `c`, for every name -/
theorem ctx_lookup (es : List Refs.Chain) (c : Refs.Chain) (n : Str) :
    lookup n (ctxRefsOf es c) = refPath es c n := by
  unfold ctxRefsOf
  rw [lookup_filterMap_key (refPath es c) n]
  cases h : lookup n (Refs.setupXpathDict es) with
  | none => simp [refPath, Refs.refFor, h]
  | some v => simp

/-- with the call-site flags of `_var_repl_output_function` (no `use_current`, no predicate) nothing is prefixed
by `current()/` -/
theorem refFor_cur {es : List Refs.Chain} {c : Refs.Chain} {n : Str} {cur : Bool} {e : Refs.Emitted}
    (h : Refs.refFor es (some c) n {} = .ok cur e) : cur = false := by
  obtain ⟨_, _, h | ⟨_, _, _, _, _, _, _, hcur, _⟩⟩ := Refs.refFor_ok h
  · exact h.1
  · exact hcur

/-- what the channel writes is what C03 emits, `Refs.Out.text` of `refFor` (blank, relative or absolute path, blank); an
unknown or ambiguous name is the PyXFormError of both -/
theorem varRepl_refFor (es : List Refs.Chain) (c : Refs.Chain) (n : Str) :
    Chan.varRepl (ctxRefsOf es c) false n = (Refs.refFor es (some c) n {}).text := by
  unfold Chan.varRepl
  rw [ctx_lookup]
  unfold refPath
  cases h : Refs.refFor es (some c) n {} with
  | ok cur e =>
    have := refFor_cur h
    subst this
    simp [Refs.Out.text]
  | unknown _ => simp [Refs.Out.text]
  | ambiguous _ => simp [Refs.Out.text]

/-- a value with references, owner at or below a repeat: `value_dom_refs` (C06's channel theorem) at the owner's table
`ctxRefs x ch` -/
theorem value_dom_ctx (x : Survey) (ch : Refs.Chain) (form : Option Str) (c : Cell) (items : List (Str × Str))
    (hc : CellShape (ctxRefs x ch) c items) (hi : NoInstanceExpr c.text) :
    valueDom (ctxRefs x ch) form c.text =
      if textsValid c.head items then .ok (.elem valueTag (formAttr form) (cellKids true c.head items))
      else .pyxformError :=
  value_dom_refs _ form c items hc hi

/-- no weakening: wherever `outDoms` states a value, `outDomsR` states the same one -/
theorem domEntryR_stated (x : Survey) (p : Str) (fb : Str × Str)
    (hs : (stated x p || !isInfix "${".toList fb.2) = true) :
    domEntryR x p fb = domEntry (nameRefs x) (stated x p) p fb := by
  unfold domEntryR refsFor
  simp only [hs, if_true]
  unfold domEntry
  simp only [hs, Bool.true_or]

/-- the table selected for a text with references owned by an element at or below a repeat -/
theorem refsFor_rep (x : Survey) (p t : Str) (ch : Refs.Chain) (hns : stated x p = false)
    (hd : isInfix "${".toList t = true) (hr : repText t = true) (hc : ctxOf x p = some ch) :
    refsFor x p t = some (ctxRefs x ch) := by
  unfold refsFor
  rw [hns, hd]
  simp [hr, hc]

/-- from the table to the block, any context: `dom_of_valueAt` with the table `refsFor` selects -/
theorem dom_of_valueAt_rep (x : Survey) {l p f t : Str} {refs : List (Str × Str)}
    (hv : valueAt (table x) l p f = some t) (hk : textKind p f = true) (hr : refsFor x p t = some refs) :
    ∃ tds, (l, tds) ∈ outDomsR x ∧ ∃ vs, (p, vs) ∈ tds ∧
      (formOf p f, some (valueDom refs (formOf p f) t)) ∈ vs := by
  refine mem_block_of_valueAt (domEntryR x) hv ?_
  unfold domEntryR
  simp only [hr]
  exact dom_entry_text refs true p (f, t) hk (by simp)

/-- what the block (repeat contexts included) holds for a cell with references -/
def RefsValueR (x : Survey) (l p : Str) (form : Option Str) (c : Cell) (items : List (Str × Str)) : Prop :=
  ∃ tds, (l, tds) ∈ outDomsR x ∧ ∃ vs, (p, vs) ∈ tds ∧
    (form, some (if textsValid c.head items
      then Chan.Outcome.ok (.elem valueTag (formAttr form) (cellKids true c.head items))
      else Chan.Outcome.pyxformError)) ∈ vs

theorem long_dom_rep (x : Survey) {l p : Str} {c : Cell} {items refs : List (Str × Str)}
    (hv : valueAt (table x) l p "long".toList = some c.text) (hr : refsFor x p c.text = some refs)
    (hc : CellShape refs c items) (hi : NoInstanceExpr c.text) :
    RefsValueR x l p none c items := by
  have h := dom_of_valueAt_rep x hv (textKind_long p) hr
  rwa [formOf_long, value_dom_refs _ _ c items hc hi] at h

/-- translated label with references, any context: chunks verbatim interleaved with one `<output>` per reference, relative
or absolute as C03 decides (inside a repeat `refs` is the owner's `ctxRefs`) -/
theorem label_dom_rep {x : Survey} (hx : ((flats x).map (·.xpath)).Nodup) {f : Flat} (hf : f ∈ flats x)
    (hv : visited f = true) {pairs : List (Str × Str)} (hl : f.d.label = .dict pairs) (hok : SlotOk f pairs)
    {l : Str} {c : Cell} {items refs : List (Str × Str)} (hlt : (l, c.text) ∈ pairs)
    (hr : refsFor x (path f.xpath "label") c.text = some refs)
    (hc : CellShape refs c items) (hi : NoInstanceExpr c.text) :
    RefsValueR x l (path f.xpath "label") none c items :=
  long_dom_rep x (value_label hx hf hv hl hok hlt) hr hc hi

theorem hint_dom_rep {x : Survey} (hx : ((flats x).map (·.xpath)).Nodup) {f : Flat} (hf : f ∈ flats x)
    (hv : visited f = true) {pairs : List (Str × Str)} (hl : f.d.hint = .dict pairs) (hfun : Functional pairs)
    {l : Str} {c : Cell} {items refs : List (Str × Str)} (hlt : (l, c.text) ∈ pairs)
    (hr : refsFor x (path f.xpath "hint") c.text = some refs)
    (hc : CellShape refs c items) (hi : NoInstanceExpr c.text) :
    RefsValueR x l (path f.xpath "hint") none c items :=
  long_dom_rep x (value_hint hx hf hv hl hfun hlt) hr hc hi

theorem msg_dom_rep {x : Survey} (hx : ((flats x).map (·.xpath)).Nodup) {f : Flat} (hf : f ∈ flats x)
    (hv : visited f = true) {k : String} (hk : k ∈ ["jr:constraintMsg", "jr:requiredMsg", "jr:noAppErrorString"])
    {pairs : List (Str × Str)} (hm : msgOf f.d k = .dict pairs) (hfun : Functional pairs)
    {l : Str} {c : Cell} {items refs : List (Str × Str)} (hlt : (l, c.text) ∈ pairs)
    (hr : refsFor x (path f.xpath k) c.text = some refs)
    (hc : CellShape refs c items) (hi : NoInstanceExpr c.text) :
    RefsValueR x l (path f.xpath k) none c items :=
  long_dom_rep x (value_msg hx hf hv hk hm hfun hlt) hr hc hi

/-- translated guidance hint with references, any context: the `<value form="guidance">` under the hint id -/
theorem guidance_dom_rep {x : Survey} (hx : ((flats x).map (·.xpath)).Nodup) {f : Flat} (hf : f ∈ flats x)
    (hv : visited f = true) {pairs : List (Str × Str)} (hl : f.d.guidance = .dict pairs) (hfun : Functional pairs)
    {l : Str} {c : Cell} {items refs : List (Str × Str)} (hlt : (l, c.text) ∈ pairs)
    (hr : refsFor x (path f.xpath "hint") c.text = some refs)
    (hc : CellShape refs c items) (hi : NoInstanceExpr c.text) :
    RefsValueR x l (path f.xpath "hint") (some "guidance".toList) c items := by
  have h := dom_of_valueAt_rep x (value_guidance hx hf hv hl hfun hlt) (textKind_guidance _) hr
  rwa [formOf_guidance, value_dom_refs _ _ c items hc hi] at h

/-- question `n` inside the repeat `r`: its English label names its sibling `b` (relative) and `a` outside the repeat
(absolute); translated hint and guidance hint name `b` -/
def exR : Survey :=
  { defaultLanguage := "default".toList
    lists := []
    root := .node (C07.q .group "data" .none .none .none) [
      .node (C07.q .control "a" (.str "A".toList) .none .none) [],
      .node (C07.q .repeat "r" .none .none .none) [
        .node (C07.q .control "b" (.str "B".toList) .none .none) [],
        .node (C07.q .control "n" (C07.tr [("en", "X ${b} & ${a}!"), ("fr", "Salut")])
                (C07.tr [("fr", "h ${b}")]) (C07.tr [("fr", "${b} g")])) [] ] ] }

def exN : Refs.Chain := [("data".toList, .group), ("r".toList, .rep), ("n".toList, .q)]
def exRC : Cell := ⟨"X ".toList, [("b".toList, " & ".toList), ("a".toList, "!".toList)]⟩
def exRI : List (Str × Str) := [(" ../b ".toList, " & ".toList), (" /data/a ".toList, "!".toList)]
def exRG : Cell := ⟨[], [("b".toList, " g".toList)]⟩
def exRGI : List (Str × Str) := [(" ../b ".toList, " g".toList)]

theorem exR_refsFor : refsFor exR (path "/data/r/n".toList "label") exRC.text = some (ctxRefs exR exN) :=
  refsFor_rep _ _ _ exN (by decide +kernel) (by decide +kernel) (by decide +kernel) (by decide +kernel)

/-- the owner of the label id is found; `outDoms` leaves the value unstated, `outDomsR` selects the owner's table -/
example : ctxOf exR (path "/data/r/n".toList "label") = some exN ∧
    stated exR (path "/data/r/n".toList "label") = false ∧
    refsFor exR (path "/data/r/n".toList "label") exRC.text = some (ctxRefs exR exN) :=
  ⟨by decide +kernel, by decide +kernel, exR_refsFor⟩

/-- `ctx_lookup` / `varRepl_refFor` instantiated: sibling inside the repeat → relative, outside → absolute,
unknown → rejected -/
example : lookup "b".toList (ctxRefs exR exN) = some "../b".toList ∧
    Chan.varRepl (ctxRefs exR exN) false "b".toList = some " ../b ".toList ∧
    Chan.varRepl (ctxRefs exR exN) false "a".toList = some " /data/a ".toList ∧
    Chan.varRepl (ctxRefs exR exN) false "zz".toList = none := by
  unfold ctxRefs
  rw [ctx_lookup, varRepl_refFor, varRepl_refFor, varRepl_refFor]
  decide +kernel

theorem exRC_shape : CellShape (ctxRefs exR exN) exRC exRI :=
  ⟨by decide +kernel, ⟨by decide +kernel, by decide +kernel, by decide +kernel, by decide +kernel, trivial⟩,
   by decide +kernel, ⟨by decide +kernel, by decide +kernel, trivial⟩, by decide +kernel⟩

theorem exRG_shape : CellShape (ctxRefs exR exN) exRG exRGI :=
  ⟨by decide +kernel, ⟨by decide +kernel, by decide +kernel, trivial⟩, by decide +kernel,
   ⟨by decide +kernel, trivial⟩, by decide +kernel⟩

theorem exRC_noInstance : NoInstanceExpr exRC.text := by decide +kernel

theorem exRC_valid : textsValid exRC.head exRI = true := by decide +kernel

/-- `value_dom_ctx` instantiated -/
example : valueDom (ctxRefs exR exN) none exRC.text = .ok (.elem valueTag [] (cellKids true exRC.head exRI)) := by
  rw [value_dom_ctx exR exN none exRC exRI exRC_shape exRC_noInstance]
  simp [exRC_valid, formAttr]

/-- `dom_of_valueAt_rep` / `long_dom_rep` instantiated: the English label of `n` in the block -/
theorem exR_label_en : RefsValueR exR "en".toList (path "/data/r/n".toList "label") none exRC exRI :=
  long_dom_rep exR (by decide +kernel) exR_refsFor exRC_shape exRC_noInstance

example : RefsValueR exR "en".toList (path "/data/r/n".toList "label") none exRC exRI := exR_label_en

/-- … and computed by the kernel, as `writexml` serialises it -/
example :
    (outDomsR exR).any (fun lt => lt.1 == "en".toList && lt.2.any fun td =>
      td.1 == "/data/r/n:label".toList && td.2.any fun fv => fv.1 == none &&
        (match fv.2 with
         | some (.ok n) => render [] [] [] n ==
             "<value> X <output value=\" ../b \"/> &amp; <output value=\" /data/a \"/>! </value>".toList
         | _ => false)) = true := by
  -- the entry is the one `long_dom_rep` describes; only its serialisation is left to compute
  obtain ⟨tds, h1, vs, h2, h3⟩ := exR_label_en
  rw [exRC_valid, if_pos rfl] at h3
  simp only [List.any_eq_true, Bool.and_eq_true]
  refine ⟨_, h1, ?_, _, h2, ?_, _, h3, ?_, ?_⟩ <;> simp only [toList_lit rfl] <;> decide +kernel

/-- `label_dom_rep` and `guidance_dom_rep` instantiated at the element itself -/
example :
    RefsValueR exR "en".toList (path ((flats exR)[3]'(by decide +kernel)).xpath "label") none exRC exRI ∧
    RefsValueR exR "fr".toList (path ((flats exR)[3]'(by decide +kernel)).xpath "hint")
      (some "guidance".toList) exRG exRGI := by
  have hx : ((flats exR).map (·.xpath)).Nodup := by decide +kernel
  have hm : ((flats exR)[3]'(by decide +kernel)).d.media = none := by decide +kernel
  refine ⟨label_dom_rep hx (List.getElem_mem _) (by decide +kernel)
      (pairs := [("en".toList, exRC.text), ("fr".toList, "Salut".toList)]) (by decide +kernel)
      ⟨by decide +kernel, fun m h => by rw [hm] at h; cases h⟩ (by decide +kernel) (by decide +kernel) exRC_shape
      exRC_noInstance, ?_⟩
  exact guidance_dom_rep hx (List.getElem_mem _) (by decide +kernel)
      (pairs := [("fr".toList, exRG.text)]) (by decide +kernel) (by decide +kernel) (by decide +kernel)
      (by decide +kernel) exRG_shape
      (by decide +kernel)

/-- `hint_dom_rep` / `msg_dom_rep`: same hypotheses as `hint_dom` / `msg_dom` plus the selected table, witnessed here -/
example : refsFor exR (path "/data/r/n".toList "hint") "h ${b}".toList = some (ctxRefs exR exN) ∧
    refsFor exR (path "/data/r/n".toList "jr:constraintMsg") exRC.text = some (ctxRefs exR exN) :=
  ⟨by decide +kernel, by decide +kernel⟩

/-- `domEntryR_stated` is not vacuous: outside repeats the entry of `outDoms` is kept -/
example : domEntryR exSurvey (path "/data/n".toList "label") ("long".toList, exC.text) =
    domEntry (nameRefs exSurvey) true (path "/data/n".toList "label") ("long".toList, exC.text) := by
  have h := domEntryR_stated exSurvey (path "/data/n".toList "label") ("long".toList, exC.text) (by decide +kernel)
  have hs : stated exSurvey (path "/data/n".toList "label") = true := by decide +kernel
  rw [hs] at h
  exact h

end Pyxv.C07OutputRep
