import Pyxv.Model.Form
import Pyxv.Proofs.ListLemmas
/-!
# The pre-order listing of an element tree

Every walk of `Form` emits, node by node in document order, something computed from the node by itself (its *head*:
the constructor without the children) and, for the path walks, from the names above it.  A walk is characterised once
as a `flatMap` / `all` over that listing, and the begin/end stack machine by what it does to it: a row appends the heads
it opens, an `end` row changes nothing (`heads_parseRows`).
-/
namespace Pyxv.Form

/-- a node without its children -/
inductive Head where
  | q (d : QData)
  | sec (ct : Ctl) (name : Str) (bind : Bool)

def Head.name : Head → Str
  | .q d => d.name
  | .sec _ n _ => n

/-- has a `<bind>` -/
def Head.bind : Head → Bool
  | .q d => d.bind
  | .sec _ _ b => b

/-- contributes an instance node -/
def Head.hasNode : Head → Bool
  | .q d => d.node
  | .sec _ _ _ => true

mutual
def heads : Item → List Head
  | .q d => [.q d]
  | .sec ct n b ks => .sec ct n b :: headsL ks
def headsL : List Item → List Head
  | [] => []
  | k :: ks => heads k ++ headsL ks
end

mutual
/-- the heads with the path of every node (its own name included) -/
def nodes (pre : List Str) : Item → List (List Str × Head)
  | .q d => [(pre ++ [d.name], .q d)]
  | .sec ct n b ks => (pre ++ [n], .sec ct n b) :: nodesL (pre ++ [n]) ks
def nodesL (pre : List Str) : List Item → List (List Str × Head)
  | [] => []
  | k :: ks => nodes pre k ++ nodesL pre ks
end

/-- Induction on forests: a question in front, a section in front.  Built from the recursor of the nested inductive;
    pattern matching on `.sec … :: rest` compiles badly for a nested type. -/
theorem items_induct {motive : List Item → Prop} (nil : motive [])
    (q : ∀ d rest, motive rest → motive (.q d :: rest))
    (sec : ∀ ct n b ks rest, motive ks → motive rest → motive (.sec ct n b ks :: rest)) : ∀ its, motive its :=
  @Item.rec_1 (fun it => ∀ rest, motive rest → motive (it :: rest)) motive
    (fun d rest h => q d rest h) (fun ct n b ks ihk rest h => sec ct n b ks rest ihk h) nil
    (fun _ ks ihk ihks => ihk ks ihks)

/-- a pair of functions that satisfies the equations of a path walk emitting `f` at every node *is* that walk -/
theorem walk_eq_nodes {α : Type} {g : List Str → Item → List α} {gL : List Str → List Item → List α}
    (f : List Str × Head → List α)
    (hq : ∀ pre d, g pre (.q d) = f (pre ++ [d.name], .q d))
    (hsec : ∀ pre ct n b ks, g pre (.sec ct n b ks) = f (pre ++ [n], .sec ct n b) ++ gL (pre ++ [n]) ks)
    (hnil : ∀ pre, gL pre [] = []) (hcons : ∀ pre k ks, gL pre (k :: ks) = g pre k ++ gL pre ks) :
    ∀ its pre, gL pre its = (nodesL pre its).flatMap f := by
  intro its
  induction its using items_induct with
  | nil => intro pre; rw [hnil]; rfl
  | q d rest ih => intro pre; rw [hcons, hq, ih]; simp [nodesL, nodes]
  | sec ct n b ks rest ihk ihr => intro pre; rw [hcons, hsec, ihk, ihr]; simp [nodesL, nodes]

theorem nodesL_map_snd (its : List Item) : ∀ pre, (nodesL pre its).map (·.2) = headsL its := by
  intro pre
  rw [List.map_eq_flatMap]
  exact (walk_eq_nodes (g := fun _ => heads) (gL := fun _ => headsL) (fun x => [x.2]) (fun _ _ => rfl)
    (fun _ _ _ _ _ => rfl) (fun _ => rfl) (fun _ _ _ => rfl) its pre).symm

theorem walk_eq_heads {α : Type} {g : Item → List α} {gL : List Item → List α} (f : Head → List α)
    (hq : ∀ d, g (.q d) = f (.q d)) (hsec : ∀ ct n b ks, g (.sec ct n b ks) = f (.sec ct n b) ++ gL ks)
    (hnil : gL [] = []) (hcons : ∀ k ks, gL (k :: ks) = g k ++ gL ks) :
    ∀ its, gL its = (headsL its).flatMap f := by
  intro its
  rw [← nodesL_map_snd its [], List.flatMap_map]
  exact walk_eq_nodes (g := fun _ => g) (gL := fun _ => gL) (fun x => f x.2) (fun _ => hq) (fun _ => hsec)
    (fun _ => hnil) (fun _ => hcons) its []

theorem all_eq_heads {g : Item → Bool} {gL : List Item → Bool} (f : Head → Bool)
    (hq : ∀ d, g (.q d) = f (.q d)) (hsec : ∀ ct n b ks, g (.sec ct n b ks) = (f (.sec ct n b) && gL ks))
    (hnil : gL [] = true) (hcons : ∀ k ks, gL (k :: ks) = (g k && gL ks)) :
    ∀ its, gL its = (headsL its).all f := by
  intro its
  induction its using items_induct with
  | nil => rw [hnil]; rfl
  | q d rest ih => rw [hcons, hq, ih]; simp [headsL, heads]
  | sec ct n b ks rest ihk ihr => rw [hcons, hsec, ihk, ihr]; simp [headsL, heads, Bool.and_assoc]

theorem headsL_append (a b : List Item) : headsL (a ++ b) = headsL a ++ headsL b :=
  append_of_eqns rfl (fun _ _ => rfl) a b

theorem nodesL_append (pre : List Str) (a b : List Item) : nodesL pre (a ++ b) = nodesL pre a ++ nodesL pre b :=
  append_of_eqns rfl (fun _ _ => rfl) a b

theorem nodesL_prefix (its : List Item) : ∀ pre, nodesL pre its = (nodesL [] its).map fun x => (pre ++ x.1, x.2) := by
  intro pre
  -- the listing below `pre ++ p`, as a function of `p`, is the walk that emits every node with `pre` put in front
  have := walk_eq_nodes (g := fun p => nodes (pre ++ p)) (gL := fun p => nodesL (pre ++ p))
    (fun x => [(pre ++ x.1, x.2)]) (fun _ _ => by simp [nodes]) (fun _ _ _ _ _ => by simp [nodes]) (fun _ => rfl)
    (fun _ _ _ => rfl) its []
  rwa [List.append_nil, ← List.map_eq_flatMap] at this

/-- what `bindPaths` emits at a node -/
def bindAt (x : List Str × Head) : List (List Str) := if x.2.bind then [x.1] else []

/-- what `bodyCtl` emits at a node -/
def ctlAt : List Str × Head → List (Str × List Str)
  | (p, .q d) => if d.control then [(d.tag, p)] else []
  | (p, .sec .rep _ _) => [("group".toList, p), ("repeat".toList, p)]
  | (p, .sec _ _ _) => [("group".toList, p)]

theorem ctlAt_path {x : List Str × Head} {c : Str × List Str} (hc : c ∈ ctlAt x) : c.2 = x.1 := by
  rcases x with ⟨p, d | ⟨ct, n, b⟩⟩
  · simp only [ctlAt] at hc
    split at hc
    · cases List.mem_singleton.mp hc; rfl
    · cases hc
  · cases ct <;> simp only [ctlAt, List.mem_cons, List.not_mem_nil, or_false] at hc
    · cases hc; rfl
    · rcases hc with rfl | rfl <;> rfl
    · cases hc; rfl

theorem bindPathsL_eq_nodes : ∀ its pre, bindPathsL pre its = (nodesL pre its).flatMap bindAt :=
  walk_eq_nodes bindAt (fun _ _ => rfl) (fun _ _ _ _ _ => rfl) (fun _ => rfl) (fun _ _ _ => rfl)

theorem bodyCtlL_eq_nodes : ∀ its pre, bodyCtlL pre its = (nodesL pre its).flatMap ctlAt :=
  walk_eq_nodes ctlAt (fun _ _ => rfl) (fun _ ct _ _ _ => by cases ct <;> rfl) (fun _ => rfl) (fun _ _ _ => rfl)

theorem bodyPathsL_eq_nodes : ∀ its pre, bodyPathsL pre its = (nodesL pre its).flatMap fun x => (ctlAt x).map (·.2) :=
  walk_eq_nodes _ (fun _ d => by by_cases h : d.control <;> simp [bodyPaths, ctlAt, h])
    (fun _ ct _ _ _ => by cases ct <;> rfl) (fun _ => rfl) (fun _ _ _ => rfl)

theorem allNamesL_eq_heads : ∀ its, allNamesL its = (headsL its).flatMap fun h => if h.hasNode then [h.name] else [] :=
  walk_eq_heads _ (fun _ => rfl) (fun _ _ _ _ => rfl) rfl (fun _ _ => rfl)

def optHeads : Option QData → List Head
  | some d => [.q d]
  | none => []

/-- the nodes a classified row opens, in order; an `end` row opens none -/
def rowHeads : RowK → List Head
  | .q d other => .q d :: optHeads other
  | .begin_ ct n b helper => optHeads helper ++ [.sec ct n b]
  | _ => []

def framesHeads : List Frame → List Head
  | [] => []
  | f :: fs => framesHeads fs ++ .sec f.ct f.name f.bind :: headsL f.kids

/-- the listing of the tree under construction: closing a frame does not change it -/
def stHeads (st : St) : List Head := headsL st.1 ++ framesHeads st.2

theorem stHeads_push (t : Item) (st : St) : stHeads (push t st) = stHeads st ++ heads t := by
  obtain ⟨root, _ | ⟨f, fs⟩⟩ := st <;> simp [push, stHeads, framesHeads, headsL_append, headsL]

theorem stHeads_pushOpt (o : Option QData) (st : St) : stHeads (pushOpt o st) = stHeads st ++ optHeads o := by
  cases o with
  | none => simp [pushOpt, optHeads]
  | some d => simp [pushOpt, optHeads, stHeads_push, heads]

theorem step_begin (st : St) (n : Nat) (ct : Ctl) (name : Str) (b : Bool) (h : Option QData) :
    step st n (.begin_ ct name b h) = .ok ((pushOpt h st).1, ⟨ct, name, b, []⟩ :: (pushOpt h st).2) := rfl

theorem stHeads_step {st st' : St} {n : Nat} {k : RowK} (h : step st n k = .ok st') :
    stHeads st' = stHeads st ++ rowHeads k := by
  cases k with
  | skip => cases h; simp [rowHeads]
  | bad e => cases h
  | q d other => cases h; simp [rowHeads, stHeads_pushOpt, stHeads_push, heads]
  | begin_ ct name bind helper =>
    rw [step_begin] at h
    cases h
    have hp := stHeads_pushOpt helper st
    simp only [stHeads, framesHeads, headsL, rowHeads] at hp ⊢
    rw [← List.append_assoc, hp]; simp
  | end_ ct =>
    obtain ⟨root, _ | ⟨f, rest⟩⟩ := st
    · cases h
    · simp only [step] at h
      split at h
      · cases h; rw [stHeads_push]; simp [heads, rowHeads, stHeads, framesHeads]
      · cases h

theorem stHeads_run : ∀ (rows : List (Nat × RowK)) {st st' : St}, run st rows = .ok st' →
    stHeads st' = stHeads st ++ rows.flatMap fun r => rowHeads r.2
  | [], st, st', h => by cases h; simp
  | (n, k) :: rest, st, st', h => by
    simp only [run] at h
    split at h
    · next st1 h1 => rw [stHeads_run rest h, stHeads_step h1]; simp
    · cases h

/-- the nodes of the parsed tree, in document order, are the nodes the rows open, in sheet order -/
theorem heads_parseRows {rows : List (Nat × RowK)} {its : List Item} (h : parseRows rows = .ok its) :
    headsL its = rows.flatMap fun r => rowHeads r.2 := by
  unfold parseRows at h
  split at h
  · next root h1 => cases h; simpa [stHeads, framesHeads, headsL] using stHeads_run rows h1
  · cases h
  · cases h

end Pyxv.Form
