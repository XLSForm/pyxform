import Pyxv.Proofs.C02Flat
import Pyxv.Model.FormFlatInst
/-!
# The code-shaped instance walk of a flat-aware tree equals the instance of the lifted tree (under the guard)
-/
namespace Pyxv.C02
open Pyxv Pyxv.Form Pyxv.Rows Pyxv.FormFlat

/-- what the guard says of a section: a flat one is a group outside every repeat, a repeat is outside every flat group -/
theorem safe_sec (inRep inFlat : Bool) (ct : Ctl) (n : Str) (b fl : Bool) (ks rest : List FItem)
    (h : safeL inRep inFlat (.sec ct n b fl ks :: rest) = true) :
    (fl = true → ct = .group ∧ inRep = false ∧ safeL false true ks = true) ∧
    (ct = .rep → inFlat = false ∧ fl = false ∧ safeL true false ks = true) ∧
    (fl = false → ct ≠ .rep → safeL inRep inFlat ks = true) ∧ safeL inRep inFlat rest = true := by
  simp only [safeL, safeItem, Bool.and_eq_true] at h
  obtain ⟨⟨⟨h1, h2⟩, hk⟩, hr⟩ := h
  refine ⟨?_, ?_, ?_, hr⟩
  · rintro rfl
    obtain ⟨rfl, rfl⟩ : ct = .group ∧ inRep = false := by simpa using h1
    exact ⟨rfl, rfl, by simpa [show (Ctl.group == Ctl.rep) = false from rfl] using hk⟩
  · rintro rfl
    obtain ⟨rfl, rfl⟩ : inFlat = false ∧ fl = false := by simpa using h2
    exact ⟨rfl, rfl, by simpa using hk⟩
  · rintro rfl hct
    simpa [beq_eq_false_iff_ne.mpr hct] using hk

/-- Under the guard the three code-shaped walks are the walks of `Form` on the lifted tree; they call each other, so the
    three equations are proved together.  `app` is switched on only below a repeat, where the guard excludes flat groups: a
    flat group is always met with `app = false`, which is what `arrF` (rendering with `false` and no template) needs. -/
theorem walks_eq_lift (its : List FItem) :
    (∀ app inRep inFlat, safeL inRep inFlat its = true → (app = true → inRep = true) →
      instKidsF app its = instKids app (liftL its)) ∧
    (safeL false true its = true → arrF its = instKids false (liftL its)) ∧
    (∀ inFlat, safeL true inFlat its = true → tmplKidsF its = tmplKids (liftL its)) := by
  induction its using fforest_induct with
  | nil =>
    exact ⟨fun _ _ _ _ _ => by simp only [instKidsF, liftL, instKids], fun _ => by simp only [arrF, liftL, instKids],
      fun _ _ => by simp only [tmplKidsF, liftL, tmplKids]⟩
  | q d rest ih =>
    obtain ⟨ihr, iha, iht⟩ := ih
    refine ⟨fun app inRep inFlat hs ha => ?_, fun hs => ?_, fun inFlat hs => ?_⟩ <;>
      simp only [safeL, safeItem, Bool.true_and] at hs
    · simp only [instKidsF, liftL, liftItem, List.cons_append, List.nil_append, instKids, ihr app inRep inFlat hs ha]
    · simp only [arrF, liftL, liftItem, List.cons_append, List.nil_append, instKids, iha hs]
    · simp only [tmplKidsF, liftL, liftItem, List.cons_append, List.nil_append, tmplKids, iht inFlat hs]
  | sec ct n b fl ks rest ihk ihrest =>
    obtain ⟨ihk, iha, iht⟩ := ihk
    obtain ⟨ihr, ihra, ihrt⟩ := ihrest
    refine ⟨fun app inRep inFlat hs ha => ?_, fun hs => ?_, fun inFlat hs => ?_⟩ <;>
      obtain ⟨hfl, hrep, hnr, hr⟩ := safe_sec _ _ _ _ _ _ _ _ hs
    · simp only [instKidsF, liftL, liftItem]
      cases fl with
      | true =>
        obtain ⟨rfl, rfl, hk⟩ := hfl rfl
        obtain rfl : app = false := by cases app; rfl; exact absurd (ha rfl) (by decide)
        simp only [if_true, instKids_append, iha hk, ihr false false inFlat hr ha]
      | false =>
        simp only [Bool.false_eq_true, if_false, List.cons_append, List.nil_append, instKids_sec]
        by_cases hct : ct = .rep
        · subst hct
          obtain ⟨rfl, -, hk⟩ := hrep rfl
          have hkt := ihk true true false hk (fun _ => rfl)
          cases app with
          | true =>
            obtain rfl : inRep = true := ha rfl
            simp only [if_true, hkt, ihr true true false hr ha]
          | false =>
            simp only [if_true, Bool.false_eq_true, if_false, hkt, iht false hk, ihr false inRep false hr ha]
        · have hk' := hnr rfl hct
          simp only [if_neg hct, ihk app inRep inFlat hk' ha, ihr app inRep inFlat hr ha]
    · simp only [arrF, liftL, liftItem]
      cases fl with
      | true =>
        obtain ⟨-, -, hk⟩ := hfl rfl
        simp only [if_true, instKids_append, iha hk, ihra hr]
      | false =>
        have hct : ct ≠ .rep := fun h => by simpa using (hrep h).1
        have hk' := hnr rfl hct
        simp only [Bool.false_eq_true, if_false, List.cons_append, List.nil_append, instKids_sec, if_neg hct,
          ihk false false true hk' (by simp), ihra hr]
    · obtain rfl : fl = false := by cases fl; rfl; exact absurd (hfl rfl).2.1 (by decide)
      simp only [tmplKidsF, liftL, liftItem, Bool.false_eq_true, if_false, List.cons_append, List.nil_append,
        tmplKids_sec]
      by_cases hct : ct = .rep
      · subst hct
        obtain ⟨rfl, -, hk⟩ := hrep rfl
        simp only [if_true, iht false hk, ihrt false hr]
      · have hk' := hnr rfl hct
        simp only [if_neg hct, ihk false true inFlat hk' (by simp), ihrt inFlat hr]

theorem instKidsF_eq_lift : (its : List FItem) → (app inRep inFlat : Bool) → safeL inRep inFlat its = true →
    (app = true → inRep = true) → instKidsF app its = instKids app (liftL its) :=
  fun its => (walks_eq_lift its).1
theorem arrF_eq_lift : (its : List FItem) → safeL false true its = true → arrF its = instKids false (liftL its) :=
  fun its => (walks_eq_lift its).2.1
theorem tmplKidsF_eq_lift : (its : List FItem) → (inFlat : Bool) → safeL true inFlat its = true →
    tmplKidsF its = tmplKids (liftL its) :=
  fun its => (walks_eq_lift its).2.2

/-- **The instance the code walks is the accepted output's instance**: walking the flat-aware tree as `xml_instance` /
    `xml_instance_array` / `generate_repeating_template` do gives `o.inst`. -/
theorem flat_instance_walk (root : Str) (lists : List Str) (rows : List Cells) (settings : Cells) (o : FlatOut)
    (h : formOutFlat root lists rows settings = .ok o) :
    instanceOfF root (withMetaF (rows.map dropFlat) settings o.items) = o.inst := by
  obtain ⟨all, _, hsafe, _, _, hall, hi, _⟩ := formOutFlat_ok root lists rows settings o h
  rw [hi, ← hall]
  simp [instanceOfF, instanceOf, instKidsF_eq_lift all false false false hsafe (by simp)]

/-- **Closure against the code-shaped instance**: paths and instance all walked the way the code walks them. -/
theorem refs_resolve_flat_walk (root : Str) (lists : List Str) (rows : List Cells) (settings : Cells) (o : FlatOut)
    (h : formOutFlat root lists rows settings = .ok o) :
    ∀ p ∈ bindPathsFL [root] (withMetaF (rows.map dropFlat) settings o.items) ++ bodyPathsFL [root] o.items,
      resolves (instanceOfF root (withMetaF (rows.map dropFlat) settings o.items)) p = true := by
  rw [flat_instance_walk root lists rows settings o h]
  have := refs_resolve_flat_shape root lists rows settings o h
  simpa [shapeOut] using this

/-- the driver's answer to `flat.model` (`walkOut`) is the accepted output itself -/
theorem walkOut_eq (root : Str) (lists : List Str) (rows : List Cells) (settings : Cells) (o : FlatOut)
    (h : formOutFlat root lists rows settings = .ok o) : walkOut root rows settings o = o := by
  have h1 := shapeOut_eq root lists rows settings o h
  have h2 := flat_instance_walk root lists rows settings o h
  unfold walkOut
  rw [h1, h2]

mutual
theorem beq_refl_NT : (t : NT) → NT.beq t t = true
  | .node n tm ks => by simp [NT.beq, beqL_refl_NT ks]
theorem beqL_refl_NT : (ts : List NT) → NT.beqL ts ts = true
  | [] => rfl
  | t :: ts => by simp [NT.beqL, beq_refl_NT t, beqL_refl_NT ts]
end

-- non-vacuity: `flat_instance_walk` at the accepted example; outside the guard the walk differs from the lifted tree
example : (match formOutFlat "data".toList [] exFlat [] with
    | .ok o => instanceOfF "data".toList (withMetaF (exFlat.map dropFlat) [] o.items) == o.inst
    | .error _ => false) = true := by
  have h := exFlat_accepted
  generalize hf : formOutFlat "data".toList [] exFlat [] = x at h ⊢
  cases x with
  | error _ => cases h
  | ok o =>
    dsimp only
    rw [flat_instance_walk _ _ _ _ o hf]
    exact beq_refl_NT _

def qFlatU : QData := { name := "u".toList, bind := true, control := true, node := true }
-- flat group inside a repeat (open finding C02-flat-group-in-repeat): the template keeps the group's node, the lifted tree has none
example : (instKidsF false [FItem.sec .rep "t".toList false false [.sec .group "g".toList false true [.q qFlatU]]]
    == instKids false (liftL [FItem.sec .rep "t".toList false false [.sec .group "g".toList false true [.q qFlatU]]])) = false := by
  decide +kernel

end Pyxv.C02
