import Pyxv.Model.Base
import Pyxv.Proofs.DictLemmas
import Pyxv.Proofs.ListLemmas
/-! Characterising lemmas of the string functions of `Pyxv/Model/Base.lean` (those of `lookup` are in `DictLemmas`), of
`Tight` and of the decimal digits of `toString n`.  `DictLemmas` is imported only to pass it on: slices that import this
module alone (`ControlsLemmas`, `ItextLemmas`, …) reach `AList` that way. -/
namespace Pyxv

theorem splitOnChar_ne_nil (c : Char) (s : Str) : splitOnChar c s ≠ [] := by
  cases s with
  | nil => simp [splitOnChar]
  | cons x xs =>
    rw [splitOnChar]
    split
    · simp
    · split <;> simp

theorem splitOnChar_of_not_mem (c : Char) (s : Str) (h : c ∉ s) : splitOnChar c s = [s] := by
  induction s with
  | nil => rfl
  | cons x xs ih =>
    have hx : x ≠ c := fun e => h (by simp [e])
    rw [splitOnChar, ih (fun m => h (by simp [m]))]
    simp [hx]

theorem splitOnChar_append (c : Char) (x r : Str) :
    splitOnChar c (x ++ c :: r) = splitOnChar c x ++ splitOnChar c r := by
  induction x with
  | nil =>
    have := splitOnChar_ne_nil c r
    rw [List.nil_append]
    cases hs : splitOnChar c r with
    | nil => contradiction
    | cons f fs => simp [splitOnChar, hs]
  | cons a as ih =>
    rw [List.cons_append, splitOnChar, ih]
    have h1 := splitOnChar_ne_nil c as
    cases hs : splitOnChar c as with
    | nil => contradiction
    | cons f fs =>
      rw [splitOnChar, hs]
      by_cases hac : a = c <;> simp [hac]

theorem splitOnChar_append_sep (c : Char) (l rest : Str) (h : c ∉ l) :
    splitOnChar c (l ++ c :: rest) = l :: splitOnChar c rest := by
  rw [splitOnChar_append, splitOnChar_of_not_mem c l h]; rfl

/-- the last piece has a predicate of its own: for `splitlines` it must not be empty (`"".splitlines() = []`) -/
theorem split_joinWith_last (f : Str → List Str) (sep : Str) (P Q : Str → Prop)
    (happ : ∀ x z, P x → f (x ++ sep ++ z) = x :: f z) (hone : ∀ x, Q x → f x = [x])
    (xs : List Str) (hne : xs ≠ []) (h : ∀ x ∈ xs, P x) (hl : Q (xs.getLast hne)) : f (joinWith sep xs) = xs := by
  induction xs with
  | nil => exact absurd rfl hne
  | cons x rest ih =>
    cases rest with
    | nil => simpa [joinWith] using hone x hl
    | cons y ys =>
      rw [joinWith, happ x _ (h x (by simp)),
        ih (by simp) (fun z hz => h z (by simp [hz])) (by simpa [List.getLast_cons] using hl)]

theorem split_joinWith (f : Str → List Str) (sep : Str) (P : Str → Prop)
    (happ : ∀ x z, P x → f (x ++ sep ++ z) = x :: f z) (hone : ∀ x, P x → f x = [x])
    (xs : List Str) (h : ∀ x ∈ xs, P x) (hne : xs ≠ []) : f (joinWith sep xs) = xs :=
  split_joinWith_last f sep P P happ hone xs hne h (h _ (List.getLast_mem hne))

/-- not for `ls = []`, which joins to `""` and splits into one part -/
theorem splitOnChar_joinWith (c : Char) (ls : List Str) (hne : ls ≠ []) (h : ∀ l ∈ ls, c ∉ l) :
    splitOnChar c (joinWith [c] ls) = ls :=
  split_joinWith (splitOnChar c) [c] (fun x => c ∉ x)
    (fun x z hx => by simpa using splitOnChar_append_sep c x z hx) (splitOnChar_of_not_mem c) ls h hne

/-- the mirror image of `split_joinWith`: a rewriting that works piece by piece commutes with the join -/
theorem map_joinWith (g : Str → Str) (sep : Str) (hnil : g [] = [])
    (happ : ∀ x z, g (x ++ sep ++ z) = g x ++ sep ++ g z) :
    ∀ ls : List Str, g (joinWith sep ls) = joinWith sep (ls.map g)
  | [] => hnil
  | [_] => rfl
  | x :: y :: ys => by
    rw [joinWith, happ, map_joinWith g sep hnil happ (y :: ys)]
    rfl

theorem mem_joinWith {x : Char} {sep : Str} {ls : List Str} (h : x ∈ joinWith sep ls) :
    x ∈ sep ∨ ∃ l ∈ ls, x ∈ l := by
  induction ls with
  | nil => simp [joinWith] at h
  | cons l rest ih =>
    cases rest with
    | nil => exact .inr ⟨l, by simp, by simpa [joinWith] using h⟩
    | cons m rest =>
      simp only [joinWith, List.mem_append] at h
      rcases h with (h | h) | h
      · exact .inr ⟨l, by simp, h⟩
      · exact .inl h
      · rcases ih h with h | ⟨l', hl', hx⟩
        · exact .inl h
        · exact .inr ⟨l', by simp [hl'], hx⟩

theorem not_mem_joinWith {x : Char} {sep : Str} {ls : List Str} (hs : x ∉ sep) (hl : ∀ l ∈ ls, x ∉ l) :
    x ∉ joinWith sep ls :=
  fun h => (mem_joinWith h).elim hs fun ⟨l, hm, hx⟩ => hl l hm hx

theorem mem_joinWith_of_mem (sep : Str) {x : Char} : ∀ {ls : List Str} {w : Str}, w ∈ ls → x ∈ w →
    x ∈ joinWith sep ls
  | [l], w, hw, hx => by
    rw [List.mem_singleton.1 hw] at hx
    exact hx
  | l :: m :: rest, w, hw, hx => by
    simp only [joinWith, List.mem_append]
    rcases List.mem_cons.1 hw with rfl | hw
    · exact .inl (.inl hx)
    · exact .inr (mem_joinWith_of_mem sep hw hx)

theorem joinWith_head (sep : Str) (a : Char) (as : Str) (rest : List Str) :
    ∃ r, joinWith sep ((a :: as) :: rest) = a :: r := by
  cases rest with
  | nil => exact ⟨as, rfl⟩
  | cons b r => exact ⟨as ++ sep ++ joinWith sep (b :: r), by simp [joinWith]⟩

theorem joinWith_append (sep : Str) (b r : List Str) (hb : b ≠ []) (hr : r ≠ []) :
    joinWith sep (b ++ r) = joinWith sep b ++ sep ++ joinWith sep r := by
  induction b with
  | nil => contradiction
  | cons x b' ih =>
    cases b' with
    | nil =>
      cases r with
      | nil => contradiction
      | cons y r' => simp [joinWith]
    | cons y b'' =>
      have := ih (by simp)
      simp only [List.cons_append] at this
      simp only [List.cons_append, joinWith, this]
      simp [List.append_assoc]

theorem joinWith_getLast (sep : Str) (p : List Str) (l : Str) (h : p.getLast? = some l) :
    ∃ pre, joinWith sep p = pre ++ l := by
  induction p with
  | nil => simp at h
  | cons a rest ih =>
    cases rest with
    | nil => simp at h; exact ⟨[], by simp [joinWith, h]⟩
    | cons b rest' =>
      have h' : (b :: rest').getLast? = some l := by simpa [List.getLast?_cons_cons] using h
      obtain ⟨pre, hp⟩ := ih h'
      exact ⟨a ++ sep ++ pre, by simp [joinWith, hp]⟩

theorem startsWith_iff (a p : Str) : startsWith a p = true ↔ ∃ r, a = p ++ r := by
  induction p generalizing a with
  | nil => cases a <;> simp [startsWith]
  | cons x xs ih =>
    cases a with
    | nil => simp [startsWith]
    | cons y ys =>
      simp only [startsWith, Bool.and_eq_true, beq_iff_eq, ih, List.cons_append, List.cons.injEq]
      constructor
      · rintro ⟨rfl, r, rfl⟩; exact ⟨r, rfl, rfl⟩
      · rintro ⟨r, rfl, rfl⟩; exact ⟨rfl, r, rfl⟩

theorem startsWith_sep (sep : Char) (b : Str) : ∀ (a p : Str), (∀ c ∈ p, c ≠ sep) →
    startsWith (a ++ sep :: b) p = startsWith a p
  | [], [], _ => by simp [startsWith]
  | [], c :: ps, h => by
    have : sep ≠ c := fun e => h c (List.mem_cons_self ..) e.symm
    simp [startsWith, this]
  | x :: a, [], _ => by simp [startsWith]
  | x :: a, c :: ps, h => by
    simp [startsWith, startsWith_sep sep b a ps (fun d hd => h d (List.mem_cons_of_mem _ hd))]

theorem startsWith_append_self (p a : Str) : startsWith (p ++ a) p = true :=
  (startsWith_iff _ _).2 ⟨a, rfl⟩

theorem startsWith_eq_append_drop {a p : Str} (h : startsWith a p = true) : a = p ++ a.drop p.length := by
  obtain ⟨r, rfl⟩ := (startsWith_iff _ _).1 h
  simp

theorem startsWith_length {a p : Str} (h : startsWith a p = true) : p.length ≤ a.length := by
  obtain ⟨r, rfl⟩ := (startsWith_iff _ _).1 h
  simp

theorem endsWith_append_self (a p : Str) : endsWith (a ++ p) p = true := by
  simp [endsWith, startsWith_append_self]

theorem isInfix_iff (p : Str) : ∀ s : Str, isInfix p s = true ↔ ∃ x y, s = x ++ p ++ y
  | [] => by
    simp only [isInfix, List.isEmpty_iff]
    constructor
    · rintro rfl; exact ⟨[], [], rfl⟩
    · rintro ⟨x, y, h⟩
      have := congrArg List.length h
      simp only [List.length_nil, List.length_append] at this
      exact List.eq_nil_of_length_eq_zero (by omega)
  | a :: s => by
    simp only [isInfix, Bool.or_eq_true, startsWith_iff, isInfix_iff p s]
    constructor
    · rintro (⟨r, hr⟩ | ⟨x, y, hxy⟩)
      · exact ⟨[], r, by simpa using hr⟩
      · exact ⟨a :: x, y, by simp [hxy]⟩
    · rintro ⟨x, y, h⟩
      cases x with
      | nil => exact .inl ⟨y, by simpa using h⟩
      | cons b x =>
        simp only [List.cons_append, List.cons.injEq] at h
        exact .inr ⟨x, y, h.2⟩

theorem isInfix_append (x p y : Str) : isInfix p (x ++ p ++ y) = true :=
  (isInfix_iff p _).2 ⟨x, y, rfl⟩

theorem isInfix_eq_false_of_not_mem {c : Char} {p s : Str} (hp : c ∈ p) (hs : c ∉ s) :
    isInfix p s = false := by
  rw [Bool.eq_false_iff]
  intro h
  obtain ⟨x, y, rfl⟩ := (isInfix_iff p s).1 h
  exact hs (by simp [hp])

/-! ### `"::" in h` and `h.split(":")` -/

theorem colon_not_mem {h : Str} (hc : ∀ c ∈ h, c ≠ ':') : ':' ∉ h := fun hm => hc _ hm rfl

theorem isInfix_dcolon_cons_ne {c : Char} (hc : c ≠ ':') (t : Str) :
    isInfix "::".toList (c :: t) = isInfix "::".toList t := by
  have : startsWith (c :: t) [':', ':'] = false := by simp [startsWith, hc]
  rw [isInfix, show "::".toList = [':', ':'] from rfl, this, Bool.false_or]

theorem isInfix_dcolon_none : ∀ (h : Str), (∀ c ∈ h, c ≠ ':') → isInfix "::".toList h = false :=
  fun _ hh => isInfix_eq_false_of_not_mem (c := ':') (by decide) (colon_not_mem hh)

theorem isInfix_dcolon_prefix (a pre : Str) : isInfix "::".toList (pre ++ ':' :: ':' :: a) = true := by
  simpa using isInfix_append pre "::".toList a

theorem isInfix_dcolon_step (rest : Str) (hr : rest.head? ≠ some ':') : ∀ (pre : Str), (∀ c ∈ pre, c ≠ ':') →
    isInfix "::".toList (pre ++ ':' :: rest) = isInfix "::".toList rest
  | [], _ => by
    have : startsWith (':' :: rest) [':', ':'] = false := by
      cases rest with
      | nil => simp [startsWith]
      | cons x xs =>
        have : x ≠ ':' := by intro e; subst e; simp at hr
        simp [startsWith, this]
    rw [List.nil_append, isInfix, show "::".toList = [':', ':'] from rfl, this, Bool.false_or]
  | c :: p, hc => by
    obtain ⟨h1, hp⟩ := List.forall_mem_cons.mp hc
    rw [List.cons_append, isInfix_dcolon_cons_ne h1, isInfix_dcolon_step rest hr p hp]

theorem isInfix_dcolon_single (a : Str) (ha : ∀ c ∈ a, c ≠ ':') (pre : Str) (hp : ∀ c ∈ pre, c ≠ ':') :
    isInfix "::".toList (pre ++ ':' :: a) = false := by
  have hh : a.head? ≠ some ':' := by
    cases a with
    | nil => simp
    | cons x xs => simpa using ha x (List.mem_cons_self ..)
  rw [isInfix_dcolon_step a hh pre hp, isInfix_dcolon_none a ha]

theorem splitOnChar_prefix (a : Str) (ha : ∀ c ∈ a, c ≠ ':') (pre : Str) (hp : ∀ c ∈ pre, c ≠ ':') :
    splitOnChar ':' (pre ++ ':' :: a) = [pre, a] := by
  rw [splitOnChar_append_sep ':' pre a (colon_not_mem hp), splitOnChar_of_not_mem ':' a (colon_not_mem ha)]

theorem lstrip_cons_of_not (a : Char) (t : Str) (ha : pyIsSpace a = false) : lstrip (a :: t) = a :: t := by
  unfold lstrip; simp [ha]

theorem rstrip_snoc_of_not (u : Str) (b : Char) (hb : pyIsSpace b = false) :
    rstrip (u ++ [b]) = u ++ [b] := by
  unfold rstrip; simp [hb]

theorem lstrip_append_left (ws s : Str) (h : ∀ c ∈ ws, pyIsSpace c = true) : lstrip (ws ++ s) = lstrip s :=
  List.dropWhile_append_of_pos h

theorem rstrip_append_right (s ws : Str) (h : ∀ c ∈ ws, pyIsSpace c = true) :
    rstrip (s ++ ws) = rstrip s :=
  dropEnd_append_all pyIsSpace s ws h

theorem lstrip_decomp (s : Str) : ∃ ws, (∀ c ∈ ws, pyIsSpace c = true) ∧ s = ws ++ lstrip s :=
  ⟨s.takeWhile pyIsSpace, fun _ hc => List.all_eq_true.1 List.all_takeWhile _ hc,
    List.takeWhile_append_dropWhile.symm⟩

theorem rstrip_decomp (s : Str) : ∃ ws, (∀ c ∈ ws, pyIsSpace c = true) ∧ s = rstrip s ++ ws :=
  let ⟨t, h, _, hall⟩ := dropEnd_decomp pyIsSpace s
  ⟨t, hall, h⟩

theorem lstrip_head_not {s t : Str} {a : Char} (h : lstrip s = a :: t) : pyIsSpace a = false :=
  dropWhile_head_not pyIsSpace h

theorem rstrip_last_not {s u : Str} {b : Char} (h : rstrip s = u ++ [b]) : pyIsSpace b = false :=
  dropEnd_last_not pyIsSpace h

theorem length_lstrip_le (s : Str) : (lstrip s).length ≤ s.length :=
  (List.dropWhile_sublist pyIsSpace).length_le

theorem strip_subset {s : Str} {x : Char} (hx : x ∈ strip s) : x ∈ s := by
  unfold strip rstrip lstrip at hx
  exact (List.dropWhile_sublist _).subset
    (List.mem_reverse.1 ((List.dropWhile_sublist _).subset (List.mem_reverse.1 hx)))

theorem strip_eq_self {s t u : Str} {a b : Char} (h1 : s = a :: t) (h2 : s = u ++ [b])
    (ha : pyIsSpace a = false) (hb : pyIsSpace b = false) : strip s = s := by
  unfold strip
  rw [h1, lstrip_cons_of_not a t ha, ← h1, h2, rstrip_snoc_of_not u b hb]

theorem strip_pad (pre x post : Str) (h1 : ∀ c ∈ pre, pyIsSpace c = true)
    (h2 : ∀ c ∈ post, pyIsSpace c = true) : strip (pre ++ x ++ post) = strip x := by
  unfold strip
  rw [List.append_assoc, lstrip_append_left _ _ h1]
  obtain ⟨ws, hws, hx⟩ := lstrip_decomp x
  -- `x` all blanks: both sides are `[]`; otherwise `lstrip` stops inside `x` and leaves `post` to `rstrip`
  cases hl : lstrip x with
  | nil =>
    rw [hl, List.append_nil] at hx
    have hall : ∀ c ∈ x ++ post, pyIsSpace c = true := fun c hc =>
      (List.mem_append.1 hc).elim (hx ▸ hws c) (h2 c)
    have : lstrip (x ++ post) = [] := by
      rw [← List.append_nil (x ++ post), lstrip_append_left _ _ hall]; rfl
    rw [this]
  | cons a t =>
    have : lstrip (x ++ post) = lstrip x ++ post := by
      conv => lhs; rw [hx, List.append_assoc, lstrip_append_left _ _ hws]
      rw [hl, List.cons_append, lstrip_cons_of_not a _ (lstrip_head_not hl)]
    rw [this, rstrip_append_right _ _ h2, hl]

theorem lstrip_cons (c : Char) (r : Str) : lstrip (c :: r) = if pyIsSpace c then lstrip r else c :: r := by
  simp only [lstrip, List.dropWhile_cons]

theorem rstrip_cons (c : Char) (r : Str) :
    rstrip (c :: r) = if rstrip r = [] ∧ pyIsSpace c = true then [] else c :: rstrip r := by
  simp only [rstrip, List.reverse_cons, List.dropWhile_append]
  by_cases h : (r.reverse.dropWhile pyIsSpace) = []
  · by_cases hc : pyIsSpace c = true <;> simp [h, hc]
  · simp [h]

theorem rstrip_head (r : Str) (h : rstrip r ≠ []) : (rstrip r).head? = r.head? := by
  cases r with
  | nil => exact absurd rfl h
  | cons d r' => rw [rstrip_cons] at h ⊢; split <;> simp_all

theorem lstrip_idem (s : Str) : lstrip (lstrip s) = lstrip s := dropWhile_idem pyIsSpace s

theorem rstrip_idem (s : Str) : rstrip (rstrip s) = rstrip s := dropEnd_idem pyIsSpace s

theorem lstrip_rstrip_comm_head (y : Str) (h : lstrip y = y) : lstrip (rstrip y) = rstrip y := by
  cases y with
  | nil => rfl
  | cons c r =>
    rw [lstrip_cons] at h
    by_cases hc : pyIsSpace c = true
    · -- then `lstrip r = c :: r`, impossible: `lstrip r` is a suffix of `r`
      simp only [hc, if_true] at h
      have := length_lstrip_le r
      rw [h] at this; simp at this; omega
    · rw [rstrip_cons]; simp only [hc]; simp [lstrip_cons, hc]

theorem strip_idem (s : Str) : strip (strip s) = strip s := by
  unfold strip
  rw [lstrip_rstrip_comm_head _ (lstrip_idem s), rstrip_idem]

theorem lstrip_map (g : Char → Char) (hg : ∀ c, pyIsSpace (g c) = pyIsSpace c) (s : Str) : lstrip (s.map g) = (lstrip s).map g := by
  rw [lstrip, List.dropWhile_map, show pyIsSpace ∘ g = pyIsSpace from funext hg]; rfl

theorem rstrip_map (g : Char → Char) (hg : ∀ c, pyIsSpace (g c) = pyIsSpace c) (s : Str) : rstrip (s.map g) = (rstrip s).map g := by
  rw [rstrip, ← List.map_reverse, ← lstrip, lstrip_map g hg, ← List.map_reverse]; rfl

theorem strip_blank (ws : Str) (h : ∀ c ∈ ws, pyIsSpace c = true) : strip ws = [] := by
  simpa [strip, lstrip, rstrip] using strip_pad ws [] [] h (by simp)

theorem strip_keeps_nonspace (s : Str) (x : Char) (hx : x ∈ s) (hp : pyIsSpace x = false) : x ∈ strip s := by
  unfold strip rstrip lstrip
  rw [List.mem_reverse]
  apply mem_dropWhile_of_neg _ _ _ _ hp
  rw [List.mem_reverse]
  exact mem_dropWhile_of_neg _ _ _ hx hp

/-- non-empty text that `strip` leaves alone -/
def Tight (x : Str) : Prop :=
  (∃ a t, x = a :: t ∧ pyIsSpace a = false) ∧ (∃ u b, x = u ++ [b] ∧ pyIsSpace b = false)

theorem Tight.of_getLast {x r : Str} {a z : Char} (hx : x = a :: r) (hl : x.getLast? = some z)
    (ha : pyIsSpace a = false) (hz : pyIsSpace z = false) : Tight x := by
  have hne : x ≠ [] := by rw [hx]; simp
  rw [List.getLast?_eq_some_getLast hne] at hl
  exact ⟨⟨a, r, hx, ha⟩, x.dropLast, z, by rw [← Option.some.inj hl, List.dropLast_concat_getLast hne], hz⟩

theorem Tight.prepend {x : Str} (h : Tight x) (a : Char) (r : Str) (ha : pyIsSpace a = false) :
    Tight (a :: r ++ x) := by
  obtain ⟨-, u, z, rfl, hz⟩ := h
  exact ⟨⟨a, r ++ (u ++ [z]), rfl, ha⟩, a :: r ++ u, z, by simp, hz⟩

theorem Tight.strip_eq {x : Str} (h : Tight x) : strip x = x :=
  let ⟨⟨_, _, h1, ha⟩, ⟨_, _, h2, hb⟩⟩ := h
  strip_eq_self h1 h2 ha hb

theorem tight_of_strip {x : Str} (hs : strip x = x) (hne : x ≠ []) : Tight x := by
  obtain ⟨ws, _, hws⟩ := rstrip_decomp (lstrip x)
  change lstrip x = strip x ++ ws at hws
  rw [hs] at hws
  constructor
  · cases x with
    | nil => exact absurd rfl hne
    | cons a r => exact ⟨a, r, rfl, lstrip_head_not hws⟩
  · refine ⟨x.dropLast, x.getLast hne, (List.dropLast_concat_getLast hne).symm, ?_⟩
    exact rstrip_last_not (s := lstrip x) (by rw [List.dropLast_concat_getLast hne]; exact hs)

theorem Tight.strip_pad {x : Str} (h : Tight x) {pre post : Str} (h1 : ∀ c ∈ pre, pyIsSpace c = true)
    (h2 : ∀ c ∈ post, pyIsSpace c = true) : strip (pre ++ x ++ post) = x :=
  (_root_.Pyxv.strip_pad pre x post h1 h2).trans h.strip_eq

theorem lowerAscii_append (a b : Str) : lowerAscii (a ++ b) = lowerAscii a ++ lowerAscii b := by
  simp [lowerAscii]

theorem toList_toString (n : Nat) : (toString n).toList = Nat.toDigits 10 n := by
  rw [Nat.toString_eq_repr, Nat.toList_repr]

theorem digits_toString {n : Nat} {c : Char} (h : c ∈ (toString n).toList) : c.isDigit = true := by
  rw [toList_toString] at h
  exact Nat.isDigit_of_mem_toDigits (by decide) (by decide) h

end Pyxv
