import Pyxv.Model.Controls
import Pyxv.Proofs.Literals
import Pyxv.Proofs.BaseLemmas
/-!
# C17 — parameter rules of the catalogue (`params` mutation), on `Pyxv.Controls`

`parameters_generic.parse` / `validate` and the per-type blocks of `workbook_to_json` as modelled in `Pyxv.Controls`.
None of the statements mentions other rows: the accepted parameter names of a row depend on that row's type only.
-/
namespace Pyxv.C17
open Pyxv Pyxv.Controls

theorem parseOne_none_of_no_eq (p : Str) (h : '=' ∉ p) : parseOne p = none := by
  simp [parseOne, splitOnChar_of_not_mem '=' p h]

theorem parseFold_none_of_part : ∀ (parts : List Str) (acc : Dict) (p : Str),
    p ∈ parts → parseOne p = none → parseFold parts acc = none
  | [], _, _, hm, _ => by simp at hm
  | q :: qs, acc, p, hm, hp => by
    simp only [parseFold]
    rcases List.mem_cons.1 hm with e | hm'
    · subst e; rw [hp]
    · cases hq : parseOne q with
      | none => rfl
      | some kv => exact parseFold_none_of_part qs _ p hm' hp

/-- **malformed parameters**: if any part of the cell (split on `;`, else `,`, else whitespace) has no `=`, the
    cell is rejected ("Expecting parameters to be in the form of …") -/
theorem malformed_params_rejected (raw p : Str) (hm : p ∈ parseParts raw) (h : '=' ∉ p) :
    parseParams raw = none :=
  parseFold_none_of_part _ _ p hm (parseOne_none_of_no_eq p h)

example : parseParams "rows".toList = none ∧ parseParams "rows=3 x".toList = none ∧
    parseParams "a=1;b".toList = none ∧ (parseParams "rows=3".toList).isSome = true := by decide +kernel

theorem allowed_rejects (ps : Dict) (al : List String) (kv : Str × Str) (hm : kv ∈ ps)
    (h : kv.1 ∉ al.map String.toList) : allowed ps al = .error (.err "invalid parameter(s)") := by
  unfold allowed
  have : ps.all (fun kv => al.any fun a => a.toList = kv.1) = false := by
    rw [List.all_eq_false]
    refine ⟨kv, hm, ?_⟩
    simp only [List.any_eq_true, not_exists, not_and, decide_eq_true_eq]
    intro a ha e; exact h (e ▸ List.mem_map_of_mem ha)
  rw [this]; rfl

/-- **unknown parameter on a select** — in particular `value=` / `label=` on a select that is not from a file, whatever
    rows came before it -/
theorem select_unknown_param_rejected (ps : Dict) (kv : Str × Str) (hm : kv ∈ ps)
    (h1 : kv.1 ≠ (k!"randomize")) (h2 : kv.1 ≠ (k!"seed")) :
    validateSelectParams ps = .error (.err "invalid parameter(s)") := by
  unfold validateSelectParams
  have := allowed_rejects ps ["randomize", "seed"] kv hm (by
    simp only [List.map, toList_lit rfl, List.mem_cons, List.mem_nil_iff, or_false, not_or]; exact ⟨h1, h2⟩)
  simp only [this, bind, Except.bind]

example : validateSelectParams [((k!"value"), (k!"name"))] = .error (.err "invalid parameter(s)") :=
  select_unknown_param_rejected _ ((k!"value"), (k!"name")) (by simp) (by decide) (by decide)

theorem text_unknown_param_rejected (r : Rows.Cells) (ps : Dict) (kv : Str × Str) (hm : kv ∈ ps)
    (h : kv.1 ≠ (k!"rows")) : validateParams (k!"text") r ps = .error (.err "invalid parameter(s)") := by
  have := allowed_rejects ps ["rows"] kv hm (by
    simp only [List.map, toList_lit rfl, List.mem_cons, List.mem_nil_iff, or_false]; exact h)
  have ht : ((k!"text") = (k!"range")) = False := by decide
  simp only [validateParams, ht, ↓reduceIte, this, bind, Except.bind]

theorem range_unknown_param_rejected (r : Rows.Cells) (ps : Dict) (kv : Str × Str) (hm : kv ∈ ps)
    (h1 : kv.1 ≠ (k!"start")) (h2 : kv.1 ≠ (k!"end")) (h3 : kv.1 ≠ (k!"step")) :
    validateParams (k!"range") r ps = .error (.err "invalid parameter(s)") := by
  have := allowed_rejects ps ["start", "end", "step"] kv hm (by
    simp only [List.map, toList_lit rfl, List.mem_cons, List.mem_nil_iff, or_false, not_or]; exact ⟨h1, h2, h3⟩)
  simp only [validateParams, ↓reduceIte, this, bind, Except.bind]

theorem text_rows_not_int_rejected (r : Rows.Cells) (ps : Dict) (v : Str)
    (ha : allowed ps ["rows"] = .ok ()) (hv : lookup (k!"rows") ps = some v)
    (h1 : intLit v = false) (h2 : notInt v = true) :
    validateParams (k!"text") r ps = .error (.err "Parameter rows must have an integer value") := by
  have ht : ((k!"text") = (k!"range")) = False := by decide
  simp only [validateParams, ht, ↓reduceIte, ha, bind, Except.bind, hv, optCheck, needInt, h1, h2,
    Bool.false_eq_true]

example : validateParams (k!"text") [] [((k!"rows"), (k!"abc"))] = .error (.err "Parameter rows must have an integer value") :=
  text_rows_not_int_rejected [] _ (k!"abc") (by rfl) (by decide) (by decide) (by decide)

theorem select_randomize_value_rejected (ps : Dict) (v : Str)
    (ha : allowed ps ["randomize", "seed"] = .ok ()) (hv : lookup (k!"randomize") ps = some v)
    (h1 : v ≠ (k!"true")) (h2 : v ≠ (k!"false")) :
    validateSelectParams ps = .error (.err "randomize must be set to true or false") := by
  unfold validateSelectParams
  simp only [ha, bind, Except.bind, hv]
  simp [h1, h2]

theorem select_seed_without_randomize_rejected (ps : Dict)
    (ha : allowed ps ["randomize", "seed"] = .ok ()) (hr : lookup (k!"randomize") ps = none)
    (hs : (lookup (k!"seed") ps).isSome = true) :
    validateSelectParams ps = .error (.err "seed without randomize") := by
  unfold validateSelectParams
  simp only [ha, bind, Except.bind, hr, hs, ↓reduceIte]

example : validateSelectParams [((k!"randomize"), (k!"maybe"))] = .error (.err "randomize must be set to true or false") :=
  select_randomize_value_rejected _ (k!"maybe") (by rfl) (by decide) (by decide) (by decide)
example : validateSelectParams [((k!"seed"), (k!"3"))] = .error (.err "seed without randomize") :=
  select_seed_without_randomize_rejected _ (by rfl) (by decide) (by decide)

end Pyxv.C17
