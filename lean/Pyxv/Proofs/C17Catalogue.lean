import Pyxv.Proofs.C02
import Pyxv.Proofs.C03
import Pyxv.Proofs.C19
import Pyxv.Proofs.C01Valid
import Pyxv.Proofs.C10
/-!
# C17 — catalogue entries covered by the theorems of the neighbouring slices

One statement per catalogue entry of `harness/c17_mut.py` whose mechanism is modelled in another slice:
the entry is phrased as the *mutation* (what is added to / changed in an arbitrary form) and discharged
by the slice's lemma.  Row-level entries are in `C17Rows` / `C17More`, the empty section in `C17Fixed`.
-/
namespace Pyxv.C17
open Pyxv

/-! ### references (`ambiguous_ref`, `ambiguous_mixed`, `unknown_ref`) — `Pyxv.Refs` -/

/-- **ambiguous_ref.**  Once `extra` adds elements such that two or more carry `name`, `${name}` is rejected from
    every context and in every cell kind, and the error names it. -/
theorem ambiguous_ref_rejected (els extra : List Refs.Chain) (ctx : Option Refs.Chain) (name : Str) (fl : Refs.Flags)
    (h : 2 ≤ ((els ++ extra).filter (Refs.named name)).length) :
    Refs.refFor (els ++ extra) ctx name fl = .ambiguous name :=
  (Refs.unknown_or_ambiguous_rejected (els ++ extra) ctx name fl).2 h

/-- the mutation's own shape: the form already has `m` elements of that name and `k` more are added, m + k ≥ 2 -/
theorem ambiguous_ref_rejected_count (els extra : List Refs.Chain) (ctx : Option Refs.Chain) (name : Str) (fl : Refs.Flags)
    (h : 2 ≤ (els.filter (Refs.named name)).length + (extra.filter (Refs.named name)).length) :
    Refs.refFor (els ++ extra) ctx name fl = .ambiguous name := by
  apply ambiguous_ref_rejected
  rw [List.filter_append, List.length_append]; exact h

/-- **unknown_ref.**  A name no element carries is rejected, naming it. -/
theorem unknown_ref_rejected (els : List Refs.Chain) (ctx : Option Refs.Chain) (name : Str) (fl : Refs.Flags)
    (h : ∀ t ∈ els, Refs.named name t = false) :
    Refs.refFor els ctx name fl = .unknown name := by
  apply (Refs.unknown_or_ambiguous_rejected els ctx name fl).1
  rw [List.length_eq_zero_iff, List.filter_eq_nil_iff]
  intro t ht; simp [h t ht]

/-! ### duplicate sibling names at any depth (`dup_sibling`) — `Pyxv.C02` -/

/-- **dup_sibling.**  Two siblings whose names differ at most by case, at the top level or inside a section at
    any position of the tree, make validation fail. -/
theorem dup_sibling_rejected (root : Str) (kids : List Form.Item) (h : Form.sibsOK kids = false) :
    ∃ e, Form.validate root kids = .error e :=
  C02.ambiguous_rejected root kids h

theorem sibsEach_false_of_item (x : Form.Item) (pre post : List Form.Item) (h : Form.sibsItem x = false) :
    Form.sibsEach (pre ++ x :: post) = false := by
  rw [C02.sibsEach_append, Form.sibsEach, h, Bool.false_and, Bool.and_false]

theorem dup_sibling_nested (ct : Form.Ctl) (n : Str) (b : Bool) (inner pre post : List Form.Item)
    (h : Form.sibsOK inner = false) : Form.sibsOK (pre ++ .sec ct n b inner :: post) = false := by
  have hi : Form.sibsItem (.sec ct n b inner) = false := by rw [Form.sibsItem]; exact h
  simp [Form.sibsOK, sibsEach_false_of_item _ pre post hi]

/-! ### malformed references (`malformed_ref`, `${}`) — `Pyxv.Lexer.refLoop` (token level, every continuation) -/

/-- **`${}`**: a reference start immediately closed is malformed, whatever follows -/
theorem empty_ref_rejected (x y : Str) (rest : List (String × Str)) :
    Lexer.refLoop none (("PYXFORM_REF_START", x) :: ("PYXFORM_REF_END", y) :: rest) = false := by
  simp [Lexer.refLoop]

/-- **`${a b}`, `${${a}}`**: inside a reference only NAME tokens (and the closing brace after a name) may occur -/
theorem foreign_token_in_ref_rejected (seen : Bool) (n : String) (x : Str) (rest : List (String × Str))
    (h1 : n ≠ "NAME") (h2 : n ≠ "PYXFORM_REF_END") :
    Lexer.refLoop (some seen) ((n, x) :: rest) = false := by
  simp [Lexer.refLoop, h1, h2]

/-- **`${a`**: a reference still open at the end of the cell is malformed -/
theorem unterminated_ref_rejected (seen : Bool) : Lexer.refLoop (some seen) [] = false := by
  simp [Lexer.refLoop]

theorem refSyntaxOk_eq (v : Str) : Lexer.refSyntaxOk v =
    if v.length ≤ 2 || !isInfix ['$', '{'] v then some true
    else some (Lexer.refLoop none (Lexer.scanWith Lexer.pinnedRules v).1) := by
  unfold Lexer.refSyntaxOk
  rw [C10.active_rules_pinned]
  rfl

/-- the four catalogue spellings, through the lexer tables regenerated from the source -/
example : Lexer.refSyntaxOk "${a > 1".toList = some false ∧ Lexer.refSyntaxOk "${a b} > 1".toList = some false ∧
    Lexer.refSyntaxOk "${${a}} > 1".toList = some false ∧ Lexer.refSyntaxOk "${} > 1".toList = some false ∧
    Lexer.refSyntaxOk "${a} > 1".toList = some true := by
  simp only [refSyntaxOk_eq]
  decide +kernel

/-! ### triggers (`bad_trigger`) — the contrapositive of `C10.accepted_trigger_visible` -/

/-- **bad_trigger.**  If some question carries a trigger cell that is not exactly one reference to a question
    that renders a control, the form is not accepted. -/
theorem bad_trigger_rejected (dyn : Defaults.Q → Bool) (root : Str) (els : List Defaults.El)
    (pq : Defaults.Path) (q : Defaults.Q) (hq : (pq, q) ∈ Defaults.qwp [root] els) (htrig : q.trigger.isEmpty = false)
    (hbad : ¬ ∃ x ∈ Defaults.qwp [root] els, Pyxv.strip q.trigger = Defaults.refOf x.2.name ∧ Defaults.shown x.2 = true) :
    Defaults.check dyn els ≠ none :=
  fun h => hbad (C10.accepted_trigger_visible dyn root els h pq q hq htrig)

/-! ### names that would make the XForm not well-formed (`xml_names`) — `Pyxv.Asm.validDoc` -/

theorem validKids_false_of_node (sc : List Str) (n : Xml.Node) (pre post : List Xml.Node)
    (h : Asm.validDoc sc n = false) : Asm.validKids sc (pre ++ n :: post) = false := by
  rw [C01.validKids_eq, List.all_append, List.all_cons, h, Bool.false_and, Bool.and_false]

/-- **xml_names.**  An element whose tag is not an XML name, or whose prefix is not declared, fails the
    generated-document check wherever it sits among its siblings. -/
theorem xml_name_rejected (sc : List Str) (t : Str) (a : List (Str × Str)) (ks pre post : List Xml.Node)
    (h : Asm.nameValid (a.filterMap Asm.pyDeclared ++ sc) t = false) :
    Asm.validKids sc (pre ++ .elem t a ks :: post) = false :=
  validKids_false_of_node sc _ pre post (by simp [Asm.validDoc, h])

theorem xml_char_rejected (sc : List Str) (b : Bool) (s : Str) (pre post : List Xml.Node)
    (h : s.all Xml.isXmlChar = false) : Asm.validKids sc (pre ++ .text b s :: post) = false :=
  validKids_false_of_node sc _ pre post (by simp [Asm.validDoc, h])

/-! ### entities (`entities_unknown_col`, `entities_two_rows`, `entities_bad_dataset`, `save_to_in_repeat`,
`save_to_on_section`) — `Pyxv.C19` -/

theorem entities_unknown_col_rejected (row : Rows.Cells) (h : Entities.extraColumns row ≠ []) :
    Entities.getEntityDeclaration row [] = .error (.columns (Entities.extraColumns row)) :=
  C19.unknown_columns_rejected row h

theorem entities_two_rows_rejected (row r2 : Rows.Cells) (rest : List Rows.Cells) :
    ∃ m, Entities.getEntityDeclaration row (r2 :: rest) = .error (.msg m) :=
  C19.multiple_rows_rejected row r2 rest

theorem entities_bad_dataset_rejected (row : Rows.Cells) (ds : Str) (hcols : Entities.extraColumns row = [])
    (hds : lookup "dataset".toList row = some ds) (hbad : Entities.Spec.validDatasetName ds = false) :
    ∃ m, Entities.getEntityDeclaration row [] = .error (.msg m) :=
  C19.name_rules_dataset_rejected row ds hcols hds hbad

/-- **save_to below a repeat at any depth** (`inRepeat` scans the whole stack of open controls) **or on a group /
    repeat row** -/
theorem save_to_in_repeat_rejected (decl : Bool) (root : Str) (n : Nat) (st : List Entities.Frame)
    (r : Rows.Cells) (rs : List Rows.Cells) (t name : Str)
    (ht : Rows.get r "type" = some t) (he : Rows.matchControl "end" false t = none)
    (hna : t ≠ Entities.auditType)
    (hn : Rows.get r "name" = some name) (hcell : Entities.truthy (lookup Entities.savetoKey r) = true)
    (hbad : Entities.inRepeat st = true ∨ ∃ c, Rows.matchControl "begin" true t = some c) :
    ∃ m, Entities.walk decl root n st (r :: rs) = .error (.msg m) :=
  C19.saveto_in_repeat_or_on_group_rejected decl root n st r rs t name ht he hna hn hcell hbad

example : Form.sibsOK [Form.Item.sec .group "g".toList false
    [Form.Item.q { name := "a".toList, bind := true, control := true, node := true },
     Form.Item.q { name := "A".toList, bind := true, control := true, node := true }]] = false := by decide +kernel
example : Asm.nameValid [] "1x".toList = false ∧ Asm.nameValid [] "foo:bar".toList = false ∧
    Asm.nameValid ["foo".toList] "foo:bar".toList = true := by decide +kernel
example : ("a\x01b".toList).all Xml.isXmlChar = false := by decide +kernel
example : Entities.Spec.validDatasetName "a.b".toList = false ∧ Entities.Spec.validDatasetName "__x".toList = false := by
  decide +kernel
end Pyxv.C17
