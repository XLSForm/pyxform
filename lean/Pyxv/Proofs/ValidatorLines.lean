import Pyxv.Proofs.ValidatorLemmas
import Pyxv.Proofs.BaseLemmas
/-! For the end-to-end statement about `ErrorCleaner.odk_validate`: the path substitution never crosses a delimiter
(so it works line by line), invents no characters besides `$ { }`, keeps the first and the last character or turns
them into `$` / `}`, leaves blanks around a text alone; `splitlines` undoes `"\n".join` on well-delimited texts. -/
namespace Pyxv.Validator

def isDelim (c : Char) : Bool := !isSeg c && c != '/'

theorem isDelim_iff (c : Char) : isDelim c = true ↔ isSeg c = false ∧ c ≠ '/' := by
  simp [isDelim]

/-! ## the substitution never crosses a delimiter -/

theorem toks_delim (c : Char) (rest : Str) (hc : isDelim c = true) : toks (c :: rest) = .ch c :: toks rest := by
  obtain ⟨h1, h2⟩ := (isDelim_iff c).1 hc
  simp [toks, pushChar, h1, h2]

theorem subPaths_split (l1 rest : Str) (c : Char) (hc : isDelim c = true) :
    subPaths (l1 ++ c :: rest) = subPaths l1 ++ c :: subPaths rest := by
  unfold subPaths
  rw [toks_append_cons l1 c rest ((isDelim_iff c).1 hc).1, toks_delim c rest hc, renderToks_ch_split]

theorem subPaths_nil : subPaths [] = [] := by
  simp [subPaths, toks, renderToks, flush, chainText]

theorem subPaths_delim_cons (c : Char) (rest : Str) (hc : isDelim c = true) :
    subPaths (c :: rest) = c :: subPaths rest := by
  have := subPaths_split [] rest c hc
  simpa [subPaths_nil] using this

/-- … hence it commutes with joining lines by a delimiter character (`\n`) -/
theorem subPaths_join (c : Char) (hc : isDelim c = true) (ls : List Str) :
    subPaths (joinWith [c] ls) = joinWith [c] (ls.map subPaths) :=
  map_joinWith subPaths [c] subPaths_nil (fun x z => by simpa using subPaths_split x z c hc) ls

theorem subPaths_allSeg (r : Str) (h : ∀ c ∈ r, isSeg c = true) : subPaths r = r := by
  cases r with
  | nil => exact subPaths_nil
  | cons c cs =>
    have := toks_run (c :: cs) [] (by simp) h (by intro s t; simp [toks])
    simp only [List.append_nil] at this
    unfold subPaths
    rw [this]
    simp [toks, renderToks, stepTok, flush, chainText]

theorem subPaths_seg_head (c : Char) (s : Str) (hs : isSeg c = true) : ∃ r, subPaths (c :: s) = c :: r := by
  obtain ⟨r0, ts, h⟩ : ∃ r0 ts, toks (c :: s) = .run (c :: r0) :: ts := by
    simp only [toks, pushChar, hs, ↓reduceIte]
    split
    · exact ⟨_, _, rfl⟩
    · exact ⟨[], _, rfl⟩
  exact ⟨r0 ++ (flush (accOf ts).chain ++ (accOf ts).out),
    by simp [subPaths, h, renderToks, stepTok, flush, chainText, accOf]⟩

theorem subPaths_head (c : Char) (s : Str) (hc : c ≠ '/') : ∃ r, subPaths (c :: s) = c :: r := by
  by_cases hs : isSeg c = true
  · exact subPaths_seg_head c s hs
  · exact ⟨subPaths s, subPaths_delim_cons c s (by simp [isDelim, hs, hc])⟩

/-! ## no character is invented besides `$ { }` -/

def tokAll (p : Char → Bool) : Tok → Bool
  | .unit s => s.all p
  | .run s => s.all p
  | .ch c => p c

theorem pushChar_all (p : Char → Bool) (c : Char) (t : List Tok) (hc : p c = true) (ht : t.all (tokAll p) = true) :
    (pushChar c t).all (tokAll p) = true := by
  -- in each of the three branches of `pushChar`, `c` goes into the first token or in front of it, or a first run
  -- becomes a unit
  by_cases h1 : isSeg c = true
  · cases t with
    | nil => simp [pushChar, h1, tokAll, hc]
    | cons x r => cases x <;> simpa [pushChar, h1, tokAll, hc] using ht
  · by_cases h2 : c = '/'
    · subst h2
      cases t with
      | nil => simp [pushChar, h1, tokAll, hc]
      | cons x r => cases x <;> simpa [pushChar, h1, tokAll, hc] using ht
    · simpa [pushChar, h1, h2, tokAll, hc] using ht

theorem toks_all (p : Char → Bool) (s : Str) (h : s.all p = true) : (toks s).all (tokAll p) = true := by
  induction s with
  | nil => simp [toks]
  | cons c cs ih =>
    simp only [List.all_cons, Bool.and_eq_true] at h
    exact pushChar_all p c (toks cs) h.1 (ih h.2)

theorem chainText_all (p : Char → Bool) (hs : p '/' = true) (chain : List Str) (h : chain.all (fun s => s.all p) = true) :
    (chainText chain).all p = true := by
  induction chain with
  | nil => simp [chainText]
  | cons s rest ih =>
    simp only [List.all_cons, Bool.and_eq_true] at h
    simp [chainText, hs, h.1, ih h.2]

theorem getLastD_all (p : Char → Bool) (chain : List Str) (h : chain.all (fun s => s.all p) = true) :
    (chain.getLastD []).all p = true := by
  rcases List.mem_cons.1 (List.getLastD_mem_cons (l := chain) (a := [])) with e | hm
  · rw [e]; rfl
  · exact List.all_eq_true.1 h _ hm

theorem flush_cases (chain : List Str) :
    flush chain = chainText chain ∨ flush chain = '$' :: '{' :: chain.getLastD [] ++ ['}'] := by
  unfold flush
  split
  · unfold replacement
    simp only []  -- reduces the `let` of `replacement`, so that `split` sees the `if`
    split
    · exact .inl rfl
    · exact .inr rfl
  · exact .inl rfl

theorem flush_all (p : Char → Bool) (hs : p '/' = true) (hd : p '$' = true) (ho : p '{' = true) (hc : p '}' = true)
    (chain : List Str) (h : chain.all (fun s => s.all p) = true) : (flush chain).all p = true := by
  rcases flush_cases chain with e | e <;> rw [e]
  · exact chainText_all p hs chain h
  · simp only [List.all_cons, List.all_append, hd, ho, hc, getLastD_all p chain h, List.all_nil, Bool.and_self]

theorem accOf_all (p : Char → Bool) (hs : p '/' = true) (hd : p '$' = true) (ho : p '{' = true) (hc : p '}' = true)
    (ts : List Tok) (h : ts.all (tokAll p) = true) :
    (accOf ts).chain.all (fun s => s.all p) = true ∧ (accOf ts).out.all p = true := by
  induction ts with
  | nil => simp [accOf]
  | cons t rest ih =>
    simp only [List.all_cons, Bool.and_eq_true] at h
    obtain ⟨ih1, ih2⟩ := ih h.2
    have hf := flush_all p hs hd ho hc _ ih1
    have e : accOf (t :: rest) = stepTok t (accOf rest) := rfl
    rw [e]
    cases t with
    | unit s =>
      simp only [stepTok, List.all_cons, Bool.and_eq_true]
      exact ⟨⟨by simpa [tokAll] using h.1, ih1⟩, ih2⟩
    | run s =>
      simp only [stepTok, List.all_nil, List.all_append, Bool.and_eq_true]
      exact ⟨trivial, by simpa [tokAll] using h.1, hf, ih2⟩
    | ch c =>
      simp only [stepTok, List.all_nil, List.all_cons, List.all_append, Bool.and_eq_true]
      exact ⟨trivial, by simpa [tokAll] using h.1, hf, ih2⟩

/-- `hs`: the renderer writes the `/` of a chain back itself -/
theorem subPaths_all (p : Char → Bool) (hs : p '/' = true) (hd : p '$' = true) (ho : p '{' = true) (hc : p '}' = true)
    (s : Str) (h : s.all p = true) : (subPaths s).all p = true := by
  obtain ⟨h1, h2⟩ := accOf_all p hs hd ho hc (toks s) (toks_all p s h)
  have hf := flush_all p hs hd ho hc _ h1
  simp [subPaths, renderToks_def, hf, h2]

theorem strip_id (s : Str) (c d : Char) (r x : Str) (h1 : s = c :: r) (h2 : s = x ++ [d])
    (hc : pyIsSpace c = false) (hd : pyIsSpace d = false) : strip s = s :=
  _root_.Pyxv.strip_eq_self h1 h2 hc hd

/-! ## `splitlines`, one boundary at a time; it undoes `"\n".join` -/

theorem splitlines_cons_noBreak (c : Char) (rest : Str) (hc : isLineBreak c = false) :
    splitlines (c :: rest) = (c :: (splitlines rest).headD []) :: (splitlines rest).tail := by
  rw [splitlines]
  · simp only [hc, Bool.false_eq_true, if_false]
    cases splitlines rest <;> rfl
  · intro r2 e _; rw [e] at hc; exact absurd hc (by decide)

theorem splitlines_noBreak (l : Str) (hne : l ≠ []) (h : ∀ c ∈ l, isLineBreak c = false) : splitlines l = [l] := by
  induction l with
  | nil => exact absurd rfl hne
  | cons c cs ih =>
    rw [splitlines_cons_noBreak c cs (h c (by simp))]
    cases cs with
    | nil => rfl
    | cons d ds => rw [ih (by simp) (fun x hx => h x (by simp [hx]))]; rfl

theorem splitlines_break_cons (d : Char) (rest : Str) (hd : isLineBreak d = true)
    (hcr : ¬ (d = '\r' ∧ ∃ r, rest = '\n' :: r)) : splitlines (d :: rest) = [] :: splitlines rest := by
  rw [splitlines]
  · simp [hd]
  · intro r2 e1 e2
    exact hcr ⟨e1, r2, e2⟩

theorem splitlines_append_head (l rest x : Str) (xs : List Str) (h : ∀ c ∈ l, isLineBreak c = false)
    (hr : splitlines rest = x :: xs) : splitlines (l ++ rest) = (l ++ x) :: xs := by
  induction l with
  | nil => exact hr
  | cons c cs ih =>
    rw [List.cons_append, splitlines_cons_noBreak c _ (h c (by simp)), ih (fun x hx => h x (by simp [hx]))]
    rfl

/-- a boundary character other than the `\r` of a `\r\n` pair ends the current line -/
theorem splitlines_line_break (l rest : Str) (d : Char) (h : ∀ c ∈ l, isLineBreak c = false)
    (hd : isLineBreak d = true) (hcr : ¬ (d = '\r' ∧ ∃ r, rest = '\n' :: r)) :
    splitlines (l ++ d :: rest) = l :: splitlines rest := by
  simpa using splitlines_append_head l (d :: rest) [] _ h (splitlines_break_cons d rest hd hcr)

/-- `\r\n` is ONE boundary -/
theorem splitlines_line_crlf (l rest : Str) (h : ∀ c ∈ l, isLineBreak c = false) :
    splitlines (l ++ '\r' :: '\n' :: rest) = l :: splitlines rest := by
  simpa using splitlines_append_head l _ [] _ h (by rw [splitlines])

/-- `"\n".join(lines).splitlines() == lines` -/
theorem splitlines_join (ls : List Str) (hne : ls ≠ []) (h : ∀ l ∈ ls, ∀ c ∈ l, isLineBreak c = false)
    (hlast : ls.getLast hne ≠ []) : splitlines (joinWith ['\n'] ls) = ls :=
  split_joinWith_last splitlines ['\n'] (fun l => ∀ c ∈ l, isLineBreak c = false)
    (fun l => l ≠ [] ∧ ∀ c ∈ l, isLineBreak c = false)
    (fun x z hx => by simpa using splitlines_line_break x z '\n' hx (by decide) (by simp))
    (fun x hx => splitlines_noBreak x hx.1 hx.2) ls hne h ⟨hlast, h _ (List.getLast_mem hne)⟩

/-! ## the two ends of the rewritten text

The first character is kept or becomes `$`, the last is kept or becomes `}`: `strip` looks at the ends only, and
`splitlines` must know that the text after a `\r` starts with `\n` after the rewriting iff it did before. -/

theorem flush_head (s0 : Str) (chain : List Str) : ∃ d r, flush (s0 :: chain) = d :: r ∧ (d = '/' ∨ d = '$') := by
  rcases flush_cases (s0 :: chain) with e | e
  · exact ⟨'/', _, e, .inl rfl⟩
  · exact ⟨'$', _, e, .inr rfl⟩

theorem subPaths_first (c : Char) (s : Str) : ∃ d r, subPaths (c :: s) = d :: r ∧ (d = c ∨ d = '$') := by
  by_cases hc : c = '/'
  · subst hc
    have : (∃ s0 ts, toks ('/' :: s) = .unit s0 :: ts) ∨ (∃ ts, toks ('/' :: s) = .ch '/' :: ts) := by
      simp only [toks, pushChar, slash_not_seg, Bool.false_eq_true, ↓reduceIte]
      split
      · exact .inl ⟨_, _, rfl⟩
      · exact .inr ⟨_, rfl⟩
    rcases this with ⟨s0, ts, h⟩ | ⟨ts, h⟩
    · obtain ⟨d, r, hf, hd⟩ := flush_head s0 (accOf ts).chain
      refine ⟨d, r ++ (accOf ts).out, ?_, hd⟩
      have : accOf (Tok.unit s0 :: ts) = ⟨s0 :: (accOf ts).chain, (accOf ts).out⟩ := rfl
      simp [subPaths, h, renderToks_def, this, hf]
    · refine ⟨'/', flush (accOf ts).chain ++ (accOf ts).out, ?_, .inl rfl⟩
      unfold subPaths
      rw [h, renderToks_eq_out_of_ch]
      rfl
  · obtain ⟨r, h⟩ := subPaths_head c s hc
    exact ⟨c, r, h, .inl rfl⟩

theorem toks_tail_units (a : List Tok) :
    (∃ us : List Str, a = us.map Tok.unit) ∨
    (∃ (a' : List Tok) (t : Tok) (us : List Str), a = a' ++ t :: us.map Tok.unit ∧ ∀ s, t ≠ .unit s) := by
  induction a with
  | nil => exact .inl ⟨[], rfl⟩
  | cons x rest ih =>
    rcases ih with ⟨us, rfl⟩ | ⟨a', t, us, rfl, ht⟩
    · cases x with
      | unit s => exact .inl ⟨s :: us, rfl⟩
      | run s => exact .inr ⟨[], .run s, us, rfl, by intro s'; simp⟩
      | ch c => exact .inr ⟨[], .ch c, us, rfl, by intro s'; simp⟩
    · exact .inr ⟨x :: a', t, us, rfl, ht⟩

theorem str_tail_seg (s : Str) :
    (∀ c ∈ s, isSeg c = true) ∨ (∃ y d w, s = y ++ d :: w ∧ isSeg d = false ∧ ∀ c ∈ w, isSeg c = true) := by
  obtain ⟨w, hs, _, hw⟩ := dropEnd_decomp isSeg s
  rcases List.eq_nil_or_concat (s.reverse.dropWhile isSeg).reverse with h | ⟨y, d, h⟩
  · exact .inl fun c hc => hw c (by rw [hs, h] at hc; exact hc)
  · rw [List.concat_eq_append] at h
    exact .inr ⟨y, d, w, hs.trans (by rw [h, List.append_assoc]; rfl), dropEnd_last_not isSeg h, hw⟩

theorem flush_last (us : List Str) (w' : Str) (c : Char) :
    ∃ z e, flush (us ++ [w' ++ [c]]) = z ++ [e] ∧ (e = c ∨ e = '}') := by
  rcases flush_cases (us ++ [w' ++ [c]]) with e | e
  · refine ⟨chainText us ++ '/' :: w', c, ?_, .inl rfl⟩
    rw [e, chainText_append]; simp [chainText]
  · exact ⟨'$' :: '{' :: (us ++ [w' ++ [c]]).getLastD [], '}', e, .inr rfl⟩

theorem renderToks_final_unit (a : List Tok) (w' : Str) (c : Char) :
    ∃ z e, renderToks (a ++ [.unit (w' ++ [c])]) = z ++ [e] ∧ (e = c ∨ e = '}') := by
  -- the units at the end are one chain, flushed as a whole; what stands before them is cut off
  have hunits : ∀ us : List Str, renderToks (us.map Tok.unit ++ [Tok.unit (w' ++ [c])]) = flush (us ++ [w' ++ [c]]) := by
    intro us
    simpa [show renderToks [] = [] from rfl] using renderToks_chain [] [] (us ++ [w' ++ [c]]) (.inl rfl) (.inl rfl)
  rcases toks_tail_units a with ⟨us, rfl⟩ | ⟨a', t, us, rfl, ht⟩
  · rw [hunits]; exact flush_last us w' c
  · obtain ⟨z, e, hf, he⟩ := flush_last us w' c
    rw [List.append_assoc, List.cons_append]
    cases t with
    | unit s => exact absurd rfl (ht s)
    | run s => exact ⟨renderToks a' ++ s ++ z, e, by rw [renderToks_run_split, hunits, hf]; simp, he⟩
    | ch d => exact ⟨renderToks a' ++ d :: z, e, by rw [renderToks_ch_split, hunits, hf]; simp, he⟩

theorem subPaths_last (x : Str) (c : Char) (hslash : isSeg '/' = false) :
    ∃ z e, subPaths (x ++ [c]) = z ++ [e] ∧ (e = c ∨ e = '}') := by
  by_cases hc : isSeg c = true
  · -- `c` ends a run of segment characters: the whole text, or what follows the last other character `d`
    rcases str_tail_seg (x ++ [c]) with hall | ⟨y, d, w, hs, hd, hw⟩
    · exact ⟨x, c, subPaths_allSeg _ hall, .inl rfl⟩
    · -- `w` ends with `c`
      have hwne : ∃ w', w = w' ++ [c] := by
        have hl : c = w.getLast?.getD d := by simpa [List.getLast?_cons] using congrArg List.getLast? hs
        cases hw' : w.getLast? with
        | none => rw [hw'] at hl; rw [← show c = d from hl, hc] at hd; cases hd
        | some z => rw [hw'] at hl; exact hl ▸ List.getLast?_eq_some_iff.1 hw'
      obtain ⟨w', rfl⟩ := hwne
      rw [hs]
      by_cases hd2 : d = '/'
      · -- the last token is a unit: it closes a chain, which is kept (ends in `c`) or replaced (ends in `}`)
        subst hd2
        have ht : toks (y ++ '/' :: (w' ++ [c])) = toks y ++ [.unit (w' ++ [c])] := by
          rw [toks_append_cons y '/' _ hslash]
          have := toks_unit (w' ++ [c]) [] (by simp) hw (by intro s t; simp [toks])
          simp only [List.append_nil] at this
          rw [this]
          simp [toks]
        unfold subPaths
        rw [ht]
        exact renderToks_final_unit _ w' c
      · refine ⟨subPaths y ++ d :: w', c, ?_, .inl rfl⟩
        rw [subPaths_split y _ d (by simp [isDelim, hd, hd2]), subPaths_allSeg _ hw]
        simp
  · -- `c` is a token of its own
    refine ⟨subPaths x, c, ?_, .inl rfl⟩
    unfold subPaths
    rw [toks_snoc_ch x c (by simpa using hc), renderToks_ch_split]
    simp [renderToks, flush, chainText]

/-! ## blanks around the text: `strip` commutes with the substitution -/

/-- the code points `str.strip()` removes -/
def spaceNats : List Nat :=
  [9, 10, 11, 12, 13, 28, 29, 30, 31, 32, 0x85, 0xA0, 0x1680, 0x2000, 0x2001, 0x2002, 0x2003, 0x2004, 0x2005, 0x2006,
   0x2007, 0x2008, 0x2009, 0x200A, 0x2028, 0x2029, 0x202F, 0x205F, 0x3000]

theorem spaceNats_ranges : spaceNats = List.range' 9 5 ++ List.range' 28 5 ++ [0x85, 0xA0, 0x1680] ++ List.range' 0x2000 11 ++
    [0x2028, 0x2029, 0x202F, 0x205F, 0x3000] := by decide +kernel

theorem pyIsSpace_iff_mem (c : Char) : pyIsSpace c = true ↔ c.toNat ∈ spaceNats := by
  rw [spaceNats_ranges]
  simp only [pyIsSpace, Bool.or_eq_true, Bool.and_eq_true, decide_eq_true_eq, beq_iff_eq, List.mem_append, List.mem_range'_1,
    List.mem_cons, List.not_mem_nil, or_false]
  omega

/-- table fact: no blank is a path-segment character of ERROR_MESSAGE_REGEX -/
theorem spaces_not_seg_table :
    spaceNats.all (fun n => !(Gen.c18SegRanges.any (fun r => r.1 ≤ n && n ≤ r.2))) = true := by decide +kernel

theorem space_not_seg (c : Char) (h : pyIsSpace c = true) : isSeg c = false := by
  have hm := (pyIsSpace_iff_mem c).1 h
  have ht := spaces_not_seg_table
  rw [List.all_eq_true] at ht
  have := ht c.toNat hm
  simpa [isSeg] using this

theorem space_delim (c : Char) (h : pyIsSpace c = true) : isDelim c = true := by
  have hs := space_not_seg c h
  have hne : c ≠ '/' := by
    intro e; rw [e] at h; exact absurd h (by decide)
  simp [isDelim, hs, hne]

theorem subPaths_blank_prefix (ws s : Str) (h : ∀ c ∈ ws, pyIsSpace c = true) : subPaths (ws ++ s) = ws ++ subPaths s := by
  induction ws with
  | nil => rfl
  | cons c cs ih =>
    have hc := space_delim c (h c (by simp))
    simp only [List.cons_append]
    rw [subPaths_delim_cons c _ hc, ih (fun x hx => h x (by simp [hx]))]

theorem subPaths_blank (ws : Str) (h : ∀ c ∈ ws, pyIsSpace c = true) : subPaths ws = ws := by
  have := subPaths_blank_prefix ws [] h
  simpa [subPaths_nil] using this

theorem subPaths_blank_suffix (s ws : Str) (h : ∀ c ∈ ws, pyIsSpace c = true) : subPaths (s ++ ws) = subPaths s ++ ws := by
  cases ws with
  | nil => simp
  | cons c cs =>
    rw [subPaths_split s cs c (space_delim c (h c (by simp))), subPaths_blank cs (fun x hx => h x (by simp [hx]))]

/-- blanks around a text stay where they are -/
theorem subPaths_pad (ws1 s ws2 : Str) (h1 : ∀ c ∈ ws1, pyIsSpace c = true) (h2 : ∀ c ∈ ws2, pyIsSpace c = true) :
    subPaths (ws1 ++ s ++ ws2) = ws1 ++ subPaths s ++ ws2 := by
  rw [List.append_assoc, subPaths_blank_prefix ws1 _ h1, subPaths_blank_suffix s ws2 h2, List.append_assoc]

/-- the instance of `Pyxv.strip_pad` (not this one) for a core that `strip` leaves alone -/
theorem strip_pad (ws1 b ws2 : Str) (c d : Char) (r x : Str) (h1 : ∀ c ∈ ws1, pyIsSpace c = true)
    (h2 : ∀ c ∈ ws2, pyIsSpace c = true) (hb1 : b = c :: r) (hb2 : b = x ++ [d])
    (hc : pyIsSpace c = false) (hd : pyIsSpace d = false) : strip (ws1 ++ b ++ ws2) = b :=
  (Pyxv.strip_pad ws1 b ws2 h1 h2).trans (strip_eq_self hb1 hb2 hc hd)

end Pyxv.Validator
