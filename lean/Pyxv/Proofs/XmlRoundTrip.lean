import Pyxv.Proofs.XmlLemmas
import Pyxv.Proofs.Literals
/-!
# XML writer/reader round trip: property theorems (`pretty_cosmetic*` is C15)

The escaping theorems are `takeText_enc` and `takeAttrVal_escAttr_norm` at one writer; the document theorems are
`parseDoc_render` (any pad strings) at the two layouts `Survey._to_ugly_xml` / `_to_pretty_xml` use.
`render_parses_compact_lax` / `render_parses_pretty_lax` are what C01, C05, C06 and the end-to-end theorems compose with.
-/
namespace Pyxv.Xml

/-! ## Escaping is inverted by the reader -/

theorem startsLt_of {rest : Str} (h : rest = [] ∨ ∃ r, rest = '<' :: r) : startsLt rest := by
  rcases h with rfl | ⟨r, rfl⟩ <;> simp [startsLt]

/-- text of XML characters, CR included, is read back with CR LF and lone CR turned into LF -/
theorem escText_takeText_norm (s rest : Str) (fuel : Nat)
    (hs : ∀ c ∈ s, isXmlChar c = true)
    (hrest : rest = [] ∨ ∃ r, rest = '<' :: r)
    (hfuel : (escText s).length < fuel) :
    takeText fuel (escText s ++ rest) = some (normEol s, rest) :=
  takeText_enc (Enc.escText (List.all_eq_true.mpr hs)) rest fuel (startsLt_of hrest) hfuel

#print axioms escText_takeText_norm

theorem escAttr_takeText_norm (s rest : Str) (fuel : Nat)
    (hs : ∀ c ∈ s, isXmlChar c = true)
    (hrest : rest = [] ∨ ∃ r, rest = '<' :: r)
    (hfuel : (escAttr s).length < fuel) :
    takeText fuel (escAttr s ++ rest) = some (normEol s, rest) :=
  takeText_enc (Enc.escAttr (List.all_eq_true.mpr hs)) rest fuel (startsLt_of hrest) hfuel

#print axioms escAttr_takeText_norm

/-- `escape_text_for_xml` (pyxform's `PatchedText`), without CR: read back exactly -/
theorem escText_takeText (s rest : Str) (fuel : Nat)
    (hs : ∀ c ∈ s, isXmlChar c = true ∧ c ≠ '\r')
    (hrest : rest = [] ∨ ∃ r, rest = '<' :: r)
    (hfuel : (escText s).length < fuel) :
    takeText fuel (escText s ++ rest) = some (s, rest) := by
  rw [escText_takeText_norm s rest fuel (fun c hc => (hs c hc).1) hrest hfuel,
    normEol_of_noCR s (fun c hc => (hs c hc).2)]

#print axioms escText_takeText

/-- the same for a stock `minidom.Text` (`_write_data`, which also escapes `"`) -/
theorem escAttr_takeText (s rest : Str) (fuel : Nat)
    (hs : ∀ c ∈ s, isXmlChar c = true ∧ c ≠ '\r')
    (hrest : rest = [] ∨ ∃ r, rest = '<' :: r)
    (hfuel : (escAttr s).length < fuel) :
    takeText fuel (escAttr s ++ rest) = some (s, rest) := by
  rw [escAttr_takeText_norm s rest fuel (fun c hc => (hs c hc).1) hrest hfuel,
    normEol_of_noCR s (fun c hc => (hs c hc).2)]

#print axioms escAttr_takeText

/-- an attribute value written by `_write_data` is read back exactly when it has no TAB/LF/CR -/
theorem escAttr_takeAttrVal (v rest : Str) (fuel : Nat)
    (hv : ∀ c ∈ v, isXmlChar c = true ∧ c ≠ '\t' ∧ c ≠ '\n' ∧ c ≠ '\r')
    (hfuel : (escAttr v).length < fuel) :
    takeAttrVal '"' fuel (escAttr v ++ '"' :: rest) = some (v, rest) := by
  have hv' : v.all attrCharOk = true := by
    simp only [List.all_eq_true, attrCharOk, Bool.and_eq_true, bne_iff_ne]
    intro c hc; have := hv c hc; exact ⟨⟨⟨this.1, this.2.1⟩, this.2.2.1⟩, this.2.2.2⟩
  exact takeAttrVal_escAttr v hv' rest fuel hfuel

#print axioms escAttr_takeAttrVal

/-- … and otherwise with TAB, LF, CR and CR LF replaced by one space each -/
theorem escAttr_takeAttrVal_norm (v rest : Str) (fuel : Nat)
    (hv : ∀ c ∈ v, isXmlChar c = true) (hfuel : (escAttr v).length < fuel) :
    takeAttrVal '"' fuel (escAttr v ++ '"' :: rest) = some (normAttrVal v, rest) :=
  takeAttrVal_escAttr_norm v (List.all_eq_true.mpr hv) rest fuel hfuel

#print axioms escAttr_takeAttrVal_norm

/-! ## The reader inverts the writer -/

/-- compact output, TAB/LF/CR allowed in attribute values and CR in text (minidom and pyxform write them raw): an XML
    reader reports `expectedLax t` -/
theorem render_parses_compact_lax (t : Node) (hwf : t.WFLax = true) (helem : isElem t = true) :
    parseDoc (renderDoc false t) = some (expectedLax t) := by
  have := parseDoc_render t hwf helem [] [] [] padOk_nil padOk_nil padOk_nil
  simpa [renderDoc, expectedLax, expected, norm_layout_compact] using this

#print axioms render_parses_compact_lax

theorem render_parses_pretty_lax (t : Node) (hwf : t.WFLax = true) (helem : isElem t = true) :
    parseDoc (renderDoc true t) = some (expectedPrettyLax t) := by
  have := parseDoc_render t hwf helem ['\n'] [' ', ' '] ['\n'] (by decide) (by decide) (by decide)
  simpa [renderDoc, expectedPrettyLax, expectedPretty] using this

#print axioms render_parses_pretty_lax

theorem expectedLax_of_noCR (t : Node) (h : noCR t = true) : expectedLax t = expected (normAttrs t) := by
  rw [expectedLax, expected, ← norm_layout_compact]
  exact normText_norm_layout _ [] [] [] padOk_nil padOk_nil padOk_nil (by rw [noCR_normAttrs]; exact h)

theorem expectedPrettyLax_of_noCR (t : Node) (h : noCR t = true) :
    expectedPrettyLax t = expectedPretty (normAttrs t) := by
  rw [expectedPrettyLax, expectedPretty]
  exact normText_norm_layout _ [] [' ', ' '] ['\n'] padOk_nil (by decide) (by decide)
    (by rw [noCR_normAttrs]; exact h)

theorem expectedLax_leaf (t : Str) (a : List (Str × Str)) :
    expectedLax (.elem t a []) = .elem t (normAttrList a) [] := by
  simp [expectedLax, expected, normAttrs, normAttrsKids, withSpaces, withSpacesKids, normNode, normKids, normText,
    normTextKids, mergeText]

/-- an XML reader applied to `Survey._to_ugly_xml` output reports `expected t`: the tree with the boundary spaces of the
    mixed-content rule, adjacent text merged and empty text dropped -/
theorem render_parses_compact (t : Node) (hwf : t.WF = true) (helem : isElem t = true) :
    parseDoc (renderDoc false t) = some (expected t) := by
  rw [render_parses_compact_lax t (WFLax_of_WF t hwf) helem, expectedLax_of_noCR t (noCR_of_WF t hwf),
    normAttrs_of_WF t hwf]

#print axioms render_parses_compact

/-- the same for `_to_pretty_xml` (indent two spaces, newline `\n`): `expectedPretty t` has the indentation text explicit -/
theorem render_parses_pretty (t : Node) (hwf : t.WF = true) (helem : isElem t = true) :
    parseDoc (renderDoc true t) = some (expectedPretty t) := by
  rw [render_parses_pretty_lax t (WFLax_of_WF t hwf) helem, expectedPrettyLax_of_noCR t (noCR_of_WF t hwf),
    normAttrs_of_WF t hwf]

#print axioms render_parses_pretty

/-! ## Pretty printing is cosmetic (C15) -/

theorem layout_cosmetic (t : Node) (hwf : t.WFLax = true) (helem : isElem t = true) (pre add nl pre' add' nl' : Str)
    (hpre : padOk pre = true) (hadd : padOk add = true) (hnl : padOk nl = true)
    (hpre' : padOk pre' = true) (hadd' : padOk add' = true) (hnl' : padOk nl' = true) :
    ∃ u u', parseDoc (xmlDecl ++ (pre ++ render [] add nl t)) = some u ∧
      parseDoc (xmlDecl ++ (pre' ++ render [] add' nl' t)) = some u' ∧ stripWs u = stripWs u' := by
  refine ⟨_, _, parseDoc_render t hwf helem pre add nl hpre hadd hnl,
    parseDoc_render t hwf helem pre' add' nl' hpre' hadd' hnl', ?_⟩
  rw [stripWs_normText, stripWs_normText, strip_layout _ [] add nl padOk_nil hadd hnl,
    strip_layout _ [] add' nl' padOk_nil hadd' hnl']

/-- C15: the pretty and the compact output of a (lax) well-formed element both parse, to trees that differ
    only in white-space-only text between elements (`stripWs`). -/
theorem pretty_cosmetic_lax (t : Node) (hwf : t.WFLax = true) (helem : isElem t = true) :
    Option.map stripWs (parseDoc (renderDoc true t)) = Option.map stripWs (parseDoc (renderDoc false t)) ∧
    (parseDoc (renderDoc true t)).isSome = true ∧ (parseDoc (renderDoc false t)).isSome = true := by
  obtain ⟨u, u', h1, h2, h3⟩ := layout_cosmetic t hwf helem ['\n'] [' ', ' '] ['\n'] [] [] []
    (by decide) (by decide) (by decide) rfl rfl rfl
  have e1 : renderDoc true t = xmlDecl ++ (['\n'] ++ render [] [' ', ' '] ['\n'] t) := by simp [renderDoc]
  have e2 : renderDoc false t = xmlDecl ++ ([] ++ render [] [] [] t) := by simp [renderDoc]
  rw [e1, e2, h1, h2]
  exact ⟨congrArg some h3, rfl, rfl⟩

#print axioms pretty_cosmetic_lax

theorem pretty_cosmetic (t : Node) (hwf : t.WF = true) (helem : isElem t = true) :
    Option.map stripWs (parseDoc (renderDoc true t)) = Option.map stripWs (parseDoc (renderDoc false t)) ∧
    (parseDoc (renderDoc true t)).isSome = true ∧ (parseDoc (renderDoc false t)).isSome = true :=
  pretty_cosmetic_lax t (WFLax_of_WF t hwf) helem

#print axioms pretty_cosmetic

/-! ## A test tree; the evaluations first turn the string literals into character lists (`toList_lit`) -/

/-- a non-trivial tree: namespaced tags, attributes containing `& " < > '`, mixed content with
    two `output` elements, nested element-only content, an empty text child, adjacent text nodes,
    a stock text node containing `"`, text containing `]]>`, white-space-only text next to an element -/
def exTree : Node :=
  .elem "h:html".toList [("xmlns:h".toList, "http://www.w3.org/1999/xhtml".toList), ("a".toList, "x & \"y\" <z> 'w'".toList)]
    [ .elem "h:head".toList []
        [ .elem "h:title".toList [] [.text false "T & ]]> <t>".toList],
          .elem "model".toList []
            [ .elem "instance".toList [] [ .elem "data".toList [("id".toList, "d".toList)] [.elem "q".toList [] [], .elem "r".toList [] []] ] ] ],
      .elem "h:body".toList []
        [ .elem "input".toList [("ref".toList, "/d/q".toList)]
            [ .elem "label".toList []
                [ .text false "A ".toList, .elem "output".toList [("value".toList, " /d/r ".toList)] [],
                  .text false " and ".toList, .text true "\"B\"".toList,
                  .elem "output".toList [("value".toList, "1 < 2".toList)] [] ] ],
          .elem "input".toList [] [ .elem "label".toList [] [.text false []] ],
          .elem "hint".toList [] [ .elem "output".toList [] [.elem "x".toList [] []], .text false "  ".toList ] ] ]


theorem exTree_WF : exTree.WF = true := by
  unfold exTree
  simp only [toList_lit rfl]
  decide +kernel
example : isElem exTree = true := rfl

example : parseDoc (renderDoc false exTree) = some (expected exTree) :=
  render_parses_compact exTree exTree_WF rfl
example : parseDoc (renderDoc true exTree) = some (expectedPretty exTree) :=
  render_parses_pretty exTree exTree_WF rfl

-- the conclusions checked independently by kernel evaluation of the reader
theorem exTree_compact : parseDoc (renderDoc false exTree) = some (expected exTree) := by
  unfold exTree
  simp only [toList_lit rfl]
  decide +kernel
theorem exTree_pretty : parseDoc (renderDoc true exTree) = some (expectedPretty exTree) := by
  unfold exTree
  simp only [toList_lit rfl]
  decide +kernel
theorem exTree_cosmetic :
    Option.map stripWs (parseDoc (renderDoc true exTree)) = Option.map stripWs (parseDoc (renderDoc false exTree)) := by
  rw [exTree_pretty, exTree_compact]
  unfold exTree
  simp only [toList_lit rfl]
  decide +kernel
-- the pretty and compact parses really differ before `stripWs`
theorem exTree_differs : parseDoc (renderDoc true exTree) ≠ parseDoc (renderDoc false exTree) := by
  rw [exTree_pretty, exTree_compact]
  unfold exTree
  simp only [toList_lit rfl]
  decide +kernel
#print axioms exTree_compact

-- `expected` on the mixed-content label (boundary spaces, merged text):
example :
    expected (.elem "label".toList []
      [ .text false "A ".toList, .elem "output".toList [("value".toList, " /d/r ".toList)] [],
        .text false " and ".toList, .text true "\"B\"".toList,
        .elem "output".toList [("value".toList, "1 < 2".toList)] [] ]) =
    .elem "label".toList []
      [ .text false " A ".toList, .elem "output".toList [("value".toList, " /d/r ".toList)] [],
        .text false " and \"B\"".toList,
        .elem "output".toList [("value".toList, "1 < 2".toList)] [], .text false " ".toList ] := by
  simp only [toList_lit rfl]
  decide +kernel
-- an empty text child disappears, `<label></label>` parses as an element without children:
example : renderDoc false (.elem "label".toList [] [.text false []]) = "<?xml version=\"1.0\"?><label></label>".toList := by
  simp only [toList_lit rfl]
  decide +kernel
example : expected (.elem "label".toList [] [.text false []]) = .elem "label".toList [] [] := by
  simp only [toList_lit rfl]
  decide +kernel
-- the hypotheses are needed: a CR in text is not read back, neither is a TAB in an attribute value
example : parseDoc (renderDoc false (.elem "a".toList [] [.text false "x\ry".toList])) ≠
    some (expected (.elem "a".toList [] [.text false "x\ry".toList])) := by
  simp only [toList_lit rfl]
  decide +kernel
example : parseDoc (renderDoc false (.elem "a".toList [("k".toList, "x\ty".toList)] [])) ≠
    some (expected (.elem "a".toList [("k".toList, "x\ty".toList)] [])) := by
  simp only [toList_lit rfl]
  decide +kernel

-- ... but the lax theorem says what is read instead (multi-line `jr:constraintMsg`):
def exLax : Node :=
  .elem "bind".toList [("nodeset".toList, "/d/q".toList), ("jr:constraintMsg".toList, "line 1\r\nline 2\n\tline 3\r".toList)] []
example : exLax.WF = false := by
  unfold exLax
  simp only [toList_lit rfl]
  decide +kernel
theorem exLax_WFLax : exLax.WFLax = true := by
  unfold exLax
  simp only [toList_lit rfl]
  decide +kernel
example : parseDoc (renderDoc false exLax) = some (expectedLax exLax) :=
  render_parses_compact_lax exLax exLax_WFLax rfl
example : expectedLax exLax = normAttrs exLax := by
  unfold exLax
  simp only [toList_lit rfl]
  decide +kernel
example : normAttrs exLax =
    .elem "bind".toList [("nodeset".toList, "/d/q".toList), ("jr:constraintMsg".toList, "line 1 line 2  line 3 ".toList)] [] := by
  unfold exLax
  simp only [toList_lit rfl]
  decide +kernel
example : parseDoc (renderDoc true exLax) = some (normAttrs exLax) := by
  unfold exLax
  simp only [toList_lit rfl]
  decide +kernel

-- CR in text: adjacent text nodes `"a\r"`, `"\nb"` are read as one text `"a\nb"`; a lone CR becomes LF
def exCR : Node := .elem "label".toList [] [.text false "a\r".toList, .text true "\nb\rc".toList]
theorem exCR_WFLax : exCR.WFLax = true := by
  unfold exCR
  simp only [toList_lit rfl]
  decide +kernel
example : parseDoc (renderDoc false exCR) = some (expectedLax exCR) :=
  render_parses_compact_lax exCR exCR_WFLax rfl
example : expectedLax exCR = .elem "label".toList [] [.text false " a\nb\nc ".toList] := by
  unfold exCR
  simp only [toList_lit rfl]
  decide +kernel
example : parseDoc (renderDoc true exCR) = some (.elem "label".toList [] [.text false " a\nb\nc ".toList]) := by
  unfold exCR
  simp only [toList_lit rfl]
  decide +kernel

#eval String.ofList (renderDoc true exTree)

end Pyxv.Xml
