import Pyxv.Proofs.RefsLemmas
import Pyxv.Proofs.Literals
/-!
# C03 — `${name}` references become XPaths that reach the named question's node

Theorems about `Pyxv.Refs.refFor` (= `Survey._var_repl_function`).  `resolve` is the segment-level XPath evaluation the
check applies to the implementation's output.  The only hypothesis on the survey is what `SurveyElement.validate`
enforces (`GoodNames`).
-/
namespace Pyxv.Refs
open Pyxv

/-- Whatever `_var_repl_function` emits for `${name}` in a cell of the element `c`
— absolute, relative (with or without `current()`), or last-saved — evaluated from `c`'s node it reaches
the node of *the* element called `name` (there is exactly one). -/
theorem ref_resolves (els : List Chain) (hv : ∀ t ∈ els, GoodNames t.path)
    (c : Chain) (hc : GoodNames c.path) (name : Str) (fl : Flags) (cur : Bool) (e : Emitted)
    (h : refFor els (some c) name fl = .ok cur e) :
    ∃ t, els.filter (named name) = [t] ∧ resolve c.path e = some t.path := by
  obtain ⟨t, huniq, ⟨-, rfl⟩ | ⟨c', steps, down, hc', -, -, hrel, -, rfl⟩⟩ := refFor_ok h
  · exact ⟨t, huniq, by split <;> rfl⟩
  · cases hc'
    refine ⟨t, huniq, ?_⟩
    have ht := mem_of_filter_eq_cons huniq
    obtain ⟨-, -, parts, hss, -, rfl⟩ := relativePath_eq_some.1 hrel
    -- the helper's path leads from `c` to `t` and ends in `t`'s name, so it is kept as the way down
    have hre := ssrp_resolves _ c.path t.path hc (hv t ht.1) _ _ hss
    rw [endsWith_pathStr parts name (hre.last ▸ named_path ht.2), if_pos rfl, resolve, if_pos hre.steps_le, hre.lands]

/-- without a context element (choice labels, media) the path is absolute -/
theorem ref_no_context_absolute (els : List Chain) (name : Str) (fl : Flags) (cur : Bool) (e : Emitted)
    (h : refFor els none name fl = .ok cur e) :
    ∃ t, els.filter (named name) = [t] ∧ cur = false ∧
      e = if fl.lastSaved then .lastSaved t.path else .abs t.path := by
  obtain ⟨t, ht, ⟨hcur, he⟩ | ⟨c, _, _, hc, _⟩⟩ := refFor_ok h
  · exact ⟨t, ht, hcur, he⟩
  · cases hc

/-- A result that is not relative is exactly the absolute path of the
named element — inside `instance('__last-saved')` iff the reference was `${last-saved#…}` — and carries no
`current()`.  Last-saved references and indexed-repeat name arguments are never relative. -/
theorem absolute_otherwise_correct (els : List Chain) (ctx : Option Chain) (name : Str) (fl : Flags)
    (cur : Bool) (e : Emitted) (h : refFor els ctx name fl = .ok cur e) :
    ∃ t, els.filter (named name) = [t] ∧
      ((fl.lastSaved = true ∨ fl.indexedArg = true ∨ ctx = none) → e.isRel = false) ∧
      (e.isRel = false → cur = false ∧ e = if fl.lastSaved then .lastSaved t.path else .abs t.path) ∧
      (e.isRel = true → cur = (fl.useCurrent || fl.inPredicate)) := by
  obtain ⟨t, huniq, ⟨hcur, he⟩ | ⟨c, steps, down, rfl, hls, hia, -, hcur, rfl⟩⟩ := refFor_ok h
  · have hrel : e.isRel = false := by rw [he]; split <;> rfl
    exact ⟨t, huniq, fun _ => hrel, fun _ => ⟨hcur, he⟩, fun hr => (by rw [hrel] at hr; cases hr)⟩
  · refine ⟨t, huniq, ?_, fun hr => (by cases hr), fun _ => hcur⟩
    rintro (h1 | h1 | h1)
    · rw [hls] at h1; cases h1
    · rw [hia] at h1; cases h1
    · cases h1

/-- A name that no element carries, or that several elements carry, is
rejected for every context and flag combination, and the error names it. -/
theorem unknown_or_ambiguous_rejected (els : List Chain) (ctx : Option Chain) (name : Str) (fl : Flags) :
    ((els.filter (named name)).length = 0 → refFor els ctx name fl = .unknown name) ∧
    (2 ≤ (els.filter (named name)).length → refFor els ctx name fl = .ambiguous name) := by
  rw [refFor_eq]
  rcases els.filter (named name) with _ | ⟨t, _ | ⟨u, r⟩⟩ <;> simp

/-- conversely: a conversion that succeeds found exactly one element -/
theorem ok_iff_unique (els : List Chain) (ctx : Option Chain) (name : Str) (fl : Flags) :
    (∃ cur e, refFor els ctx name fl = .ok cur e) ↔ (els.filter (named name)).length = 1 := by
  rw [refFor_eq]
  rcases els.filter (named name) with _ | ⟨t, _ | ⟨u, r⟩⟩
  · simp
  · simp only [List.length_cons, List.length_nil, Nat.zero_add, iff_true]
    split <;> exact ⟨_, _, rfl⟩
  · simp

end Pyxv.Refs

namespace Pyxv.Refs
open Pyxv

/-- `data{ repeat R { group abcde_r2 { t }, repeat r2 { repeat r3 { c } } }, t2, dup, g{dup} }` — the length-aligned
layout (F17 shape) plus an ambiguous name -/
def exTree : El :=
  .mk .group "data".toList [
    .mk .rep "R".toList [
      .mk .group "abcde_r2".toList [.mk .q "t".toList []],
      .mk .rep "r2".toList [.mk .rep "r3".toList [.mk .q "c".toList []]]],
    .mk .q "t2".toList [], .mk .q "dup".toList [], .mk .group "g".toList [.mk .q "dup".toList []]]

def exEls : List Chain := exTree.chains []
def exC : Chain := [("data".toList, .group), ("R".toList, .rep), ("r2".toList, .rep), ("r3".toList, .rep), ("c".toList, .q)]

example : exC ∈ exEls := by decide +kernel
example : refFor exEls (some exC) "t".toList {} = .ok false (.rel 3 ["abcde_r2".toList, "t".toList]) := by decide +kernel
example : resolve exC.path (.rel 3 ["abcde_r2".toList, "t".toList]) =
    some ["data".toList, "R".toList, "abcde_r2".toList, "t".toList] := by decide +kernel
example : refFor exEls (some exC) "t2".toList {} = .ok false (.abs ["data".toList, "t2".toList]) := by decide +kernel
example : refFor exEls (some exC) "t".toList { inPredicate := true } =
    .ok true (.rel 3 ["abcde_r2".toList, "t".toList]) := by decide +kernel
example : refFor exEls (some exC) "t".toList { lastSaved := true } =
    .ok false (.lastSaved ["data".toList, "R".toList, "abcde_r2".toList, "t".toList]) := by decide +kernel
example : refFor exEls (some exC) "t".toList { indexedArg := true } =
    .ok false (.abs ["data".toList, "R".toList, "abcde_r2".toList, "t".toList]) := by decide +kernel
example : refFor exEls (some exC) "nope".toList {} = .unknown "nope".toList := by decide +kernel
example : refFor exEls (some exC) "dup".toList {} = .ambiguous "dup".toList := by decide +kernel
example : (exEls.filter (named "dup".toList)).length = 2 := by decide +kernel
example : refFor exEls none "t".toList {} = .ok false (.abs ["data".toList, "R".toList, "abcde_r2".toList, "t".toList]) := by decide +kernel
/-- the target is the parent repeat of the referrer (F18 shape): the way down names it -/
example : refFor exEls (some exC) "r3".toList {} = .ok false (.rel 2 ["r3".toList]) := by decide +kernel
/-- `${data}` (the survey root) from a nested context: absolute -/
example : refFor exEls (some exC) "data".toList {} = .ok false (.abs ["data".toList]) := by decide +kernel
example : ∀ t ∈ exEls, GoodNames t.path := by decide +kernel

end Pyxv.Refs
