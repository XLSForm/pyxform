import Pyxv.Proofs.FormLemmas
import Pyxv.Model.Rows17
/-! `Section.validate` in its repaired order (`Pyxv.Rows17`) accepts exactly the trees that `Form.validate` accepts and
that have no childless section, so the characterisations of `Form.validate*` apply to trees accepted by `validate17`. -/
namespace Pyxv.Rows17
open Pyxv Pyxv.Form Pyxv.Rows

theorem liftDup_ok_iff (parent : Str) (kids : List Item) :
    liftDup parent kids = .ok () ↔ dupCheck parent kids = .ok () := by
  unfold liftDup
  cases dupCheck parent kids with
  | error e => exact ⟨(fun h => nomatch h), fun h => nomatch h⟩
  | ok u => exact ⟨fun _ => rfl, fun _ => rfl⟩

theorem noEmpty_sec (ct : Ctl) (n : Str) (b : Bool) (ks : List Item) :
    noEmpty (.sec ct n b ks) = (!ks.isEmpty && noEmptyL ks) := by
  cases ks with
  | nil => rfl
  | cons k ks => rw [noEmpty]; rfl

theorem validateItem17_sec (ct : Ctl) (n : Str) (b : Bool) (kids : List Item) (hne : kids ≠ []) :
    validateItem17 (.sec ct n b kids) =
      (match validateEach17 kids with | .error e => .error e | .ok () => liftDup n kids) := by
  cases kids with
  | nil => exact absurd rfl hne
  | cons k ks => rfl

/-- the error case of each equivalence below (`a` the check of `Rows17`, `p` no childless section, `b` the check of `Form`) -/
theorem not_ok_of_error {ε ε'} {a : Except ε Unit} {b : Except ε' Unit} {p : Prop} {e : ε}
    (hab : a = .ok () ↔ p ∧ b = .ok ()) (ha : a = .error e) (hp : p) : b ≠ .ok () :=
  fun hb => nomatch ha.symm.trans (hab.2 ⟨hp, hb⟩)

mutual
theorem validateItem17_ok_iff : ∀ it : Item,
    validateItem17 it = .ok () ↔ (noEmpty it = true ∧ validateItem it = .ok ())
  | .q d => ⟨fun _ => ⟨rfl, rfl⟩, fun _ => rfl⟩
  | .sec _ n _ [] => ⟨(fun h => nomatch h), fun h => nomatch h.1⟩
  | .sec _ n _ (k :: ks) => by
    have ih := validateEach17_ok_iff (k :: ks)
    rw [validateItem17, validateItem, noEmpty]
    cases hA : validateEach17 (k :: ks) with
    | error e =>
      refine ⟨(fun h => nomatch h), fun ⟨hn, hv⟩ => ?_⟩
      cases hB : validateEach (k :: ks) with
      | error e' => rw [hB] at hv; cases hv
      | ok u => exact absurd hB (not_ok_of_error ih hA hn)
    | ok u =>
      obtain ⟨hn, hB⟩ := ih.1 hA
      rw [hB]
      exact (liftDup_ok_iff n (k :: ks)).trans ⟨fun h => ⟨hn, h⟩, fun h => h.2⟩
theorem validateEach17_ok_iff : ∀ its : List Item,
    validateEach17 its = .ok () ↔ (noEmptyL its = true ∧ validateEach its = .ok ())
  | [] => ⟨fun _ => ⟨rfl, rfl⟩, fun _ => rfl⟩
  | k :: rest => by
    have ih := validateItem17_ok_iff k
    rw [validateEach17, validateEach, noEmptyL, Bool.and_eq_true]
    cases hA : validateItem17 k with
    | error e =>
      refine ⟨(fun h => nomatch h), fun ⟨hn, hv⟩ => ?_⟩
      cases hB : validateItem k with
      | error e' => rw [hB] at hv; cases hv
      | ok u => exact absurd hB (not_ok_of_error ih hA hn.1)
    | ok u =>
      obtain ⟨hn, hB⟩ := ih.1 hA
      rw [hB]
      exact (validateEach17_ok_iff rest).trans ⟨fun h => ⟨⟨hn, h.1⟩, h.2⟩, fun h => ⟨h.1.2, h.2⟩⟩
end

theorem validate17_ok_iff (root : Str) (kids : List Item) :
    validate17 root kids = .ok () ↔ (kids ≠ [] ∧ noEmptyL kids = true ∧ validate root kids = .ok ()) := by
  cases kids with
  | nil => exact ⟨(fun h => nomatch h), fun h => absurd rfl h.1⟩
  | cons k ks =>
    have h1 := validateEach17_ok_iff (k :: ks)
    have h2 := liftDup_ok_iff root (k :: ks)
    rw [validate17, validate, validateKids]
    cases hA : validateEach17 (k :: ks) with
    | error e =>
      refine ⟨(fun h => nomatch h), fun ⟨_, hn, hv⟩ => ?_⟩
      cases hB : validateEach (k :: ks) with
      | error e' => rw [hB] at hv; cases hv
      | ok u => exact absurd hB (not_ok_of_error h1 hA hn)
    | ok u =>
      obtain ⟨hn, hB⟩ := h1.1 hA
      rw [hB]
      cases hC : liftDup root (k :: ks) with
      | error e =>
        refine ⟨(fun h => nomatch h), fun ⟨_, _, hv⟩ => ?_⟩
        cases hD : dupCheck root (k :: ks) with
        | error e' => rw [hD] at hv; cases hv
        | ok u' => cases hC.symm.trans (h2.2 hD)
      | ok u' =>
        rw [h2.1 hC]
        cases firstDupStr [] (root :: sectionNamesL (k :: ks)) with
        | none => exact ⟨fun _ => ⟨List.cons_ne_nil _ _, hn, rfl⟩, fun _ => rfl⟩
        | some s => exact ⟨(fun h => nomatch h), fun h => nomatch h.2.2⟩

end Pyxv.Rows17
