import Pyxv.Proofs.C17Rows
import Pyxv.Proofs.Rows17Lemmas
/-!
# C17 — the empty-section check of `Section.validate` (finding F13: `TypeError` on a childless section)

A `begin … end` pair with nothing between them yields a section without children, and the validator rejects the tree
naming that section, for every context.  Conversely an accepted tree has no childless section.
-/
namespace Pyxv.C17
open Pyxv Pyxv.Form Pyxv.Rows Pyxv.Rows17

theorem empty_block_parses (pre post : List (Nat × RowK)) (ts us : List Item) (n n' : Nat) (ct : Ctl)
    (name : Str) (b : Bool) (h1 : parseRows pre = .ok ts) (h3 : parseRows post = .ok us) :
    parseRows (pre ++ (n, .begin_ ct name b none) :: (n', .end_ ct) :: post) = .ok (ts ++ .sec ct name b [] :: us) := by
  have := balanced_accepted pre [] post ts [] us n n' ct name b h1 (by rfl) h3
  simpa using this

/-- after siblings that validate, a childless section is rejected by name — whatever follows it -/
theorem empty_section_rejected (ct : Ctl) (name : Str) (b : Bool) (post : List Item) :
    ∀ (pre : List Item), validateEach17 pre = .ok () →
      validateEach17 (pre ++ .sec ct name b [] :: post) = .error (.emptySection name) := by
  intro pre
  induction pre with
  | nil => intro _; simp [validateEach17, validateItem17]
  | cons p ps ih =>
    intro h
    simp only [validateEach17] at h
    cases hp : validateItem17 p with
    | error e => rw [hp] at h; simp at h
    | ok u =>
      rw [hp] at h
      simp only [List.cons_append, validateEach17, hp]
      exact ih h

/-- … also one level down, hence at any depth: the enclosing section is rejected with the same error -/
theorem empty_section_rejected_nested (ct ct' : Ctl) (name outer : Str) (b b' : Bool) (pre post : List Item)
    (h : validateEach17 pre = .ok ()) :
    validateItem17 (.sec ct' outer b' (pre ++ .sec ct name b [] :: post)) = .error (.emptySection name) := by
  rw [validateItem17_sec _ _ _ _ (by simp), empty_section_rejected ct name b post pre h]

theorem validateItem17_ok_noEmpty : ∀ (it : Item), validateItem17 it = .ok () → noEmpty it = true :=
  fun it h => ((validateItem17_ok_iff it).1 h).1

theorem validateEach17_ok_noEmpty : ∀ (its : List Item), validateEach17 its = .ok () → noEmptyL its = true :=
  fun its h => ((validateEach17_ok_iff its).1 h).1

theorem validate17_ok_noEmpty (root : Str) (kids : List Item) (h : validate17 root kids = .ok ()) :
    kids ≠ [] ∧ noEmptyL kids = true :=
  let ⟨hne, hn, _⟩ := (validate17_ok_iff root kids).1 h
  ⟨hne, hn⟩

def cc (k v : String) : Str × Str := (k.toList, v.toList)
example : (match formOut17 "data".toList []
      [[cc "type" "text", cc "name" "a", cc "label" "A"], [cc "type" "begin group", cc "name" "g", cc "label" "G"],
       [cc "type" "end group"]] [] with
    | .tree (.emptySection n) => n == "g".toList | _ => false) = true := by decide +kernel
example : (match formOut17 "data".toList []
      [[cc "type" "begin repeat", cc "name" "r"], [cc "type" "begin group", cc "name" "g"], [cc "type" "end group"],
       [cc "type" "text", cc "name" "a"], [cc "type" "end repeat"]] [] with
    | .tree (.emptySection n) => n == "g".toList | _ => false) = true := by decide +kernel
example : (match formOut17 "data".toList []
      [[cc "type" "begin group", cc "name" "g"], [cc "type" "text", cc "name" "a"], [cc "type" "end group"]] [] with
    | .ok => true | _ => false) = true := by decide +kernel
example : (match formOut17 "data".toList [] [] [cc "omit_instanceID" "yes"] with
    | .tree (.emptySection n) => n == "data".toList | _ => false) = true := by decide +kernel

end Pyxv.C17
