import Pyxv.Proofs.C03Rel
/-!
# C03: the hole reader inverts the renderer

`parseHole` is what the check uses to read the implementation's output; `Emitted.render` (inside
`Out.text`) is what the model emits.  `parseHole (render e) = e` for every emitted path whose segments are
names without `/`, blanks, and different from `.` / `..`.
-/
namespace Pyxv.Refs
open Pyxv

/-- segments that can be read back: non-empty, no `/`, no Python whitespace, not `.` or `..` -/
def HoleNames (p : List Str) : Prop :=
  ∀ s ∈ p, s ≠ [] ∧ '/' ∉ s ∧ s ≠ dotdot ∧ s ≠ ['.'] ∧ ∀ c ∈ s, pyIsSpace c = false

instance (p : List Str) : Decidable (HoleNames p) := by unfold HoleNames; exact inferInstance

theorem HoleNames.good {p : List Str} (h : HoleNames p) : GoodNames p :=
  fun s hs => ⟨(h s hs).2.1, (h s hs).1⟩

theorem HoleNames.allGood {p : List Str} (h : HoleNames p) : p.all goodSeg = true := by
  rw [List.all_eq_true]
  intro s hs
  obtain ⟨h1, _, h3, h4, _⟩ := h s hs
  simp [goodSeg, h1, h3, h4]

theorem parseHole_pad {x : Str} (h : Tight x) : parseHole (' ' :: (x ++ [' '])) = parseHole x := by
  unfold parseHole
  simp only [show strip (' ' :: (x ++ [' '])) = x from h.strip_pad (pre := [' ']) (post := [' ']) (by decide) (by decide),
    h.strip_eq]

theorem joinWith_holeNames_last (pre : List Str) {p : List Str} (h : HoleNames p) (hp : p ≠ []) :
    ∃ z, (joinWith ['/'] (pre ++ p)).getLast? = some z ∧ pyIsSpace z = false := by
  obtain ⟨h1, -, -, -, h5⟩ := h _ (List.getLast_mem hp)
  obtain ⟨q, hq⟩ := joinWith_getLast ['/'] (pre ++ p) (p.getLast hp)
    (by rw [List.getLast?_append, List.getLast?_eq_some_getLast hp]; rfl)
  exact ⟨_, by rw [hq, List.getLast?_append, List.getLast?_eq_some_getLast h1]; rfl, h5 _ (List.getLast_mem h1)⟩

theorem parseAbs_pathStr (p : List Str) (hp : p ≠ []) (h : HoleNames p) : parseAbs (pathStr p) = some p := by
  unfold parseAbs
  rw [split_pathStr p hp h.good]
  cases p with
  | nil => contradiction
  | cons a r => simp [h.allGood]

theorem curTag_eq : curTag = 'c' :: "urrent()/".toList := by
  unfold curTag; rw [String.toList_ofList, String.toList_ofList]
theorem lsTag_eq : lsTag = 'i' :: "nstance('__last-saved')".toList := by
  unfold lsTag; rw [String.toList_ofList, String.toList_ofList]
theorem pathStr_cons (p : List Str) : pathStr p = '/' :: joinWith ['/'] p := rfl

theorem startsWith_curTag_ne (a : Char) (s : Str) (h : a ≠ 'c') : startsWith (a :: s) curTag = false := by
  rw [curTag_eq, startsWith, beq_false_of_ne h, Bool.false_and]
theorem startsWith_lsTag_ne (a : Char) (s : Str) (h : a ≠ 'i') : startsWith (a :: s) lsTag = false := by
  rw [lsTag_eq, startsWith, beq_false_of_ne h, Bool.false_and]

theorem tight_pathStr (p : List Str) (hp : p ≠ []) (h : HoleNames p) : Tight (pathStr p) := by
  obtain ⟨z, hjl, hsp⟩ := joinWith_holeNames_last [] h hp
  have hne : joinWith ['/'] p ≠ [] := by intro e; simp [e] at hjl
  exact .of_getLast (a := '/') rfl (by rw [pathStr_cons, List.getLast?_cons_of_ne_nil hne]; exact hjl) (by decide) hsp

theorem tight_lastSaved (p : List Str) (hp : p ≠ []) (h : HoleNames p) : Tight (lsTag ++ pathStr p) := by
  rw [lsTag_eq]
  exact (tight_pathStr p hp h).prepend 'i' _ (by decide)

theorem parse_render_abs (p : List Str) (hp : p ≠ []) (h : HoleNames p) :
    parseHole (Emitted.render (.abs p)) = some ⟨false, .abs p⟩ := by
  show parseHole (pathStr p) = _
  rw [parseHole, (tight_pathStr p hp h).strip_eq]
  simp only [pathStr_cons, startsWith_curTag_ne _ _ (show '/' ≠ 'c' by decide), parseCore,
    startsWith_lsTag_ne _ _ (show '/' ≠ 'i' by decide), Bool.false_eq_true, ↓reduceIte, List.head?_cons]
  rw [← pathStr_cons, parseAbs_pathStr p hp h]
  rfl

theorem parse_render_lastSaved (p : List Str) (hp : p ≠ []) (h : HoleNames p) :
    parseHole (Emitted.render (.lastSaved p)) = some ⟨false, .lastSaved p⟩ := by
  have h1 : startsWith (lsTag ++ pathStr p) curTag = false := by
    rw [lsTag_eq]; exact startsWith_curTag_ne _ _ (by decide)
  show parseHole (lsTag ++ pathStr p) = _
  rw [parseHole, (tight_lastSaved p hp h).strip_eq]
  simp only [h1, startsWith_append_self, parseCore, Bool.false_eq_true, ↓reduceIte, List.drop_left', parseAbs_pathStr p hp h]
  rfl

theorem countLeadingDotDot_replicate (k : Nat) (d : List Str) (hd : d.head? ≠ some dotdot) :
    countLeadingDotDot (List.replicate k dotdot ++ d) = k := by
  induction k with
  | zero =>
    cases d with
    | nil => rfl
    | cons a r =>
      have : a ≠ dotdot := fun e => hd (by simp [e])
      simp [countLeadingDotDot, this]
  | succ k ih => simp [List.replicate_succ, countLeadingDotDot, ih]

theorem render_rel_eq (k : Nat) (d : List Str) (hk : 0 < k) (hd : d ≠ []) :
    Emitted.render (.rel k d) = joinWith ['/'] (List.replicate k dotdot ++ d) := by
  have hr : List.replicate k dotdot ≠ [] := by
    cases k with
    | zero => omega
    | succ n => simp [List.replicate_succ]
  rw [joinWith_append _ _ _ hr hd]
  have hdd : "..".toList = dotdot := by rw [String.toList_ofList]; rfl
  show joinWith ['/'] (List.replicate k "..".toList) ++ pathStr d = _
  rw [hdd, pathStr_cons, List.append_assoc, List.singleton_append]

theorem rel_head (k : Nat) (d : List Str) (hk : 0 < k) (hd : d ≠ []) :
    ∃ r, Emitted.render (.rel k d) = '.' :: r := by
  rw [render_rel_eq k d hk hd]
  obtain ⟨n, rfl⟩ : ∃ n, k = n + 1 := ⟨k - 1, by omega⟩
  rw [List.replicate_succ, List.cons_append]
  exact joinWith_head ['/'] '.' ['.'] _

theorem rel_core (cur : Bool) (k : Nat) (d : List Str) (hk : 0 < k) (hd : d ≠ []) (h : HoleNames d) :
    parseCore cur (Emitted.render (.rel k d)) = some ⟨cur, .rel k d⟩ := by
  have hfree : ∀ s ∈ List.replicate k dotdot ++ d, '/' ∉ s := by
    intro s hs
    rcases List.mem_append.1 hs with h1 | h1
    · rw [List.eq_of_mem_replicate h1]; decide
    · exact (h s h1).2.1
  have hsplit : splitOnChar '/' (Emitted.render (.rel k d)) = List.replicate k dotdot ++ d := by
    rw [render_rel_eq k d hk hd]; exact split_join _ (by simp [hd]) hfree
  have hdh : d.head? ≠ some dotdot := by
    cases d with
    | nil => contradiction
    | cons a t => intro e; simp at e; exact (h a (by simp)).2.2.1 e
  have hne : d.isEmpty = false := by cases d <;> simp_all
  obtain ⟨r, hr⟩ := rel_head k d hk hd
  rw [hr] at hsplit ⊢
  simp [parseCore, startsWith_lsTag_ne _ _ (show '.' ≠ 'i' by decide), hsplit,
    countLeadingDotDot_replicate k d hdh, hne, h.allGood, hk]

theorem tight_rel (k : Nat) (d : List Str) (hk : 0 < k) (hd : d ≠ []) (h : HoleNames d) :
    Tight (Emitted.render (.rel k d)) := by
  obtain ⟨z, hz, hsp⟩ := joinWith_holeNames_last (List.replicate k dotdot) h hd
  obtain ⟨r, hr⟩ := rel_head k d hk hd
  exact .of_getLast (a := '.') hr (by rw [render_rel_eq k d hk hd]; exact hz) (by decide) hsp

theorem tight_rel_current (k : Nat) (d : List Str) (hk : 0 < k) (hd : d ≠ []) (h : HoleNames d) :
    Tight (curTag ++ Emitted.render (.rel k d)) := by
  rw [curTag_eq]
  exact (tight_rel k d hk hd h).prepend 'c' _ (by decide)

theorem parse_render_rel (k : Nat) (d : List Str) (hk : 0 < k) (hd : d ≠ []) (h : HoleNames d) :
    parseHole (Emitted.render (.rel k d)) = some ⟨false, .rel k d⟩ := by
  obtain ⟨r, hr⟩ := rel_head k d hk hd
  have h1 : startsWith (Emitted.render (.rel k d)) curTag = false := by
    rw [hr]; exact startsWith_curTag_ne _ _ (by decide)
  unfold parseHole
  simp only [(tight_rel k d hk hd h).strip_eq, h1, Bool.false_eq_true, ↓reduceIte]
  exact rel_core false k d hk hd h

theorem parse_render_rel_current (k : Nat) (d : List Str) (hk : 0 < k) (hd : d ≠ []) (h : HoleNames d) :
    parseHole (curTag ++ Emitted.render (.rel k d)) = some ⟨true, .rel k d⟩ := by
  unfold parseHole
  simp only [(tight_rel_current k d hk hd h).strip_eq, startsWith_append_self, ↓reduceIte, List.drop_left']
  exact rel_core true k d hk hd h

theorem text_false (e : Emitted) : Out.text (.ok false e) = some (' ' :: (e.render ++ [' '])) := rfl

theorem text_true (e : Emitted) : Out.text (.ok true e) = some (' ' :: ((curTag ++ e.render) ++ [' '])) := rfl

/-- The text the model emits for a reference (`Out.text`) is read back by the check's hole reader as exactly the emitted
path and anchor flag.  `hok` is a hypothesis on `e`: it is not derived from `e` being an answer of `refFor`. -/
theorem parse_text (cur : Bool) (e : Emitted) (t : Str) (ht : Out.text (.ok cur e) = some t)
    (hok : match e with
      | .abs p => p ≠ [] ∧ HoleNames p ∧ cur = false
      | .lastSaved p => p ≠ [] ∧ HoleNames p ∧ cur = false
      | .rel k d => 0 < k ∧ d ≠ [] ∧ HoleNames d) :
    parseHole t = some ⟨cur, e⟩ := by
  -- the path (with its anchor) is tight, so the blanks around it go and the four round trips apply
  cases e with
  | abs p =>
    obtain ⟨hp, hn, rfl⟩ := hok
    cases ht.symm.trans (text_false _)
    exact (parseHole_pad (tight_pathStr p hp hn)).trans (parse_render_abs p hp hn)
  | lastSaved p =>
    obtain ⟨hp, hn, rfl⟩ := hok
    cases ht.symm.trans (text_false _)
    exact (parseHole_pad (tight_lastSaved p hp hn)).trans (parse_render_lastSaved p hp hn)
  | rel k d =>
    obtain ⟨hk, hd, hn⟩ := hok
    cases cur with
    | false =>
      cases ht.symm.trans (text_false _)
      exact (parseHole_pad (tight_rel k d hk hd hn)).trans (parse_render_rel k d hk hd hn)
    | true =>
      cases ht.symm.trans (text_true _)
      exact (parseHole_pad (tight_rel_current k d hk hd hn)).trans (parse_render_rel_current k d hk hd hn)

example : HoleNames ["abcde_r2".toList, "t".toList] := by decide +kernel
example : parseHole " current()/../../../abcde_r2/t ".toList =
    some ⟨true, .rel 3 ["abcde_r2".toList, "t".toList]⟩ := by
  simp only [toList_lit rfl]
  decide +kernel
example : Out.text (.ok true (.rel 3 ["abcde_r2".toList, "t".toList])) = some " current()/../../../abcde_r2/t ".toList := by
  simp only [toList_lit rfl]
  decide +kernel

end Pyxv.Refs
