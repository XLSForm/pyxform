import Pyxv.Proofs.C01Valid
/-!
# C01: the `]`-freeness of the assembled document, reduced to its name sources

`noBrTree (assemble …)` — the complement of finding F5 that the main theorems carry — holds as soon as
the *user-supplied names of the header* (prefixes of the `namespaces` tokens, `attribute::` / settings
`instance::` column names, the form name) and the names inside the parts are `]`-free: every static
name of the frame is.
-/
namespace Pyxv.C01
open Pyxv Pyxv.Xml Pyxv.Asm Pyxv.Rows

/-- the header's user-supplied names contain no `]` -/
structure HeaderNoBr (f : Fields) : Prop where
  tokens : (nsPairs (nsString f)).all (fun kv => noBr kv.1) = true
  attrib : f.attrib.all (fun kv => noBr kv.1) = true
  instAttrs : f.instAttrs.all (fun kv => noBr kv.1) = true
  name : noBr f.name = true

theorem htmlAttrs_noBr (f : Fields) (h : (nsPairs (nsString f)).all (fun kv => noBr kv.1) = true) :
    (htmlAttrs f).all (fun kv => noBr kv.1) = true :=
  all_htmlAttrs _ f (by rw [nsmap_chars]; decide +kernel) fun kv hkv _ =>
    noBr_append _ _ (by decide) ((List.all_eq_true.mp h) kv hkv)

/-- every static name is `]`-free; the scope plays no part -/
theorem frameNames_noBr : FrameNames ["h".toList, "odk".toList] := frameNames rfl rfl

theorem rootAttrs_noBr (f : Fields) (H : HeaderNoBr f) : (rootAttrs f).all (fun kv => noBr kv.1) = true :=
  all_rootAttrs _ f H.instAttrs H.attrib frameNames_noBr.id.br (show noBr "xmlns".toList = true by decide)
    frameNames_noBr.version.br frameNames_noBr.pfx.br frameNames_noBr.delimiter.br

theorem noBrKids_append (L1 L2 : List Node) : noBrKids (L1 ++ L2) = (noBrKids L1 && noBrKids L2) :=
  and_of_eqns rfl (fun _ _ => rfl) L1 L2

theorem noBr_elem {t : Str} {a : List (Str × Str)} {ks : List Node} (ht : noBr t = true)
    (ha : a.all (fun kv => noBr kv.1) = true) (hk : noBrKids ks = true) : noBrTree (.elem t a ks) = true := by
  simp [noBrTree, ht, ha, hk]

theorem noBrKids_cons {k : Node} {ks : List Node} (h1 : noBrTree k = true) (h2 : noBrKids ks = true) :
    noBrKids (k :: ks) = true := by
  simp [noBrKids, h1, h2]

theorem noBrKids_nil : noBrKids [] = true := by simp [noBrKids]

theorem noBr_of_static {l : List (Str × Str)} {S : List Str} (h : l.all (fun kv => isStatic S kv.1) = true) :
    l.all (fun kv => noBr kv.1) = true :=
  all_imp (fun _ hx => (static_of hx).br) h

theorem tmplAttrs_noBr (t : Bool) : (Convert.tmplAttrs t).all (fun kv => noBr kv.1) = true := by cases t <;> decide

def noBrCheck : TreeCheck Unit where
  node _ n := noBrTree n
  kids _ ks := noBrKids ks
  elem _ t a := noBr t && a.all (fun kv => noBr kv.1)
  ext _ _ := ()
  ext_nil _ := rfl
  node_elem _ _ _ _ := rfl
  kids_nil _ := rfl
  kids_cons _ _ _ := rfl

theorem noBrCheck_elem {t : Str} {a : List (Str × Str)} (ht : noBr t = true) (ha : a.all (fun kv => noBr kv.1) = true) :
    noBrCheck.elem () t a = true := by
  show (noBr t && a.all _) = true
  rw [ht, ha]; rfl

/-- **the frame adds no `]`**: the assembled document is `]`-free when the header's names and the parts are -/
theorem noBrTree_assemble (f : Fields) (H : HeaderNoBr f) (itext : Option (List Node)) (rk rest bk : List Node)
    (hit : ∀ ks, itext = some ks → noBrKids ks = true) (hrk : noBrKids rk = true)
    (hrest : noBrKids rest = true) (hbk : noBrKids bk = true) :
    noBrTree (assemble f itext rk rest bk) = true := by
  have N := frameNames_noBr
  exact noBrCheck.assemble_ok (s := ()) rfl rfl rfl rfl rfl
    (noBrCheck_elem N.html.br (htmlAttrs_noBr f H.tokens)) (noBrCheck_elem N.head.br rfl)
    (noBrCheck_elem N.title.br rfl) rfl
    (noBrCheck_elem N.model.br (all_setAttrs _ _ [] rfl
      (noBr_of_static (modelAttrs_static f (S := ["odk".toList, "entities".toList]) rfl fun _ => rfl))))
    (noBrCheck_elem N.submission.br
      (all_setAttrs _ _ [] rfl (noBr_of_static (subAttrs_static f (S := ["orx".toList]) rfl))))
    (noBrCheck_elem N.itext.br rfl) hit (noBrCheck_elem N.inst.br rfl)
    (noBrCheck_elem H.name (rootAttrs_noBr f H)) hrk hrest
    (noBrCheck_elem N.body.br (noBr_of_static (bodyAttrs_static [] f.style))) hbk

#print axioms noBrTree_assemble

/-- C01 for an accepted document with the `]`-freeness stated on the name sources -/
theorem accepted_assembled_holds_names (f : Fields) (itext : Option (List Node)) (rk rest bk : List Node)
    (hv : validDoc [] (assemble f itext rk rest bk) = true) (H : HeaderNoBr f)
    (hit : ∀ ks, itext = some ks → noBrKids ks = true) (hrk : noBrKids rk = true)
    (hrest : noBrKids rest = true) (hbk : noBrKids bk = true)
    (hd : PartsDom itext rk rest bk) (pretty : Bool) :
    holds (renderDoc pretty (assemble f itext rk rest bk)) (normAttrVal f.idString) = true :=
  accepted_assembled_holds f itext rk rest bk hv (noBrTree_assemble f H itext rk rest bk hit hrk hrest hbk) hd pretty

example : HeaderNoBr exFields := by
  unfold exFields; repeat rw [String.toList_ofList]
  constructor <;> decide +kernel

end Pyxv.C01
