import Pyxv.Proofs.C01Tree
import Pyxv.Proofs.BindsLemmas
/-!
# C01: `]`-freeness of the `<bind>` / `<setvalue>` nodes of the model, reduced to the keys of the bind dicts

`bindNode` writes `nodeset` plus the keys of the element's bind dict (`Binds.rawBind`: type-table `bind` keys updated
with the row's `bind::X` header tokens); `attrsOfR` (`xml_bindings`) keeps the keys, `setvalueNode` has literal
attribute names.  So the nodes `bindNodesL` emits are `]`-free as soon as every decorated item's bind source has
`]`-free keys (`qOK`).  `C01BindsCells` pushes `qOK` down to the header cells.
-/
namespace Pyxv.ConvertP
open Pyxv Pyxv.Form Pyxv.Rows Pyxv.Xml Pyxv.Asm Pyxv.Convert Pyxv.C01

/-- no key of the dict contains `]` -/
def keysNoBr {β : Type} (d : List (Str × β)) : Bool := d.all fun kv => noBr kv.1

theorem keysNoBr_cons {β : Type} (kv : Str × β) (d : List (Str × β)) :
    keysNoBr (kv :: d) = (noBr kv.1 && keysNoBr d) := by simp [keysNoBr]

theorem keysNoBr_dictUpdate {β : Type} (u d : List (Str × β)) (hd : keysNoBr d = true) (hu : keysNoBr u = true) :
    keysNoBr (Binds.dictUpdate d u) = true := by
  rw [keysNoBr, List.all_eq_true] at *
  exact Binds.dictUpdate_eq .. ▸ AList.forall_mem_update hd hu

/-- `xml_bindings` keeps the keys of the bind dict -/
theorem attrsOfR_noBr (els : List Refs.Chain) (ctx : Refs.Chain) (path : Str) :
    ∀ (b : Binds.BindDict) (a : List (Str × Str)), attrsOfR els ctx path b = some a → keysNoBr b = true →
      a.all (fun kv => noBr kv.1) = true := by
  intro b a h hb
  rw [List.all_eq_true]
  intro kv hkv
  have hk := (Binds.attrStep_keys_sublist (attrsOfR_eq .. ▸ h)).subset (List.mem_map_of_mem (f := (·.1)) hkv)
  obtain ⟨kv', hkv', e⟩ := List.mem_map.mp hk
  exact e ▸ List.all_eq_true.mp hb kv' hkv'

/-- the bind source's dict has `]`-free keys -/
def qOK (q : Binds.Q) : Bool := keysNoBr (Binds.rawBind q)

theorem bindAttrs_noBr (els : List Refs.Chain) (ctx : Refs.Chain) (q : Binds.Q) (h : qOK q = true) :
    ((bindAttrs els ctx q).getD []).all (fun kv => noBr kv.1) = true := by
  cases ha : bindAttrs els ctx q with
  | none => rfl
  | some a => exact attrsOfR_noBr els ctx _ _ _ (bindAttrs_inv ha).2.1 h

/-- a `<bind>` whose dict has `]`-free keys is `]`-free (`nodeset` is a literal) -/
theorem noBr_bindNode (els : List Refs.Chain) (ctx : Refs.Chain) (q : Binds.Q) (h : qOK q = true) :
    noBrTree (bindNode els ctx q) = true := by
  unfold bindNode pyNode
  refine noBr_elem (by decide) (all_setAttrs _ _ [] rfl ?_) noBrKids_nil
  rw [List.all_cons, Bool.and_eq_true]
  exact ⟨(by decide : noBr (l!"nodeset") = true), bindAttrs_noBr els ctx q h⟩

theorem noBr_setvalueNode (els : List Refs.Chain) (ctx : Refs.Chain) (dv : Str) (b : Bool) :
    noBrTree (setvalueNode els ctx dv b) = true := by
  unfold setvalueNode pyNode
  refine noBr_elem (by decide) (all_setAttrs _ _ [] rfl ?_) noBrKids_nil
  simp only [List.all_cons, List.all_nil, Bool.and_true, Bool.and_eq_true]
  exact ⟨by decide, by decide, by decide⟩

mutual
/-- every decoration of the tree satisfies `P` -/
def diAll (P : Pay → Bool) : DItem → Bool
  | .q _ p => P p
  | .sec _ _ _ p ks => P p && diAllL P ks
def diAllL (P : Pay → Bool) : List DItem → Bool
  | [] => true
  | k :: ks => diAll P k && diAllL P ks
end

theorem diAllL_eq_heads (P : Pay → Bool) : ∀ ds, diAllL P ds = (dheadsL ds).all fun h => P h.2 :=
  all_eq_dheads _ (fun _ _ => rfl) (fun _ _ _ _ _ => rfl) rfl (fun _ _ => rfl)

theorem diAllL_append (P : Pay → Bool) (a b : List DItem) : diAllL P (a ++ b) = (diAllL P a && diAllL P b) :=
  and_of_eqns rfl (fun _ _ => rfl) a b

def bqOK (p : Pay) : Bool := qOK p.bq

theorem noBrKids_eq : ∀ l : List Node, noBrKids l = l.all noBrTree := eq_all_of_eqns rfl fun _ _ => rfl

/-- **the `<bind>` / `<setvalue>` nodes of the model contain no `]` when the bind dicts' keys contain none** -/
theorem noBrKids_bindNodesL (els : List Refs.Chain) : ∀ (pc : Refs.Chain) (ds : List DItem), diAllL bqOK ds = true →
    noBrKids (bindNodesL els pc ds) = true := by
  intro pc ds h
  rw [noBrKids_eq, List.all_eq_true]
  intro n hn
  rcases mem_bindNodesL els pc ds hn with ⟨ctx, x, hx, rfl⟩ | ⟨-, ctx, dv, rfl⟩
  · exact noBr_bindNode els ctx _ (List.all_eq_true.1 (diAllL_eq_heads bqOK ds ▸ h) x hx)
  · exact noBr_setvalueNode ..

theorem noBrKids_bindNodes (els : List Refs.Chain) : ∀ (pc : Refs.Chain) (d : DItem), diAll bqOK d = true →
    noBrKids (bindNodes els pc d) = true :=
  fun pc d h => by
    simpa only [bindNodesL, List.append_nil] using
      noBrKids_bindNodesL els pc [d] (by rw [diAllL, diAllL, h]; rfl)

#print axioms noBrKids_bindNodesL

end Pyxv.ConvertP
