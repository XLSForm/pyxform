import Pyxv.Proofs.FormHeads
/-! What C02, C04 and C17 need of `Pyxv.Form`: the begin/end stack machine against the recursive-descent reading and on blocks
    of rows; a listed node with an instance node resolves in the instance; the instance without templates is the tree; where
    the row loop's errors come from; name validation as Bool predicates on the tree. -/
namespace Pyxv.Form

def pushAll (ts : List Item) (st : St) : St := ts.foldl (fun s t => push t s) st

@[simp] theorem pushAll_nil (st : St) : pushAll [] st = st := rfl
@[simp] theorem pushAll_cons (t : Item) (ts : List Item) (st : St) :
    pushAll (t :: ts) st = pushAll ts (push t st) := rfl

theorem pushAll_append (a b : List Item) (st : St) :
    pushAll (a ++ b) st = pushAll b (pushAll a st) := by
  simp [pushAll, List.foldl_append]

theorem pushAll_frame (ts : List Item) (root : List Item) (f : Frame) (fs : List Frame) :
    pushAll ts (root, f :: fs) = (root, { f with kids := f.kids ++ ts } :: fs) := by
  induction ts generalizing f with
  | nil => simp
  | cons t ts ih => simp only [pushAll_cons, push]; rw [ih]; simp

theorem pushAll_root (ts root : List Item) : pushAll ts (root, []) = (root ++ ts, []) := by
  induction ts generalizing root with
  | nil => simp
  | cons t ts ih => simp only [pushAll_cons, push]; rw [ih]; simp

/-- the remaining input after `items` is empty or starts with an `end` row -/
def EndOrNil : List (Nat × RowK) → Prop
  | [] => True
  | (_, .end_ _) :: _ => True
  | _ => False

/-- how a result of `items` relates to the stack machine started in state `st`.  `unmatchedBegin` is apart: `items` reports it
    from inside the nested call when the input ends, while `run` ends with the frame open and `parseRows` reports it afterwards -/
def Agrees (st : St) (rows : List (Nat × RowK)) :
    Except Err (List Item × List (Nat × RowK)) → Prop
  | .ok (ts, rest) =>
      run st rows = run (pushAll ts st) rest ∧ EndOrNil rest ∧ rest.length ≤ rows.length
  | .error (.unmatchedBegin ct name) =>
      ∃ root f fs, run st rows = .ok (root, f :: fs) ∧ f.ct = ct ∧ f.name = name
  | .error e => run st rows = .error e

theorem agrees_error_of (st : St) (rows) (e : Err) (h : run st rows = .error e)
    (hne : ∀ ct name, e ≠ .unmatchedBegin ct name) : Agrees st rows (.error e) := by
  cases e <;> simp_all [Agrees]

theorem run_skip (st : St) (n : Nat) (rs) : run st ((n, .skip) :: rs) = run st rs := rfl

theorem run_bad (st : St) (n : Nat) (e : RowErr) (rs) : run st ((n, .bad e) :: rs) = .error (.row n e) := rfl

theorem run_q (st : St) (n : Nat) (d : QData) (o : Option QData) (rs) :
    run st ((n, .q d o) :: rs) = run (pushAll (.q d :: optItem o) st) rs := by
  cases o <;> rfl

theorem run_begin (st : St) (n : Nat) (ct : Ctl) (name : Str) (b : Bool) (h : Option QData) (rs) :
    run st ((n, .begin_ ct name b h) :: rs) =
      run ((pushAll (optItem h) st).1, ⟨ct, name, b, []⟩ :: (pushAll (optItem h) st).2) rs := by
  cases h <;> rfl

theorem run_end (root : List Item) (f : Frame) (fs : List Frame) (n : Nat) (ct : Ctl) (rs) :
    run (root, f :: fs) ((n, .end_ ct) :: rs) =
      if f.ct = ct then run (push (.sec f.ct f.name f.bind f.kids) (root, fs)) rs else .error (.unmatchedEnd n) := by
  by_cases h : f.ct = ct <;> simp [run, step, h]

theorem Agrees.prepend {st : St} {rows rows' rest : List (Nat × RowK)} (pre : List Item) {ts : List Item}
    (h : run st rows = run (pushAll pre st) rows') (hl : rows'.length ≤ rows.length)
    (ha : Agrees (pushAll pre st) rows' (.ok (ts, rest))) : Agrees st rows (.ok (pre ++ ts, rest)) := by
  obtain ⟨hr, he, hle⟩ := ha
  exact ⟨by rw [h, hr, pushAll_append], he, Nat.le_trans hle hl⟩

theorem Agrees.error_of_run_eq {st st' : St} {rows rows' : List (Nat × RowK)} {e : Err}
    (h : run st rows = run st' rows') (ha : Agrees st' rows' (.error e)) : Agrees st rows (.error e) := by
  cases e <;> simp only [Agrees, h] at ha ⊢ <;> exact ha

theorem run_items : ∀ (fuel : Nat) (rows : List (Nat × RowK)) (st : St),
    rows.length < fuel → Agrees st rows (items fuel rows) := by
  intro fuel
  induction fuel with
  | zero => intro rows st h; omega
  | succ f ih =>
    intro rows st hlen
    match rows with
    | [] => exact ⟨rfl, trivial, Nat.le_refl _⟩
    | (n, .end_ ct) :: rs => exact ⟨rfl, trivial, Nat.le_refl _⟩
    | (n, .bad e) :: rs => exact run_bad st n e rs
    | (n, .skip) :: rs =>
      have := ih rs st (Nat.lt_of_succ_lt_succ hlen)
      simp only [items]
      cases hres : items f rs with
      | ok p => rw [hres] at this; exact Agrees.prepend [] (run_skip ..) (Nat.le_succ _) this
      | error e => rw [hres] at this; exact Agrees.error_of_run_eq (run_skip ..) this
    | (n, .q d other) :: rs =>
      have := ih rs (pushAll (.q d :: optItem other) st) (Nat.lt_of_succ_lt_succ hlen)
      simp only [items]
      cases hres : items f rs with
      | ok p => rw [hres] at this; exact Agrees.prepend _ (run_q ..) (Nat.le_succ _) this
      | error e => rw [hres] at this; exact Agrees.error_of_run_eq (run_q ..) this
    | (n, .begin_ ct name bind helper) :: rs =>
      have hb := run_begin st n ct name bind helper rs
      generalize hst1 : pushAll (optItem helper) st = st1 at hb
      obtain ⟨root1, fs1⟩ := st1
      have := ih rs (root1, ⟨ct, name, bind, []⟩ :: fs1) (Nat.lt_of_succ_lt_succ hlen)
      simp only [items]
      cases hres : items f rs with
      | error e => rw [hres] at this; exact Agrees.error_of_run_eq hb this
      | ok p =>
        obtain ⟨kids, rest⟩ := p
        rw [hres] at this
        obtain ⟨hr, hend, hle⟩ := this
        rw [pushAll_frame] at hr
        -- `hb`, `hr`: the rows up to `rest` leave the frame of this `begin` open, with `kids` collected
        match rest, hend with
        | [], _ => exact ⟨root1, _, fs1, hb.trans hr, rfl, rfl⟩
        | (n', .end_ ct') :: rest', _ =>
          have he := run_end root1 ⟨ct, name, bind, [] ++ kids⟩ fs1 n' ct' rest'
          simp only
          by_cases hct : ct = ct'
          · subst hct
            rw [if_pos rfl] at he ⊢
            have hlen' : rest'.length < f := by simp only [List.length_cons] at hle hlen; omega
            have h2 := ih rest' (pushAll (optItem helper ++ [.sec ct name bind kids]) st) hlen'
            have hrun : run st ((n, .begin_ ct name bind helper) :: rs) =
                run (pushAll (optItem helper ++ [.sec ct name bind kids]) st) rest' := by
              rw [hb, hr, he, pushAll_append, hst1]; rfl
            have hl : rest'.length ≤ ((n, RowK.begin_ ct name bind helper) :: rs).length := by
              simp only [List.length_cons] at hle ⊢; omega
            cases hres2 : items f rest' with
            | error e => rw [hres2] at h2; exact Agrees.error_of_run_eq hrun h2
            | ok p2 =>
              rw [hres2] at h2
              have := Agrees.prepend _ hrun hl h2
              simpa [List.append_assoc] using this
          · rw [if_neg hct] at he ⊢
            exact (hb.trans hr).trans he

theorem run_skip_irrelevant (rows : List (Nat × RowK)) :
    ∀ st, run st (rows.filter notSkip) = run st rows := by
  induction rows with
  | nil => intro st; rfl
  | cons r rs ih =>
    intro st
    obtain ⟨n, k⟩ := r
    cases k with
    | skip => rw [List.filter_cons_of_neg (by simp [notSkip]), run_skip]; exact ih st
    | _ =>
      rw [List.filter_cons_of_pos rfl]
      simp only [run]
      split <;> simp [ih]

/-- the begin/end stack of `workbook_to_json` computes the recursive-descent reading: same tree, same error -/
theorem parseRows_eq_nest (rows : List (Nat × RowK)) : parseRows rows = nest rows := by
  have h := run_items (rows.length + 1) rows ([], []) (Nat.lt_succ_self _)
  unfold parseRows nest
  cases hres : items (rows.length + 1) rows with
  | ok p =>
    obtain ⟨ts, rest⟩ := p
    rw [hres] at h
    obtain ⟨hr, hend, _⟩ := h
    rw [hr, pushAll_root]
    match rest, hend with
    | [], _ => rfl
    | (n, .end_ ct) :: rs, _ => rfl
  | error e =>
    rw [hres] at h
    cases e with
    | unmatchedBegin ct name => obtain ⟨root, fr, fs, hr, rfl, rfl⟩ := h; rw [hr]
    | row n e | unmatchedEnd n | dupSibling a b | dupSection a | ambiguousRef a =>
      rw [show run ([], []) rows = _ from h]

theorem run_append (a b : List (Nat × RowK)) : ∀ st,
    run st (a ++ b) = (match run st a with | .ok st' => run st' b | .error e => .error e) := by
  induction a with
  | nil => intro st; simp [run]
  | cons r rs ih =>
    intro st
    obtain ⟨n, k⟩ := r
    simp only [List.cons_append, run]
    cases step st n k with
    | ok s1 => simp [ih]
    | error e => simp

theorem run_balanced (body : List (Nat × RowK)) (kids : List Item) (h : parseRows body = .ok kids) :
    ∀ st, run st body = .ok (pushAll kids st) := by
  intro st
  rw [parseRows_eq_nest] at h
  unfold nest at h
  have ha := run_items (body.length + 1) body st (by omega)
  cases hres : items (body.length + 1) body with
  | error e => rw [hres] at h; simp at h
  | ok p =>
    obtain ⟨ts, rest⟩ := p
    rw [hres] at h ha
    cases rest with
    | nil =>
      simp at h; subst h
      simp only [Agrees] at ha
      rw [ha.1]; simp [run]
    | cons r rs => obtain ⟨n, k⟩ := r; simp at h

theorem run_open_block (pre body rest : List (Nat × RowK)) (ts kids : List Item) (n : Nat) (ct : Ctl) (name : Str)
    (b : Bool) (hp : Option QData) (h1 : parseRows pre = .ok ts) (h2 : parseRows body = .ok kids) :
    run ([], []) (pre ++ (n, .begin_ ct name b hp) :: (body ++ rest)) =
      run (ts ++ optItem hp, [⟨ct, name, b, kids⟩]) rest := by
  rw [run_append, run_balanced pre ts h1]
  dsimp only
  rw [pushAll_root, run_begin, pushAll_root, run_append, run_balanced body kids h2, pushAll_frame]
  simp

/-! ## Reference closure (C02) -/

def QData.wf (d : QData) : Bool := (!d.bind || d.node) && (!d.control || d.node)

mutual
def Item.wf : Item → Bool
  | .q d => d.wf
  | .sec _ _ _ ks => wfL ks
def wfL : List Item → Bool
  | [] => true
  | k :: ks => k.wf && wfL ks
end

theorem resolvesIn_nil (ts : List NT) : resolvesIn ts [] = true := by
  cases ts <;> rfl

theorem resolvesIn_append (a b : List NT) (p : List Str) :
    resolvesIn (a ++ b) p = (resolvesIn a p || resolvesIn b p) := by
  cases p with
  | nil => simp [resolvesIn_nil]
  | cons s rest =>
    induction a with
    | nil => simp [resolvesIn]
    | cons t ts ih => simp [resolvesIn, ih, Bool.or_assoc]

theorem resolvesIn_append_left (a b : List NT) (p : List Str) (h : resolvesIn a p = true) :
    resolvesIn (a ++ b) p = true := by
  rw [resolvesIn_append, h, Bool.true_or]

theorem resolvesIn_append_right (a b : List NT) (p : List Str) (h : resolvesIn b p = true) :
    resolvesIn (a ++ b) p = true := by
  rw [resolvesIn_append, h, Bool.or_true]

theorem resolvesIn_head (n : Str) (tm : Bool) (ks ts : List NT) (rest : List Str)
    (h : resolvesIn ks rest = true) : resolvesIn (NT.node n tm ks :: ts) (n :: rest) = true := by
  simp [resolvesIn, resolvesNode, h]

theorem bindPathsL_prefix (pre : List Str) (its : List Item) :
    bindPathsL pre its = (bindPathsL [] its).map (pre ++ ·) := by
  rw [bindPathsL_eq_nodes, bindPathsL_eq_nodes, nodesL_prefix, List.flatMap_map, List.map_flatMap]
  congr 1; funext x
  by_cases h : x.2.bind <;> simp [bindAt, h]

theorem bindPaths_prefix (pre : List Str) (it : Item) :
    bindPaths pre it = (bindPaths [] it).map (pre ++ ·) := by
  simpa [bindPathsL] using bindPathsL_prefix pre [it]

theorem bodyPathsL_prefix (pre : List Str) (its : List Item) :
    bodyPathsL pre its = (bodyPathsL [] its).map (pre ++ ·) := by
  rw [bodyPathsL_eq_nodes, bodyPathsL_eq_nodes, nodesL_prefix, List.flatMap_map, List.map_flatMap]
  congr 1; funext x
  rcases x with ⟨p, d | ⟨ct, n, b⟩⟩
  · by_cases h : d.control <;> simp [ctlAt, h]
  · cases ct <;> simp [ctlAt]

theorem bodyPaths_prefix (pre : List Str) (it : Item) :
    bodyPaths pre it = (bodyPaths [] it).map (pre ++ ·) := by
  simpa [bodyPathsL] using bodyPathsL_prefix pre [it]

theorem instKids_unfold_q (app : Bool) (d : QData) (rest : List Item) :
    instKids app (.q d :: rest) = (if d.node then [NT.node d.name false []] else []) ++ instKids app rest := by
  simp [instKids]

theorem tmplKids_unfold_q (d : QData) (rest : List Item) :
    tmplKids (.q d :: rest) = (if d.node then [NT.node d.name false []] else []) ++ tmplKids rest := by
  simp [tmplKids]

/-- `instKids` / `tmplKids` on a section, written with the test `ct = .rep` -/
theorem instKids_sec (app : Bool) (ct : Ctl) (n : Str) (b : Bool) (ks rest : List Item) :
    instKids app (.sec ct n b ks :: rest) =
      if ct = .rep then
        (if app then NT.node n false (instKids true ks) :: instKids true rest
         else NT.node n true (tmplKids ks) :: NT.node n false (instKids true ks) :: instKids false rest)
      else NT.node n false (instKids app ks) :: instKids app rest := by
  cases ct <;> simp [instKids]

theorem instKids_append (app : Bool) (a b : List Item) : instKids app (a ++ b) = instKids app a ++ instKids app b := by
  induction a generalizing app with
  | nil => simp [instKids]
  | cons x xs ih =>
    cases x with
    | q d => simp [instKids, ih]
    | sec ct n bb ks =>
      cases ct <;> cases app <;> simp [instKids, ih]

theorem tmplKids_sec (ct : Ctl) (n : Str) (b : Bool) (ks rest : List Item) :
    tmplKids (.sec ct n b ks :: rest) =
      if ct = .rep then NT.node n true (tmplKids ks) :: tmplKids rest
      else NT.node n false (instKids false ks) :: tmplKids rest := by
  cases ct <;> simp [tmplKids]

/-- whatever the kind of section and the flag: its ordinary copy (under some flag), after at most a template, then the
    later siblings under the same flag -/
theorem instKids_sec_split (app : Bool) (ct : Ctl) (n : Str) (b : Bool) (ks rest : List Item) :
    ∃ front app', instKids app (.sec ct n b ks :: rest) =
      front ++ NT.node n false (instKids app' ks) :: instKids app rest := by
  rw [instKids_sec]
  by_cases hct : ct = .rep
  · cases app
    · exact ⟨[NT.node n true (tmplKids ks)], true, by simp [hct]⟩
    · exact ⟨[], true, by simp [hct]⟩
  · exact ⟨[], app, by simp [hct]⟩

theorem resolvesIn_of_mem_nodes (its : List Item) :
    ∀ x ∈ nodesL [] its, x.2.hasNode = true → ∀ app, resolvesIn (instKids app its) x.1 = true := by
  induction its using items_induct with
  | nil => intro x hx; cases hx
  | q d rest ih =>
    intro x hx hn app
    rw [instKids_unfold_q]
    rcases List.mem_cons.mp hx with rfl | hx
    · have hd : d.node = true := hn
      simp [hd, resolvesIn, resolvesNode]
    · exact resolvesIn_append_right _ _ _ (ih x hx hn app)
  | sec ct n b ks rest ihk ihr =>
    intro x hx hn app
    obtain ⟨front, app', e⟩ := instKids_sec_split app ct n b ks rest
    rw [e]
    refine resolvesIn_append_right _ _ _ ?_
    rw [nodesL, nodes, nodesL_prefix] at hx
    rcases List.mem_cons.mp hx with rfl | hx
    · exact resolvesIn_head _ _ _ _ _ (resolvesIn_nil _)
    rcases List.mem_append.mp hx with hx | hx
    · obtain ⟨y, hy, rfl⟩ := List.mem_map.mp hx
      exact resolvesIn_head _ _ _ _ _ (ihk y hy hn app')
    · exact resolvesIn_append_right [_] _ _ (ihr x hx hn app)

theorem resolves_of_mem_nodes (root : Str) (its : List Item) {x : List Str × Head} (hx : x ∈ nodesL [root] its)
    (hn : x.2.hasNode = true) : resolves (instanceOf root its) x.1 = true := by
  rw [nodesL_prefix] at hx
  obtain ⟨y, hy, rfl⟩ := List.mem_map.mp hx
  simp [resolves, instanceOf, resolvesNode, resolvesIn_of_mem_nodes its y hy hn false]

theorem QData.node_of_wf {d : QData} (hw : d.wf = true) (h : d.bind = true ∨ d.control = true) : d.node = true := by
  obtain ⟨name, bind, control, node, tag⟩ := d
  cases bind <;> cases control <;> cases node <;> simp_all [QData.wf]

def Head.wf : Head → Bool
  | .q d => d.wf
  | .sec _ _ _ => true

theorem wfL_eq_heads : ∀ its, wfL its = (headsL its).all Head.wf :=
  all_eq_heads _ (fun _ => rfl) (fun _ _ _ _ => by simp [Item.wf, Head.wf]) rfl (fun _ _ => rfl)

theorem wf_of_mem_nodes {its : List Item} (hw : wfL its = true) {pre : List Str} {x : List Str × Head}
    (hx : x ∈ nodesL pre its) : x.2.wf = true := by
  rw [wfL_eq_heads, ← nodesL_map_snd its pre, List.all_map, List.all_eq_true] at hw
  exact hw x hx

theorem Head.node_of_wf {h : Head} (hw : h.wf = true) {p : List Str}
    (hb : h.bind = true ∨ ctlAt (p, h) ≠ []) : h.hasNode = true := by
  cases h with
  | sec ct n b => rfl
  | q d =>
    refine QData.node_of_wf hw (hb.imp id fun hc => ?_)
    cases hd : d.control with
    | true => rfl
    | false => exact absurd (by simp [ctlAt, hd]) hc

/-! ## Shape of the instance (C04) -/

mutual
/-- the instance forest an item tree denotes when templates are ignored -/
def plain : Item → List NT
  | .q d => if d.node then [NT.node d.name false []] else []
  | .sec _ n _ ks => [NT.node n false (plainL ks)]
def plainL : List Item → List NT
  | [] => []
  | k :: ks => plain k ++ plainL ks
end

mutual
/-- drop `jr:template` nodes -/
def erase : NT → List NT
  | .node n tm ks => if tm then [] else [NT.node n false (eraseL ks)]
def eraseL : List NT → List NT
  | [] => []
  | t :: ts => erase t ++ eraseL ts
end

theorem eraseL_append (a b : List NT) : eraseL (a ++ b) = eraseL a ++ eraseL b :=
  append_of_eqns rfl (fun _ _ => rfl) a b

theorem erase_instKids (its : List Item) : ∀ app, eraseL (instKids app its) = plainL its := by
  induction its using items_induct with
  | nil => intro app; simp [instKids, eraseL, plainL]
  | q d rest ih =>
    intro app
    rw [instKids_unfold_q, eraseL_append, ih app]
    by_cases h : d.node = true <;> simp [h, eraseL, erase, plainL, plain]
  | sec ct n b ks rest hk hr =>
    intro app
    rw [instKids_sec]
    by_cases hct : ct = .rep
    · cases app <;> simp [hct, eraseL, erase, plainL, plain, hk, hr]
    · simp [hct, eraseL, erase, plainL, plain, hk, hr]

/-! ## Error location (C17) -/

theorem step_error (st : St) (n : Nat) (k : RowK) (e : Err) (h : step st n k = .error e) :
    (∃ re, k = .bad re ∧ e = .row n re) ∨ (∃ ct, k = .end_ ct ∧ e = .unmatchedEnd n) := by
  cases k with
  | skip => cases h
  | q d o => cases h
  | begin_ ct name b hp => cases h
  | bad re => cases h; exact .inl ⟨re, rfl, rfl⟩
  | end_ ct =>
    refine .inr ⟨ct, rfl, ?_⟩
    obtain ⟨root, _ | ⟨f, fs⟩⟩ := st
    · cases h; rfl
    · simp only [step] at h
      split at h <;> cases h
      rfl

theorem run_error_located (rows : List (Nat × RowK)) :
    ∀ st e, run st rows = .error e →
      (∃ n re, e = .row n re ∧ (n, RowK.bad re) ∈ rows) ∨
      (∃ n ct, e = .unmatchedEnd n ∧ (n, RowK.end_ ct) ∈ rows) := by
  induction rows with
  | nil => intro st e h; cases h
  | cons r rs ih =>
    intro st e h
    obtain ⟨n, k⟩ := r
    simp only [run] at h
    split at h
    · next st' _ =>
      rcases ih st' e h with ⟨n', re, h1, h2⟩ | ⟨n', ct, h1, h2⟩
      · exact .inl ⟨n', re, h1, List.mem_cons_of_mem _ h2⟩
      · exact .inr ⟨n', ct, h1, List.mem_cons_of_mem _ h2⟩
    · next e' hs =>
      cases h
      rcases step_error st n k e hs with ⟨re, rfl, rfl⟩ | ⟨ct, rfl, rfl⟩
      · exact .inl ⟨n, re, rfl, List.mem_cons_self⟩
      · exact .inr ⟨n, ct, rfl, List.mem_cons_self⟩

/-! ## Name validation (C02) -/

def lname (it : Item) : Str := lowerAscii it.name

theorem firstDup_none_iff (its : List Item) :
    ∀ seen, firstDup seen its = none ↔
      ((its.map lname).Nodup ∧ ∀ x ∈ its.map lname, x ∉ seen) := by
  induction its with
  | nil => intro seen; simp [firstDup]
  | cons it rest ih =>
    intro seen
    simp only [firstDup, List.map_cons, List.nodup_cons, List.mem_cons, forall_eq_or_imp, List.contains_iff_mem]
    change (if lname it ∈ seen then some (lname it) else firstDup (lname it :: seen) rest) = none ↔ _
    split
    · next hc => simp [hc]
    · next hc =>
      rw [ih]
      simp only [List.mem_cons, not_or]
      exact ⟨fun ⟨hn, h⟩ => ⟨⟨fun hm => (h _ hm).1 rfl, hn⟩, hc, fun x hx => (h x hx).2⟩,
        fun ⟨⟨hni, hn⟩, _, h⟩ => ⟨hn, fun x hx => ⟨fun e => hni (e ▸ hx), h x hx⟩⟩⟩

mutual
def sibsItem : Item → Bool
  | .q _ => true
  | .sec _ _ _ ks => decide ((ks.map lname).Nodup) && sibsEach ks
def sibsEach : List Item → Bool
  | [] => true
  | k :: rest => sibsItem k && sibsEach rest
end

/-- sibling names are pairwise different ignoring case, at every level -/
def sibsOK (its : List Item) : Bool := decide ((its.map lname).Nodup) && sibsEach its

theorem dupCheck_ok_iff (parent : Str) (kids : List Item) :
    dupCheck parent kids = .ok () ↔ (kids.map lname).Nodup := by
  have hfd := firstDup_none_iff kids []
  unfold dupCheck
  split <;> simp_all

/-! Each validator runs one check and, if it passes, the next: it passes iff both do. -/

mutual
theorem validateItem_ok_iff (it : Item) : validateItem it = .ok () ↔ sibsItem it = true := by
  cases it with
  | q d => simp [validateItem, sibsItem]
  | sec ct n b ks =>
    simp only [validateItem, sibsItem, Bool.and_eq_true, decide_eq_true_eq, ← validateEach_ok_iff ks,
      ← dupCheck_ok_iff n ks]
    split <;> simp_all
theorem validateEach_ok_iff (its : List Item) :
    validateEach its = .ok () ↔ sibsEach its = true := by
  cases its with
  | nil => simp [validateEach, sibsEach]
  | cons it rest =>
    simp only [validateEach, sibsEach, Bool.and_eq_true, ← validateItem_ok_iff it, ← validateEach_ok_iff rest]
    split <;> simp_all
end

theorem validateKids_ok_iff (parent : Str) (kids : List Item) :
    validateKids parent kids = .ok () ↔ sibsOK kids = true := by
  have h := validateItem_ok_iff (.sec .group parent false kids)
  rwa [validateItem, sibsItem] at h

theorem sibsOK_of_validate (root : Str) (kids : List Item) (h : validate root kids = .ok ()) : sibsOK kids = true := by
  unfold validate at h
  cases hk : validateKids root kids with
  | error e => rw [hk] at h; cases h
  | ok u => exact (validateKids_ok_iff root _).mp hk

theorem validateKids_error_of_not_sibsOK (parent : Str) (kids : List Item) (h : sibsOK kids = false) :
    ∃ e, validateKids parent kids = .error e := by
  cases hk : validateKids parent kids with
  | error e => exact ⟨e, rfl⟩
  | ok u => rw [(validateKids_ok_iff parent kids).mp hk] at h; cases h

end Pyxv.Form
