import Pyxv.Proofs.FormLemmas
import Pyxv.Model.Convert
/-! The instance name tree of the `Form` slice as DOM nodes, and "every name of the tree satisfies `p`". -/
namespace Pyxv.C01
open Pyxv Pyxv.Xml Pyxv.Form

mutual
def ntNode : NT → Node
  | .node n t ks => .elem n (if t then [("jr:template".toList, [])] else []) (ntNodes ks)
def ntNodes : List NT → List Node
  | [] => []
  | k :: ks => ntNode k :: ntNodes ks
end

mutual
/-- every name in the tree satisfies `p` -/
def ntAll (p : Str → Bool) : NT → Bool
  | .node n _ ks => p n && ntAllL p ks
def ntAllL (p : Str → Bool) : List NT → Bool
  | [] => true
  | k :: ks => ntAll p k && ntAllL p ks
end

theorem tmplAttrs_nodup (t : Bool) : attrKeysNodup (Convert.tmplAttrs t) = true := by cases t <;> decide

theorem ntAllL_append (p : Str → Bool) (a b : List NT) : ntAllL p (a ++ b) = (ntAllL p a && ntAllL p b) :=
  and_of_eqns rfl (fun _ _ => rfl) a b

theorem ntAllL_cons (p : Str → Bool) (k : NT) (ks : List NT) : ntAllL p (k :: ks) = (ntAll p k && ntAllL p ks) := by
  simp [ntAllL]

theorem ntAll_node (p : Str → Bool) (n : Str) (t : Bool) (ks : List NT) :
    ntAll p (.node n t ks) = (p n && ntAllL p ks) := by simp [ntAll]

theorem ntAllL_single {p : Str → Bool} {t : NT} (h : ntAll p t = true) : ntAllL p [t] = true := by
  rw [ntAllL_cons, h]; rfl

/-- induction on name forests: a tree in front, its children before its later siblings (read off the recursor of
    the nested inductive, as `Form.items_induct`) -/
theorem nts_induct {motive : List NT → Prop} (nil : motive [])
    (node : ∀ n t ks rest, motive ks → motive rest → motive (.node n t ks :: rest)) : ∀ ts, motive ts :=
  @NT.rec_1 (fun t => ∀ rest, motive rest → motive (t :: rest)) motive
    (fun n t ks ihk rest h => node n t ks rest ihk h) nil (fun _ ks ihk ihks => ihk ks ihks)

theorem ntAllL_true (ts : List NT) : ntAllL (fun _ => true) ts = true := by
  induction ts using nts_induct with
  | nil => rfl
  | node n t ks rest ihk ihr => rw [ntAllL_cons, ntAll_node, ihk, ihr]; rfl

theorem names_q {p : Str → Bool} {d : QData} {rest : List Item} (h : ∀ x ∈ allNamesL (.q d :: rest), p x = true) :
    ntAllL p (if d.node then [NT.node d.name false []] else []) = true ∧ ∀ x ∈ allNamesL rest, p x = true := by
  simp only [allNamesL, allNames, List.mem_append] at h
  refine ⟨?_, fun x hx => h x (Or.inr hx)⟩
  split
  · rename_i hn
    simp [ntAllL, ntAll, h d.name (Or.inl (by simp [hn]))]
  · rfl

theorem names_sec {p : Str → Bool} {k : Ctl} {n : Str} {b : Bool} {ks rest : List Item}
    (h : ∀ x ∈ allNamesL (.sec k n b ks :: rest), p x = true) :
    p n = true ∧ (∀ x ∈ allNamesL ks, p x = true) ∧ ∀ x ∈ allNamesL rest, p x = true := by
  simp only [allNamesL, allNames, List.mem_append, List.mem_cons] at h
  exact ⟨h n (Or.inl (Or.inl rfl)), fun x hx => h x (Or.inl (Or.inr hx)), fun x hx => h x (Or.inr hx)⟩

/-- the instance and template children only use names of the element tree -/
theorem ntAll_kids (p : Str → Bool) : ∀ (items : List Item), (∀ x ∈ allNamesL items, p x = true) →
    (∀ app, ntAllL p (instKids app items) = true) ∧ ntAllL p (tmplKids items) = true := by
  intro items
  induction items using items_induct with
  | nil => exact fun _ => ⟨fun _ => by simp [instKids, ntAllL], by simp [tmplKids, ntAllL]⟩
  | q d rest ih =>
    intro h
    obtain ⟨h1, h2⟩ := names_q h
    obtain ⟨rI, rT⟩ := ih h2
    exact ⟨fun app => by rw [instKids, ntAllL_append, h1, rI app]; rfl,
      by rw [tmplKids, ntAllL_append, h1, rT]; rfl⟩
  | sec k n b ks rest ihk ih =>
    intro h
    obtain ⟨hn, hks, hr⟩ := names_sec h
    obtain ⟨kI, kT⟩ := ihk hks
    obtain ⟨rI, rT⟩ := ih hr
    cases k
    case rep =>
      refine ⟨fun app => ?_, ?_⟩
      · cases app <;>
          simp only [instKids, Bool.false_eq_true, if_false, if_true, ntAllL_cons, ntAll_node, hn, Bool.true_and,
            Bool.and_eq_true]
        · exact ⟨kT, kI true, rI false⟩
        · exact ⟨kI true, rI true⟩
      · simp only [tmplKids, ntAllL_cons, ntAll_node, hn, Bool.true_and, Bool.and_eq_true]
        exact ⟨kT, rT⟩
    all_goals
      refine ⟨fun app => ?_, ?_⟩
      · simp only [instKids, ntAllL_cons, ntAll_node, hn, Bool.true_and, Bool.and_eq_true]
        exact ⟨kI app, rI app⟩
      · simp only [tmplKids, ntAllL_cons, ntAll_node, hn, Bool.true_and, Bool.and_eq_true]
        exact ⟨kI false, rT⟩

theorem ntAll_instKids (p : Str → Bool) (app : Bool) (items : List Item)
    (h : ∀ x ∈ allNamesL items, p x = true) : ntAllL p (instKids app items) = true :=
  (ntAll_kids p items h).1 app

theorem ntAll_tmplKids (p : Str → Bool) : ∀ (items : List Item),
    (∀ x ∈ allNamesL items, p x = true) → ntAllL p (tmplKids items) = true :=
  fun items h => (ntAll_kids p items h).2

end Pyxv.C01
