import Pyxv.Proofs.C03Text
import Pyxv.Proofs.C03Tree
/-!
# C03: the occurrence flags computed from the cell text, and `insert_xpaths` from the text alone
-/
namespace Pyxv.Refs
open Pyxv

theorem bracketDepth_append (d : Nat) (x y : Str) :
    bracketDepth d (x ++ y) = bracketDepth (bracketDepth d x) y := by
  induction x generalizing d with
  | nil => rfl
  | cons c r ih =>
    simp only [List.cons_append, bracketDepth]
    split
    · exact ih _
    · split <;> exact ih _

/-- text in which no `]` closes a bracket that was open before it (nested `[...]` pairs are fine) -/
def NoUnderflow (b : Str) : Prop := ∀ d, d + 1 ≤ bracketDepth (d + 1) b

/-- What counting bracket depth (63a5727, the repair of finding F44: `RE_BRACKET` ended at the first `]`) gives: in a
text that has an `instance(` path, an occurrence that follows an opening `[` and any text whose brackets are nested
pairs — however many — is inside the predicate as soon as a `]` follows it. -/
theorem in_predicate_after_nested (a b occ rest : Str) (hinst : reInstanceSearch (a ++ '[' :: b ++ occ ++ rest) = true)
    (hb : NoUnderflow b) (hrest : ']' ∈ rest) :
    inPredicateAt (a ++ '[' :: b ++ occ ++ rest) (a ++ '[' :: b).length ((a ++ '[' :: b).length + occ.length) = true := by
  unfold inPredicateAt
  have htake : (a ++ '[' :: b ++ occ ++ rest).take (a ++ '[' :: b).length = a ++ '[' :: b := by
    rw [List.append_assoc, List.take_left']
    rfl
  have hdrop : (a ++ '[' :: b ++ occ ++ rest).drop ((a ++ '[' :: b).length + occ.length) = rest := by
    have : (a ++ '[' :: b).length + occ.length = (a ++ '[' :: b ++ occ).length := by
      simp only [List.length_append, List.length_cons]
    rw [this, List.drop_left']
    rfl
  have hdepth : 0 < bracketDepth 0 (a ++ '[' :: b) := by
    rw [bracketDepth_append]
    have h1 : bracketDepth (bracketDepth 0 a) ('[' :: b) = bracketDepth (bracketDepth 0 a + 1) b := by
      simp [bracketDepth]
    rw [h1]
    have := hb (bracketDepth 0 a)
    omega
  rw [hinst, htake, hdrop]
  simp [hdepth, hrest]

/-- outside every bracket nothing is a predicate -/
theorem not_in_predicate_at_depth_zero (whole : Str) (start end_ : Nat)
    (h : bracketDepth 0 (whole.take start) = 0) : inPredicateAt whole start end_ = false := by
  simp [inPredicateAt, h]

theorem indexedRepeatMatches_nil (fuel pos : Nat) (s : Str) (h : isInfix indexedTag s = false) :
    indexedRepeatMatches fuel pos s = [] := by
  induction fuel generalizing pos s with
  | zero => rfl
  | succ fuel ih =>
    cases s with
    | nil => rfl
    | cons c r =>
      have h' : startsWith (c :: r) indexedTag = false ∧ isInfix indexedTag r = false := by
        simpa [isInfix] using h
      rw [indexedRepeatMatches]
      simp only [h'.1, Bool.false_eq_true, ↓reduceIte]
      exact ih _ _ h'.2

/-- In a cell without `indexed-repeat(` no occurrence is absolute-by-design
(`is_indexed_repeat` is false, `_is_return_relative_path` returns True for every ordinary reference). -/
theorem no_indexed_repeat_relative (whole : Str) (start end_ : Nat) (name : Str)
    (h : isInfix indexedTag whole = false) : indexedArgAt whole start end_ name = some false := by
  unfold indexedArgAt
  rw [indexedRepeatMatches_nil _ _ _ h]
  rfl

/-- `RE_FUNCTION_ARGS` has `re.DOTALL` (9564302): the indexed-repeat verdict exists for every cell text -/
theorem indexedArgAt_isSome (whole : Str) (start end_ : Nat) (name : Str) :
    (indexedArgAt whole start end_ name).isSome = true := by
  unfold indexedArgAt
  split
  · rfl
  · simp only
    split <;> rfl

theorem replAt_eq (els : List Chain) (ctx : Option Chain) (uc rp : Bool) (whole atStart rest : Str) (ls : Bool)
    (name : Str) : replAt els ctx uc rp whole atStart rest ls name =
      some (refFor els ctx name {
        lastSaved := ls
        indexedArg := (indexedArgAt whole (whole.length - atStart.length) (whole.length - rest.length) name).getD false
        inPredicate := inPredicateAt whole (whole.length - atStart.length) (whole.length - rest.length)
        useCurrent := uc, referenceParent := rp }) := by
  unfold replAt
  have h := indexedArgAt_isSome whole (whole.length - atStart.length) (whole.length - rest.length) name
  cases hia : indexedArgAt whole (whole.length - atStart.length) (whole.length - rest.length) name with
  | none => rw [hia] at h; cases h
  | some ia => simp only [hia]; rfl

/-- every occurrence gets a replacement verdict (`ok`, `unknown` or `ambiguous`) -/
theorem replAt_isSome (els : List Chain) (ctx : Option Chain) (uc rp : Bool) (whole atStart rest : Str) (ls : Bool)
    (name : Str) : (replAt els ctx uc rp whole atStart rest ls name).isSome = true := by
  rw [replAt_eq]; rfl

theorem dollar_notin_pathStr (p : List Str) (hp : ∀ s ∈ p, '$' ∉ s) : '$' ∉ pathStr p := by
  have := not_mem_joinWith (sep := ['/']) (by decide) hp
  intro h
  rw [pathStr] at h
  rcases List.mem_cons.1 h with h | h
  · exact absurd h (by decide)
  · exact this h

theorem dollar_notin_render (e : Emitted)
    (h : match e with
      | .abs p => ∀ s ∈ p, '$' ∉ s
      | .lastSaved p => ∀ s ∈ p, '$' ∉ s
      | .rel _ d => ∀ s ∈ d, '$' ∉ s) : '$' ∉ e.render := by
  cases e with
  | abs p => exact dollar_notin_pathStr p h
  | lastSaved p =>
    show '$' ∉ lsTag ++ pathStr p
    have hl : '$' ∉ lsTag := by unfold lsTag; rw [String.toList_ofList]; decide
    intro hm
    rcases List.mem_append.1 hm with hm | hm
    · exact hl hm
    · exact dollar_notin_pathStr p h hm
  | rel k d =>
    show '$' ∉ joinWith ['/'] (List.replicate k "..".toList) ++ pathStr d
    rw [List.mem_append, not_or]
    refine ⟨not_mem_joinWith (by decide) ?_, dollar_notin_pathStr d h⟩
    intro s hs
    rw [List.eq_of_mem_replicate hs, String.toList_ofList]; decide

/-- the text emitted for a reference contains no `$` when no element name does -/
theorem dollar_notin_text (els : List Chain) (hv : ∀ t ∈ els, GoodNames t.path) (hd : ∀ t ∈ els, ∀ s ∈ t.path, '$' ∉ s)
    (ctx : Option Chain) (hc : ∀ c, ctx = some c → GoodNames c.path) (name : Str) (fl : Flags) (v : Str)
    (h : (refFor els ctx name fl).text = some v) : '$' ∉ v := by
  obtain ⟨cur, e, hr, rfl⟩ := Out.text_eq_some h
  have hren : '$' ∉ e.render := by
    apply dollar_notin_render
    obtain ⟨t, ht, hcase⟩ := refFor_ok hr
    have htm : t ∈ els := (mem_of_filter_eq_cons ht).1
    rcases hcase with ⟨-, rfl⟩ | ⟨c, steps, down, rfl, -, -, -, -, rfl⟩
    · cases fl.lastSaved <;> exact hd t htm
    · -- the way down is the tail of the target's own path
      obtain ⟨t', ht', hres⟩ := ref_resolves els hv c (hc c rfl) name fl _ _ hr
      obtain rfl : t = t' := by simpa using ht.symm.trans ht'
      simp only [resolve] at hres
      split at hres
      · simp only [Option.some.injEq] at hres
        intro s hs
        exact hd t htm s (by rw [← hres]; exact List.mem_append_right _ hs)
      · cases hres
  have hcur : '$' ∉ (if cur = true then "current()/".toList else []) := by
    rw [String.toList_ofList]; cases cur <;> decide
  simp only [List.cons_append, List.mem_cons, List.mem_append, not_or]
  exact ⟨by decide, ⟨hcur, hren⟩, by decide, by simp⟩

/-- `Survey.insert_xpaths` computed from the cell text alone: if every `${` of the cell opens a reference and the call
succeeds, no `${` is left in the result. -/
theorem insert_xpaths_no_token (els : List Chain) (hv : ∀ t ∈ els, GoodNames t.path)
    (hd : ∀ t ∈ els, ∀ s ∈ t.path, '$' ∉ s) (ctx : Option Chain) (hc : ∀ c, ctx = some c → GoodNames c.path)
    (uc rp : Bool) (whole out : Str) (hclosed : refsClosed (whole.length + 1) whole = true)
    (h : insertXpathsText els ctx uc rp whole = some out) : isInfix tok out = false := by
  refine (no_ref_survives _ ?_ _ whole out hclosed h).1
  intro a b ls n v hv'
  simp only [replAt_eq] at hv'
  exact ⟨dollar_notin_text els hv hd ctx hc n _ v hv',
    refFor_goodRepl els ctx { indexedArg := _, inPredicate := _, useCurrent := uc, referenceParent := rp } n ls v hv'⟩

/-- From the cell text alone: in a cell without `indexed-repeat(`, a plain `${name}` whose target's innermost enclosing
repeat also encloses the referrer gets a relative path, anchored with `current()` exactly when the call site asks for it
or the occurrence sits in an instance predicate. -/
theorem relative_when_enclosed_text (tree : El) (hwf : tree.WF) (hroot : tree.kind ≠ .rep)
    (c t : Chain) (hc : c ∈ tree.chains []) (name : Str)
    (hlook : (tree.chains []).filter (named name) = [t])
    (r : Nat) (hrt : r < t.length) (hrc : r < c.length)
    (hrep : Chain.isRep (t.take r) = true)
    (hinner : ∀ j, r < j → j < t.length → Chain.isRep (t.take j) = false)
    (henc : c.take r = t.take r)
    (uc rp : Bool) (whole atStart rest : Str) (hir : isInfix indexedTag whole = false) :
    ∃ k d, replAt (tree.chains []) (some c) uc rp whole atStart rest false name =
      some (.ok (uc || inPredicateAt whole (whole.length - atStart.length) (whole.length - rest.length)) (.rel k d)) := by
  rw [replAt_eq, no_indexed_repeat_relative whole _ _ name hir]
  obtain ⟨k, d, h⟩ := relative_when_enclosed_tree tree hwf hroot c t hc name
    { lastSaved := false, indexedArg := false,
      inPredicate := inPredicateAt whole (whole.length - atStart.length) (whole.length - rest.length),
      useCurrent := uc, referenceParent := rp } hlook r hrt hrc hrep hinner henc rfl rfl
  exact ⟨k, d, congrArg some h⟩

/-- F44's shape: the second reference follows a nested `[...]` -/
example : inPredicateAt "instance('l')/root/item[name = instance('l')/root/item[name = ${a}]/label and label = ${b}]/label".toList
    85 89 = true := by rw [String.toList_ofList]; decide +kernel
example : NoUnderflow "name = instance('l')/root/item[name = ${a}]/label and label = ".toList := by
  rw [String.toList_ofList]; intro d; simp [bracketDepth]
example : inPredicateAt "${a} + instance('l')/root/item[name = 1]/label".toList 0 4 = false := by rw [String.toList_ofList]; decide +kernel
/-- F40's shape: a reference after two indexed-repeat( calls is an ordinary one -/
example : indexedArgAt "indexed-repeat(${a}, ${R}, 1) + indexed-repeat(${a}, ${R}, 2) + ${b}".toList 64 68 "b".toList =
    some false := by
  simp only [toList_lit rfl]
  decide +kernel
example : indexedArgAt "indexed-repeat(${a}, ${R}, ${b})".toList 15 19 "a".toList = some true := by
  simp only [toList_lit rfl]
  decide +kernel
/-- arguments spread over several lines (the shape of C06's F46) -/
example : indexedArgAt "indexed-repeat(${a},\n ${R},\n ${b})".toList 29 33 "b".toList = some false := by
  simp only [toList_lit rfl]
  decide +kernel
example : indexedArgAt "indexed-repeat(${a}, ${R}, ${b})".toList 27 31 "b".toList = some false := by
  simp only [toList_lit rfl]
  decide +kernel
example : insertXpathsText exEls (some exC) false false
    "instance('l')/root/item[name = ${t}]/label + indexed-repeat(${t}, ${R}, ${c}) + ${last-saved#t2}".toList =
    some ("instance('l')/root/item[name =  current()/../../../abcde_r2/t ]/label + " ++
      "indexed-repeat( /data/R/abcde_r2/t ,  /data/R ,  ../c ) +  instance('__last-saved')/data/t2 ").toList := by
  simp only [String.toList_append, toList_lit rfl]
  decide +kernel
example : refsClosed 200 "instance('l')/root/item[name = ${t}]/label + ${t2}".toList = true := by rw [String.toList_ofList]; decide +kernel

end Pyxv.Refs
