import Pyxv.Model.ToJson
import Pyxv.Proofs.JValLemmas
import Pyxv.Proofs.BaseLemmas
/-!
# `to_json_dict` / reload at slot level: helper lemmas

A dump is the listing of a partial function over a key list (`listing`): `ownDump` is one (`ownDump_eq_listing`), what
the classes put back is one, and so `dump ∘ load` of one level keeps at each key a function of what the dict holds
there; it is idempotent when that function is (`listing_idem`).
-/
namespace Pyxv.ToJson
open Pyxv Pyxv.JV

/-- what survives a dump: not deleted and truthy -/
def keeps (del : List Str) (kv : Str × J) : Bool := !del.contains kv.1 && truthy kv.2

theorem ownDump_eq_filter (del : List Str) (slots : Dict) : ownDump del slots = slots.filter (keeps del) := by
  simp only [ownDump, dropFalsy, delKeys, List.filter_filter]
  congr 1
  funext kv
  simp [keeps, Bool.and_comm]

theorem mem_keys_of_lookup (k : Str) (d : Dict) (v : J) (h : lookup k d = some v) : k ∈ d.map Prod.fst :=
  List.mem_map.mpr ⟨(k, v), lookup_mem h, rfl⟩

theorem keys_filter_subset {α : Type} (p : Str × α → Bool) (d : List (Str × α)) :
    ∀ k ∈ (d.filter p).map Prod.fst, k ∈ d.map Prod.fst :=
  fun _ hk => (List.filter_sublist.map Prod.fst).subset hk

theorem nodup_keys_filter {α : Type} (p : Str × α → Bool) {d : List (Str × α)} (h : (d.map Prod.fst).Nodup) :
    ((d.filter p).map Prod.fst).Nodup :=
  List.Pairwise.sublist (List.filter_sublist.map Prod.fst) h

theorem restoreExtra_fresh (extra base : Dict) (hn : (extra.map Prod.fst).Nodup)
    (hd : ∀ k ∈ extra.map Prod.fst, k ∉ base.map Prod.fst) :
    restoreExtra extra base = base ++ extra.filter fun kv => truthy kv.2 := by
  induction extra generalizing base with
  | nil => simp [restoreExtra]
  | cons kv rest ih =>
    cases kv with
    | mk k v =>
      simp only [List.map_cons, List.nodup_cons] at hn
      have hk : k ∉ base.map Prod.fst := hd k (by simp)
      have hc : (base.map Prod.fst).contains k = false := by simpa using hk
      by_cases ht : truthy v = true
      · have := ih (base ++ [(k, v)]) hn.2 (AList.fresh_snoc v hn.1 hd)
        have hcond : (truthy v && !(base.map Prod.fst).contains k) = true := by rw [ht, hc]; rfl
        rw [restoreExtra, if_pos hcond, this]
        simp [List.filter, ht]
      · have := ih base hn.2 (fun k' hk' => hd k' (by simp [hk']))
        have hcond : ¬ (truthy v && !(base.map Prod.fst).contains k) = true := by simp [ht]
        rw [restoreExtra, if_neg hcond, this]
        simp [List.filter, ht]

theorem ownDump_keys_subset (del : List Str) (slots : Dict) :
    ∀ k ∈ (ownDump del slots).map Prod.fst, k ∈ slots.map Prod.fst := by
  rw [ownDump_eq_filter]
  exact keys_filter_subset _ _

theorem nodup_keys_ownDump (del : List Str) (slots : Dict) (h : (slots.map Prod.fst).Nodup) :
    ((ownDump del slots).map Prod.fst).Nodup := by
  rw [ownDump_eq_filter]
  exact nodup_keys_filter _ h

theorem nodup_keys_append {a b : Dict} (ha : (a.map Prod.fst).Nodup) (hb : (b.map Prod.fst).Nodup)
    (hd : ∀ k ∈ a.map Prod.fst, k ∉ b.map Prod.fst) : ((a ++ b).map Prod.fst).Nodup := by
  rw [List.map_append, List.nodup_append]
  exact ⟨ha, hb, fun x hx y hy e => hd x hx (e ▸ hy)⟩

theorem reloadExtra_append (names : List Str) (base f : Dict)
    (hb : ∀ k ∈ base.map Prod.fst, k ∈ names) (hf : ∀ k ∈ f.map Prod.fst, k ∉ names) :
    reloadExtra names (base ++ f) = f := by
  simp only [reloadExtra, List.filter_append]
  have h1 : base.filter (fun kv => !names.contains kv.1) = [] := by
    simp only [List.filter_eq_nil_iff]
    intro kv hkv
    have := hb kv.1 (List.mem_map.mpr ⟨kv, hkv, rfl⟩)
    simp [this]
  have h2 : f.filter (fun kv => !names.contains kv.1) = f := by
    simp only [List.filter_eq_self]
    intro kv hkv
    have := hf kv.1 (List.mem_map.mpr ⟨kv, hkv, rfl⟩)
    simp [this]
  rw [h1, h2]; rfl

theorem lookup_dictInsert_eq (n k : Str) (v : J) (d : Dict) :
    lookup n (dictInsert k v d) = if n = k then some v else lookup n d := by
  rw [dictInsert_eq, lookup_set]

theorem lookup_dictInsert (k : Str) (v : J) (d : Dict) : lookup k (dictInsert k v d) = some v := by
  rw [lookup_dictInsert_eq, if_pos rfl]

theorem lookup_dictInsert_ne (n k : Str) (v : J) (d : Dict) (h : n ≠ k) :
    lookup n (dictInsert k v d) = lookup n d := by
  rw [lookup_dictInsert_eq, if_neg h]

theorem dictInsert_same (k : Str) (v : J) (d : Dict) (h : lookup k d = some v) : dictInsert k v d = d := by
  rw [dictInsert_eq]
  exact upd_eq_self_of_lookup h rfl

/-- the entries `(k, v)` with `φ k = some v`, `k` running through `K` -/
def listing (K : List Str) (φ : Str → Option J) : Dict := K.filterMap fun k => (φ k).map fun v => (k, v)

theorem listing_cons (k : Str) (K : List Str) (φ : Str → Option J) :
    listing (k :: K) φ = (match φ k with | some v => [(k, v)] | none => []) ++ listing K φ := by
  simp only [listing, List.filterMap_cons]
  cases φ k <;> rfl

theorem listing_append (K K' : List Str) (φ : Str → Option J) :
    listing (K ++ K') φ = listing K φ ++ listing K' φ := List.filterMap_append

theorem listing_congr {K : List Str} {φ ψ : Str → Option J} (h : ∀ k ∈ K, φ k = ψ k) : listing K φ = listing K ψ :=
  filterMap_congr fun k hk => by rw [h k hk]

/-- reading a listing: no hypothesis on `K` (a repeated key repeats its entry) -/
theorem lookup_listing (K : List Str) (φ : Str → Option J) (k : Str) :
    lookup k (listing K φ) = if k ∈ K then φ k else none := by
  induction K with
  | nil => rfl
  | cons a K ih =>
    rw [listing_cons]
    by_cases e : k = a
    · subst e
      cases h : φ k with
      | none => simp [ih, h]
      | some v => simp [lookup]
    · cases h : φ a with
      | none => simp [ih, e]
      | some v => simp [lookup, ih, e]

theorem mem_listing {K : List Str} {φ : Str → Option J} {kv : Str × J} :
    kv ∈ listing K φ ↔ kv.1 ∈ K ∧ φ kv.1 = some kv.2 := by
  simp only [listing, List.mem_filterMap, Option.map_eq_some_iff]
  constructor
  · rintro ⟨k, hk, v, hv, rfl⟩; exact ⟨hk, hv⟩
  · rintro ⟨hk, hv⟩; exact ⟨kv.1, hk, kv.2, hv, rfl⟩

theorem keys_listing (K : List Str) (φ : Str → Option J) :
    (listing K φ).map Prod.fst = K.filter fun k => (φ k).isSome := by
  induction K with
  | nil => rfl
  | cons a K ih =>
    rw [listing_cons, List.map_append, ih, List.filter_cons]
    cases φ a <;> rfl

theorem nodup_listing {K : List Str} (h : K.Nodup) (φ : Str → Option J) : ((listing K φ).map Prod.fst).Nodup := by
  rw [keys_listing]
  exact List.Pairwise.sublist List.filter_sublist h

theorem filter_listing (p : Str × J → Bool) (K : List Str) (φ : Str → Option J) :
    (listing K φ).filter p = listing K fun k => (φ k).filter fun v => p (k, v) := by
  rw [listing, List.filter_filterMap]
  refine filterMap_congr fun k _ => ?_
  dsimp only
  cases φ k with
  | none => rfl
  | some v => cases hp : p (k, v) <;> simp [Option.filter, hp]

/-- `dump ∘ load` of one level: every key keeps a function of what the dict holds for it -/
theorem listing_idem (K : List Str) (F : Str → Option J → Option J) (hF : ∀ k ∈ K, ∀ u, F k (F k u) = F k u)
    (d : Dict) :
    (listing K fun k => F k (lookup k (listing K fun k => F k (lookup k d)))) = listing K fun k => F k (lookup k d) :=
  listing_congr fun k hk => by rw [lookup_listing, if_pos hk, hF k hk]

theorem listing_filter (p : Str → Bool) (K : List Str) (φ : Str → Option J) :
    listing (K.filter p) φ = listing K fun k => if p k then φ k else none := by
  rw [listing, List.filterMap_filter]
  refine filterMap_congr fun k _ => ?_
  dsimp only
  cases p k <;> rfl

theorem map_eq_listing (names : List Str) (f : Str → J) :
    (names.map fun n => (n, f n)) = listing names fun n => some (f n) :=
  (congrFun List.filterMap_eq_map' names).symm

theorem keys_slots (names : List Str) (f : Str → J) : (names.map fun n => (n, f n)).map Prod.fst = names := by
  simp [List.map_map, Function.comp_def]

theorem ownDump_eq_listing (del names : List Str) (f : Str → J) :
    ownDump del (names.map fun n => (n, f n)) =
      listing (names.filter fun n => !del.contains n) fun n => (some (f n)).filter truthy := by
  rw [ownDump_eq_filter, map_eq_listing, filter_listing, listing_filter]
  refine listing_congr fun n _ => ?_
  by_cases hd : n ∈ del <;> cases ht : truthy (f n) <;> simp [keeps, hd, ht, Option.filter]

theorem filterMap_eq_listing {α : Type} {l : List (Str × α)} (hn : (l.map Prod.fst).Nodup) (g : Str → α → Option J) :
    (l.filterMap fun p => (g p.1 p.2).map fun v => (p.1, v)) =
      listing (l.map Prod.fst) fun k => (lookup k l).bind (g k) := by
  induction l with
  | nil => rfl
  | cons p r ih =>
    obtain ⟨a, b⟩ := p
    simp only [List.map_cons, List.nodup_cons] at hn
    have hr : (listing (r.map Prod.fst) fun k => (lookup k ((a, b) :: r)).bind (g k)) =
        listing (r.map Prod.fst) fun k => (lookup k r).bind (g k) :=
      listing_congr fun k hk => by rw [lookup_cons_ne b r fun e : k = a => hn.1 (e ▸ hk)]
    rw [List.filterMap_cons, List.map_cons, listing_cons, hr, ← ih hn.2, lookup_cons_self]
    cases h : g a b <;> simp [h]

theorem mem_keys_listing {K : List Str} {φ : Str → Option J} {k : Str} (h : k ∈ (listing K φ).map Prod.fst) : k ∈ K := by
  rw [keys_listing] at h
  exact (List.mem_filter.mp h).1

theorem lookup_reloadSlots (names : List Str) (d : Dict) (k : Str) :
    lookup k (reloadSlots names d) = if k ∈ names then some ((lookup k d).getD .null) else none := by
  rw [reloadSlots, map_eq_listing, lookup_listing]

theorem slots_eq_map {slots : Dict} (hn : (slots.map Prod.fst).Nodup) :
    slots = (slots.map Prod.fst).map fun n => (n, (lookup n slots).getD .null) := by
  rw [List.map_map]
  refine (List.map_id' slots).symm.trans (List.map_congr_left fun p hp => ?_)
  rw [Function.comp, lookup_of_mem hn hp]
  rfl

theorem lookup_reload_ownDump (del : List Str) {slots : Dict} (hn : (slots.map Prod.fst).Nodup) {k : Str} {v : J}
    (hm : (k, v) ∈ slots) :
    lookup k (reloadSlots (slots.map Prod.fst) (ownDump del slots)) = some (if keeps del (k, v) then v else .null) := by
  have hk : k ∈ slots.map Prod.fst := List.mem_map.mpr ⟨_, hm, rfl⟩
  have hv : (lookup k slots).getD .null = v := by rw [lookup_of_mem hn hm]; rfl
  rw [lookup_reloadSlots, if_pos hk]
  conv => lhs; rw [slots_eq_map hn]
  rw [ownDump_eq_listing, lookup_listing, hv]
  by_cases hd : k ∈ del
  · simp [keeps, hk, hd]
  · cases ht : truthy v <;> simp [keeps, hk, hd, ht, Option.filter_some]

end Pyxv.ToJson
