import Pyxv.Proofs.C08Text
import Pyxv.Model.TextsRepeat
import Pyxv.Proofs.Literals
/-!
# C08 — repeats: elements nested in repeats (any depth) and the labels of repeats/groups

`buildElemsR` (Model/TextsRepeat.lean) is the element builder the driver op `c08.model` runs; the form-level theorems of
C08Text.lean (`effective_*_form`) hold for *any* element list with pairwise distinct xpaths, so they apply to elements below
repeats as soon as the builder is known to (a) give every element the slots of its own row and (b) route the xpath through
the names of the open repeats.  Both are proved here for all row lists, all depths.
-/
namespace Pyxv.C08
open Pyxv Pyxv.Headers Pyxv.Texts

/-- the five text slots of the element are those of this grouped row -/
def FromRow (row : Kvs) (e : Elem) : Prop :=
  e.label = row.get (s "label") ∧ e.hint = row.get (s "hint") ∧ e.guidance = row.get (s "guidance_hint") ∧
  e.media = row.get (s "media") ∧ e.bind = row.get (s "bind")

theorem fromRow_mkElem (row : Kvs) (i : Nat) (st : List Str) (k : EKind) : FromRow row (mkElem row i st k) :=
  ⟨rfl, rfl, rfl, rfl, rfl⟩

/-- every element carries its own row's slots, at any nesting depth of groups and repeats: the element with key `s<i+j>` has
label/hint/guidance/media/bind of row `j`, never of another row -/
theorem buildElemsR_slots : ∀ (rows : List Kvs) (i : Nat) (st : List Str) (es : List Elem),
    buildElemsR rows i st = .ok es →
    ∀ e ∈ es, ∃ j row, rows[j]? = some row ∧ e.key = s "s" ++ natStr (i + j) ∧ FromRow row e
  | [], i, st, es, h, e, he => by
    simp only [buildElemsR] at h
    cases h
    simp at he
  | row :: rest, i, st, es, h, e, he => by
    have shift : ∀ st' es', buildElemsR rest (i + 1) st' = .ok es' → e ∈ es' →
        ∃ j r, (row :: rest)[j]? = some r ∧ e.key = s "s" ++ natStr (i + j) ∧ FromRow r e := fun st' es' h' he' => by
      obtain ⟨j, r, hj, hk, hf⟩ := buildElemsR_slots rest (i + 1) st' es' h' e he'
      exact ⟨j + 1, r, by simpa using hj, by rw [hk]; congr 2; omega, hf⟩
    have here : ∀ k st' es', buildElemsR rest (i + 1) st' = .ok es' → e ∈ mkElem row i st k :: es' →
        ∃ j r, (row :: rest)[j]? = some r ∧ e.key = s "s" ++ natStr (i + j) ∧ FromRow r e := fun k st' es' h' he' => by
      rcases List.mem_cons.mp he' with rfl | he'
      · exact ⟨0, row, rfl, rfl, fromRow_mkElem _ _ _ _⟩
      · exact shift st' es' h' he'
    rw [buildElemsR] at h
    split at h
    · simp only at h
      split at h
      · -- an `end` row: no element, the rest is built one level up
        exact shift _ _ h he
      · split at h
        · -- a `begin` row: refused if it is the repeat with media and no label, else a section element
          split at h
          · cases h
          · split at h
            · next es' hes' => cases h; exact here _ _ es' hes' he
            · cases h
        · -- a leaf row: its kind must be known, then a question or select element
          split at h
          · cases h
          · split at h
            · next es' hes' => cases h; exact here _ _ es' hes' he
            · cases h
    · -- a row without a type is refused
      cases h

/-- no row of the sheet opens or closes a repeat -/
def NoRepeatRows (rows : List Kvs) : Prop :=
  ∀ row ∈ rows, ∀ t, row.get (s "type") = .str t →
    typeWords t ≠ [s "begin", s "repeat"] ∧ typeWords t ≠ [s "end", s "repeat"]

/-- on sheets without repeat rows the builder with repeats is `buildElems`, the builder
without them. -/
theorem buildElemsR_conservative : ∀ (rows : List Kvs) (i : Nat) (st : List Str), NoRepeatRows rows →
    buildElemsR rows i st = buildElems rows i st
  | [], i, st, _ => by simp [buildElemsR, buildElems]
  | row :: rest, i, st, h => by
    have ih := fun i st => buildElemsR_conservative rest i st (fun r hr => h r (List.mem_cons_of_mem _ hr))
    rw [buildElemsR, buildElems]
    cases ht : row.get (s "type") with
    | none => rfl
    | dict _ => rfl
    | str t =>
      obtain ⟨h1, h2⟩ := h row List.mem_cons_self t ht
      simp only [isEnd, isBegin, oddRepeat, h1, h2, ih, leafKind, mkElem, Bool.or_false, decide_false, Bool.false_and,
        decide_eq_true_eq, Bool.false_eq_true, if_false]
      rfl

def rowName (row : Kvs) : Str := strOf (row.get (s "name"))

/-- the row opens a group or a repeat (and is not the media-without-label repeat) -/
def IsOpen (row : Kvs) : Prop :=
  ∃ t, row.get (s "type") = .str t ∧ isBegin (typeWords t) = true ∧ oddRepeat row (typeWords t) = false

/-- the elements of a run of opening rows: each one level deeper than the one before -/
def openElems : List Kvs → Nat → List Str → List Elem
  | [], _, _ => []
  | r :: rs, i, st => mkElem r i st .group :: openElems rs (i + 1) (st ++ [rowName r])

theorem isEnd_of_isBegin {ws : List Str} (h : isBegin ws = true) : isEnd ws = false := by
  simp only [isBegin, Bool.or_eq_true, decide_eq_true_eq] at h
  rcases h with h | h <;> subst h <;> decide

/-- after `n` opening rows the rest of the sheet is built `n` levels deeper: the stack of names grows by exactly the names of the
opening rows, in order -/
theorem buildElemsR_descend : ∀ (opens rest : List Kvs) (i : Nat) (st : List Str) (es : List Elem),
    (∀ r ∈ opens, IsOpen r) →
    buildElemsR rest (i + opens.length) (st ++ opens.map rowName) = .ok es →
    buildElemsR (opens ++ rest) i st = .ok (openElems opens i st ++ es)
  | [], rest, i, st, es, _, h => by simpa [openElems] using h
  | r :: rs, rest, i, st, es, ho, h => by
    obtain ⟨t, ht, hb, hodd⟩ := ho r List.mem_cons_self
    have ih := buildElemsR_descend rs rest (i + 1) (st ++ [rowName r]) es
      (fun x hx => ho x (List.mem_cons_of_mem _ hx))
      (by simpa [Nat.add_assoc, Nat.add_comm 1, List.append_assoc] using h)
    rw [List.cons_append, buildElemsR, ht]
    simp only [isEnd_of_isBegin hb, hb, hodd, Bool.false_eq_true, if_false, if_true]
    simp only [rowName] at ih
    rw [ih]
    rfl

/-- a question below `n` nested repeats (any `n`): its element has key `s<i+n>`, the slots of its own row, and the xpath
`/data/<outer stack>/<name of repeat 1>/…/<name of repeat n>/<its name>` -/
theorem nested_repeat_elem (opens rest : List Kvs) (q : Kvs) (i : Nat) (st : List Str) (es : List Elem) (t : Str) (k : EKind)
    (ho : ∀ r ∈ opens, IsOpen r) (ht : q.get (s "type") = .str t)
    (he : isEnd (typeWords t) = false) (hb : isBegin (typeWords t) = false) (hk : leafKind q (typeWords t) = .ok k)
    (hrest : buildElemsR rest (i + opens.length + 1) (st ++ opens.map rowName) = .ok es) :
    ∃ e, buildElemsR (opens ++ q :: rest) i st = .ok (openElems opens i st ++ e :: es) ∧
      e.key = s "s" ++ natStr (i + opens.length) ∧ FromRow q e ∧
      e.path = s "/data/" ++ joinWith (s "/") (st ++ opens.map rowName ++ [rowName q]) := by
  refine ⟨mkElem q (i + opens.length) (st ++ opens.map rowName) k, ?_, rfl, fromRow_mkElem _ _ _ _, rfl⟩
  apply buildElemsR_descend opens (q :: rest) i st _ ho
  rw [buildElemsR, ht]
  simp only [he, hb, hk, hrest, Bool.false_eq_true, if_false]

/-- labels in sheets with repeats (questions at any depth below repeats, and the repeats and groups themselves): if the grouped
rows are what `process_row` makes of the raw rows and `buildElemsR` builds the elements, every element `e` is the element of one
raw row `j` (key `s<j>`), and — xpaths being pairwise distinct — whenever that row's label became a dict, `e` shows in every
language the spec's reading of *that row's* label cells, else `-`. -/
theorem effective_label_in_repeat (dl : Str) (hk : List (Str × List Str)) (raws : List (List (Str × Str)))
    (grows : List Kvs) (cs : List Choice) (es : List Elem) (padIds : List Str) (e : Elem)
    (hrows : ∀ (j : Nat) (out : Kvs), grows[j]? = some out → ∃ raw, raws[j]? = some raw ∧ processRow dl hk raw = .ok out)
    (hbuild : buildElemsR grows 0 [] = .ok es) (he : e ∈ es)
    (hpaths : (es.map (·.path)).Nodup)
    (hmedia : ∀ x ∈ es.flatMap (mediaEntries dl), x.form ≠ s "long") :
    ∃ (j : Nat) (raw : List (Str × Str)) (out : Kvs), raws[j]? = some raw ∧ processRow dl hk raw = .ok out ∧ e.key = s "s" ++ natStr j ∧
      e.label = out.get (s "label") ∧
      ∀ (m : Kvs) (lang : Str), out.get (s "label") = .dict m →
        (∀ c ∈ raw, c.1 ≠ "__row".toList ∧ ∃ t ts, lookup c.1 hk = some (t :: ts)) →
        NoClash dl hk .nil raw →
        (∀ c ∈ raw, ∀ t ts, lookup c.1 hk = some (t :: ts) → s "label" = t → ts.length ≤ 1) →
        (∀ c ∈ colCells hk (s "label") raw, c.2 ≠ []) → ((colCells hk (s "label") raw).map (·.1)).Nodup →
        lang ≠ [] →
        via (table dl ⟨es, cs⟩) padIds (labelSrc e) (s "long") lang =
          some ((specRead dl (colCells hk (s "label") raw) lang).getD (s "-")) := by
  obtain ⟨j, out, hj, hkey, hf⟩ := buildElemsR_slots grows 0 [] es hbuild e he
  obtain ⟨raw, hraw, hproc⟩ := hrows j out hj
  refine ⟨j, raw, out, hraw, hproc, by simpa using hkey, hf.1, ?_⟩
  intro m lang hdict hwf hnc hflat hne hnd hlang
  exact effective_text_label_row dl ⟨es, cs⟩ padIds e hk raw out m lang he hpaths hmedia hwf hnc hflat hproc hf.1 hdict
    hne hnd hlang

def kv (ps : List (String × String)) : Kvs :=
  ps.foldr (fun p acc => .cons p.1.toList (.str p.2.toList) acc) .nil

def repA : Kvs := kv [("type", "begin repeat"), ("name", "a")]
def repB : Kvs := .cons "type".toList (.str "begin repeat".toList) (.cons "name".toList (.str "b".toList)
  (.cons "label".toList (.dict (.cons "fr".toList (.str "Bfr".toList) .nil)) .nil))
def qRow : Kvs := .cons "type".toList (.str "text".toList) (.cons "name".toList (.str "q".toList)
  (.cons "label".toList (.dict (.cons "fr".toList (.str "Qfr".toList) .nil)) .nil))
def endRow : Kvs := kv [("type", "end repeat")]

theorem repA_open : IsOpen repA := ⟨"begin repeat".toList, rfl, by decide, by decide⟩
theorem repB_open : IsOpen repB := ⟨"begin repeat".toList, rfl, by decide, by decide⟩

theorem reps_open : ∀ r ∈ [repA, repB], IsOpen r := by
  intro r hr
  simp only [List.mem_cons, List.mem_nil_iff, or_false] at hr
  rcases hr with rfl | rfl
  · exact repA_open
  · exact repB_open

/-- the question below repeats `a`, `b` gets `/data/a/b/q`, key `s2`, and its own row's label -/
example : ∃ e, buildElemsR ([repA, repB] ++ qRow :: [endRow, endRow]) 0 [] = .ok (openElems [repA, repB] 0 [] ++ e :: []) ∧
    e.key = "s2".toList ∧ FromRow qRow e ∧ e.path = "/data/a/b/q".toList := by
  obtain ⟨e, h1, h2, h3, h4⟩ := nested_repeat_elem [repA, repB] [endRow, endRow] qRow 0 [] [] "text".toList .question
    reps_open
    rfl (by decide) (by decide) (by rfl) (by rfl)
  exact ⟨e, h1, h2, h3, by rw [h4]; decide⟩

example : ∀ e ∈ openElems [repA, repB] 0 [] ++ [mkElem qRow 2 ["a".toList, "b".toList] .question],
    ∃ (j : Nat) (row : Kvs), ([repA, repB, qRow, endRow, endRow])[j]? = some row ∧ e.key = s "s" ++ natStr (0 + j) ∧ FromRow row e :=
  buildElemsR_slots _ 0 [] _ (by rfl)

example : buildElemsR [kv [("type", "text"), ("name", "q")]] 0 [] = buildElems [kv [("type", "text"), ("name", "q")]] 0 [] := by
  apply buildElemsR_conservative
  intro row hr t ht
  simp only [List.mem_cons, List.mem_nil_iff, or_false] at hr
  subst hr
  have : t = "text".toList := by
    have h : (kv [("type", "text"), ("name", "q")]).get (s "type") = .str "text".toList := by rfl
    rw [h] at ht; cases ht; rfl
  subst this
  decide

example : buildElemsR ([repA, repB] ++ [endRow, endRow]) 0 [] = .ok (openElems [repA, repB] 0 [] ++ []) :=
  buildElemsR_descend [repA, repB] [endRow, endRow] 0 [] []
    reps_open
    (by rfl)

def hk2 : List (Str × List Str) := [("type".toList, ["type".toList]), ("name".toList, ["name".toList])] ++ hkEx
def rawsEx : List (List (Str × Str)) :=
  [[("type".toList, "begin repeat".toList), ("name".toList, "a".toList)],
   [("type".toList, "text".toList), ("name".toList, "q".toList)] ++ rowEx,
   [("type".toList, "end repeat".toList)]]
def outOf (raw : List (Str × Str)) : Kvs :=
  match processRow "default".toList hk2 raw with
  | .ok o => o
  | .error _ => .nil
def growsEx : List Kvs := rawsEx.map outOf
def esEx : List Elem :=
  match buildElemsR growsEx 0 [] with
  | .ok es => es
  | .error _ => []
def eEx : Elem := mkElem (outOf ([("type".toList, "text".toList), ("name".toList, "q".toList)] ++ rowEx)) 1 ["a".toList] .question

/-- the hypotheses of `effective_label_in_repeat` can be met (a repeat holding the F19-order question row); the statement is
`True`, what counts is that the application type-checks -/
example : True := by
  -- the builder is evaluated once; the other hypotheses are read off its result
  have hb : buildElemsR growsEx 0 [] = .ok [mkElem (outOf rawsEx[0]) 0 [] .group, eEx] := by rfl
  have hes : esEx = [mkElem (outOf rawsEx[0]) 0 [] .group, eEx] := by unfold esEx; rw [hb]
  have _h := effective_label_in_repeat "default".toList hk2 rawsEx growsEx [] esEx [] eEx ?_ (hes ▸ hb) ?_ ?_ ?_
  · trivial
  · intro j out h
    match j, h with
    | 0, h => exact ⟨_, rfl, by simp only [growsEx, rawsEx, List.map_cons, List.getElem?_cons_zero, Option.some.injEq] at h; rw [← h]; rfl⟩
    | 1, h => exact ⟨_, rfl, by simp only [growsEx, rawsEx, List.map_cons, List.getElem?_cons_succ, List.getElem?_cons_zero, Option.some.injEq] at h; rw [← h]; rfl⟩
    | 2, h => exact ⟨_, rfl, by simp only [growsEx, rawsEx, List.map_cons, List.getElem?_cons_succ, List.getElem?_cons_zero, Option.some.injEq] at h; rw [← h]; rfl⟩
    | j + 3, h => simp [growsEx, rawsEx] at h
  · rw [hes]; simp
  · rw [hes]; decide +kernel
  · have : esEx.flatMap (mediaEntries "default".toList) = [] := by rw [hes]; rfl
    rw [this]; simp

theorem section_kinds_ne_hint : ∀ k ∈ [s "label", s "constraint_message", s "required_message"] ++ mediaKinds,
    k ≠ s "hint" ∧ k ≠ s "guidance_hint" := by
  simp only [mediaKinds, s, toList_lit rfl]
  decide +kernel

/-- whatever is written in the hint / guidance-hint cells of a `begin group` /
`begin repeat` row, the section's own texts contain no hint and no guidance hint in any language (sections have no `<hint>`). -/
theorem section_hint_not_shown (T : List Entry) (padIds view : List Str) (e : Elem) (hk : e.kind = .group) :
    ∀ x ∈ elemTexts T padIds view e, x.1 ≠ s "hint" ∧ x.1 ≠ s "guidance_hint" := by
  intro x hx
  unfold elemTexts at hx
  simp only [hk, List.mem_flatMap, List.mem_filterMap, Option.map_eq_some_iff] at hx
  obtain ⟨⟨kind, src, form⟩, hp, lang, _, tx, hv, rfl⟩ := hx
  simp only [List.mem_append, List.mem_cons, or_false, Prod.mk.injEq, List.not_mem_nil] at hp
  -- the plan of a group: label, media (only with an itext label), an absent hint, the two messages
  rcases hp with (((⟨rfl, _, _⟩ | hm) | ⟨rfl, rfl, rfl⟩) | hg) | (⟨rfl, _, _⟩ | ⟨rfl, _, _⟩)
  · exact section_kinds_ne_hint _ (by simp)
  · split at hm
    · obtain ⟨m, hmk, hm⟩ := List.mem_map.mp hm
      cases hm
      exact section_kinds_ne_hint _ (by simp [hmk])
    · simp at hm
  · simp [via] at hv
  · simp at hg
  · exact section_kinds_ne_hint _ (by simp)
  · exact section_kinds_ne_hint _ (by simp)

def grpEx : Elem :=
  { key := "s0".toList, path := "/data/g".toList, kind := .group, label := .str "G".toList,
    hint := .dict (.cons "fr".toList (.str "Hfr".toList) .nil), guidance := .none, media := .none, bind := .none }

/-- a group with a translated hint shows its label, and no hint -/
example : (s "label", "fr".toList, "G".toList) ∈ elemTexts (getTranslations "default".toList grpEx) [] ["fr".toList] grpEx ∧
    ∀ x ∈ elemTexts (getTranslations "default".toList grpEx) [] ["fr".toList] grpEx, x.1 ≠ s "hint" ∧ x.1 ≠ s "guidance_hint" :=
  ⟨by decide, section_hint_not_shown _ _ _ _ rfl⟩

end Pyxv.C08
