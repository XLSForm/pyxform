import Pyxv.Proofs.C07Text
/-!
# Distinct xpaths from sibling uniqueness

The value-level theorems of `C07Text` assume that the xpaths of the survey's elements are pairwise distinct.
Here this is derived from what pyxform validates (`Section._validate_uniqueness_of_element_names`, and XML names
cannot contain `/`): at every level the names of the children (and of an osm question's tags) are pairwise distinct
and contain no `/`.  The argument is on the xpath *strings* (`pre ++ "/" ++ name`), as the code builds them.
-/
namespace Pyxv.C07Paths
open Pyxv Pyxv.Itext

def NoSlash (s : Str) : Prop := '/' ∉ s

def nameOf : Elem → Str
  | .node d _ => d.name

def kidNames : List Elem → List Str
  | [] => []
  | e :: es => nameOf e :: kidNames es

mutual
/-- names without `/`, and tags and children of every element pairwise distinct by name -/
def SibOk : Elem → Prop
  | .node d kids => (∀ nl ∈ d.tags, NoSlash nl.1) ∧ (d.tags.map (·.1) ++ kidNames kids).Nodup ∧ SibsOk kids
def SibsOk : List Elem → Prop
  | [] => True
  | e :: es => NoSlash (nameOf e) ∧ SibOk e ∧ SibsOk es
end

/-- `x` is `p` or lies below `p` -/
def Under (p x : Str) : Prop := ∃ r, x = p ++ r ∧ (r = [] ∨ ∃ r', r = '/' :: r')

theorem under_refl (p : Str) : Under p p := ⟨[], by simp, Or.inl rfl⟩

theorem under_trans_child {p n x : Str} (h : Under (p ++ '/' :: n) x) : Under p x := by
  obtain ⟨r, hx, _⟩ := h
  exact ⟨'/' :: n ++ r, by simp [hx], Or.inr ⟨n ++ r, rfl⟩⟩

/-- two `/`-free names followed by nothing or by `/…` agree as soon as the whole strings agree -/
theorem head_eq {a b r s : Str} (h : a ++ r = b ++ s) (ha : NoSlash a) (hb : NoSlash b)
    (hr : r = [] ∨ ∃ r', r = '/' :: r') (hs : s = [] ∨ ∃ s', s = '/' :: s') : a = b := by
  have first : ∀ {a r : Str}, NoSlash a → (r = [] ∨ ∃ r', r = '/' :: r') →
      (splitOnChar '/' (a ++ r)).head? = some a := by
    rintro a _ ha (rfl | ⟨r', rfl⟩)
    · rw [List.append_nil, splitOnChar_of_not_mem _ _ ha]; rfl
    · rw [splitOnChar_append_sep _ _ _ ha]; rfl
  have := first ha hr
  rw [h, first hb hs] at this
  exact (Option.some.inj this).symm

/-- subtrees of differently named siblings share no xpath -/
theorem under_disjoint {pre n₁ n₂ x y : Str} (h₁ : NoSlash n₁) (h₂ : NoSlash n₂) (hne : n₁ ≠ n₂)
    (hx : Under (pre ++ '/' :: n₁) x) (hy : Under (pre ++ '/' :: n₂) y) : x ≠ y := by
  obtain ⟨r, rfl, hr⟩ := hx
  obtain ⟨s, rfl, hs⟩ := hy
  intro h
  have h' : n₁ ++ r = n₂ ++ s := by
    have := List.append_cancel_left (by simpa [List.append_assoc] using h : pre ++ ('/' :: (n₁ ++ r)) = pre ++ ('/' :: (n₂ ++ s)))
    exact (List.cons.inj this).2
  exact hne (head_eq h' h₁ h₂ hr hs)

theorem under_ne_self {p n x : Str} (h : Under (p ++ '/' :: n) x) : x ≠ p := by
  obtain ⟨r, rfl, _⟩ := h
  intro e
  have := congrArg List.length e
  simp at this

theorem under_flatten : ∀ (e : Elem) (pre : Str) (hid : Bool), ∀ f ∈ flatten pre hid e,
    Under (pre ++ '/' :: nameOf e) f.xpath := by
  intro e
  induction e using Elem.induct with
  | node d kids ih =>
    intro pre hid f hf
    rcases mem_flatten.mp hf with rfl | hf | ⟨k, hk, hf⟩
    · exact under_refl _
    · obtain ⟨nl, _, rfl⟩ := List.mem_map.mp hf
      exact ⟨'/' :: nl.1, rfl, Or.inr ⟨nl.1, rfl⟩⟩
    · exact under_trans_child (ih k hk _ _ f hf)

theorem under_flattenL (pre : Str) (hid : Bool) (es : List Elem) (f : Flat) (hf : f ∈ flattenL pre hid es) :
    ∃ e ∈ es, Under (pre ++ '/' :: nameOf e) f.xpath :=
  let ⟨e, he, hfe⟩ := mem_flattenL.mp hf
  ⟨e, he, under_flatten e pre hid f hfe⟩

theorem mem_kidNames {es : List Elem} {e : Elem} (h : e ∈ es) : nameOf e ∈ kidNames es :=
  eq_map_of_eqns (gL := kidNames) rfl (fun _ _ => rfl) es ▸ List.mem_map_of_mem h

theorem sibsOk_noSlash : ∀ {es : List Elem}, SibsOk es → ∀ e ∈ es, NoSlash (nameOf e)
  | [], _, e, he => by cases he
  | a :: rest, h, e, he => by
    simp only [SibsOk] at h
    rcases List.mem_cons.mp he with rfl | he
    · exact h.1
    · exact sibsOk_noSlash h.2.2 e he

theorem nodup_flattenL_of (pre : Str) (hid : Bool) : ∀ (es : List Elem),
    (∀ e ∈ es, SibOk e → ((flatten pre hid e).map (·.xpath)).Nodup) → SibsOk es → (kidNames es).Nodup →
    ((flattenL pre hid es).map (·.xpath)).Nodup
  | [], _, _, _ => by simp [flattenL]
  | e :: es, hk, h, hn => by
    simp only [SibsOk] at h
    simp only [kidNames, List.nodup_cons] at hn
    simp only [flattenL, List.map_append, List.nodup_append]
    refine ⟨hk e List.mem_cons_self h.2.1, nodup_flattenL_of pre hid es (fun e' he' => hk e' (List.mem_cons_of_mem _ he')) h.2.2 hn.2, ?_⟩
    intro a ha b hb hab
    subst hab
    obtain ⟨f, hf, rfl⟩ := List.mem_map.mp ha
    obtain ⟨g, hg, hge⟩ := List.mem_map.mp hb
    obtain ⟨e', he', hu⟩ := under_flattenL pre hid es g hg
    have hne : nameOf e ≠ nameOf e' := fun e'' => hn.1 (e'' ▸ mem_kidNames he')
    exact under_disjoint h.1 (sibsOk_noSlash h.2.2 e' he') hne (under_flatten e pre hid f hf) hu hge.symm

theorem nodup_flatten : ∀ (e : Elem) (pre : Str) (hid : Bool), SibOk e → ((flatten pre hid e).map (·.xpath)).Nodup := by
  intro e
  induction e using Elem.induct with
  | node d kids ih =>
    intro pre hid h
    simp only [SibOk] at h
    obtain ⟨htag, hnd, hkids⟩ := h
    have hndk : (kidNames kids).Nodup := (List.nodup_append.mp hnd).2.1
    simp only [flatten, List.map_cons, List.map_append, List.nodup_cons, List.mem_append, List.nodup_append]
    refine ⟨?_, ?_, nodup_flattenL_of _ _ kids (fun k hk => ih k hk _ _) hkids hndk, ?_⟩
    · -- the element's own xpath is not below itself
      rintro (hm | hm)
      · obtain ⟨f, hf, he⟩ := List.mem_map.mp hm
        obtain ⟨nl, _, rfl⟩ := List.mem_map.mp hf
        have := congrArg List.length he
        simp at this
      · obtain ⟨f, hf, he⟩ := List.mem_map.mp hm
        obtain ⟨e', _, hu⟩ := under_flattenL _ _ kids f hf
        exact under_ne_self hu he
    · -- tag xpaths are pairwise distinct
      simp only [tagFlats, List.map_map, Function.comp_def]
      exact List.pairwise_map.mpr ((List.pairwise_map.mp (List.nodup_append.mp hnd).1).imp
        fun hne hab => hne (by simpa using hab))
    · -- a tag is not an element of a child's subtree
      intro a ha b hb hab
      subst hab
      obtain ⟨f, hf, rfl⟩ := List.mem_map.mp ha
      obtain ⟨nl, hnl, rfl⟩ := List.mem_map.mp hf
      obtain ⟨g, hg, hge⟩ := List.mem_map.mp hb
      obtain ⟨e', he', hu⟩ := under_flattenL _ _ kids g hg
      have hdis := (List.nodup_append.mp hnd).2.2
      have hne : nl.1 ≠ nameOf e' := fun e => hdis nl.1 (List.mem_map.mpr ⟨nl, hnl, rfl⟩) (nameOf e') (mem_kidNames he') e
      exact under_disjoint (htag nl hnl) (sibsOk_noSlash hkids e' he') hne
        (under_refl _) hu hge.symm

/-- the hypothesis `hx` of the value-level theorems, derived from sibling (and tag) names pairwise distinct and free of `/`
at every level -/
theorem xpaths_nodup (x : Survey) (h : SibsOk (rootKids x.root)) (hn : (kidNames (rootKids x.root)).Nodup) :
    ((flats x).map (·.xpath)).Nodup :=
  nodup_flattenL_of _ _ _ (fun e _ => nodup_flatten e _ _) h hn

mutual
def sibOkB : Elem → Bool
  | .node d kids => d.tags.all (fun nl => !nl.1.contains '/') &&
      decide (d.tags.map (·.1) ++ kidNames kids).Nodup && sibsOkB kids
def sibsOkB : List Elem → Bool
  | [] => true
  | e :: es => !(nameOf e).contains '/' && sibOkB e && sibsOkB es
end

mutual
theorem sibOkB_sound : ∀ (e : Elem), sibOkB e = true → SibOk e
  | .node d kids, h => by
    simp only [sibOkB, Bool.and_eq_true, List.all_eq_true, Bool.not_eq_true', decide_eq_true_eq] at h
    simp only [SibOk]
    refine ⟨fun nl hnl => ?_, h.1.2, sibsOkB_sound kids h.2⟩
    have := h.1.1 nl hnl
    simpa [NoSlash] using this
theorem sibsOkB_sound : ∀ (es : List Elem), sibsOkB es = true → SibsOk es
  | [], _ => trivial
  | e :: es, h => by
    simp only [sibsOkB, Bool.and_eq_true, Bool.not_eq_true'] at h
    simp only [SibsOk]
    exact ⟨by simpa [NoSlash] using h.1.1, sibOkB_sound e h.1.2, sibsOkB_sound es h.2⟩
end

/-- the nested example of `C07Sheets` (group `g` containing `a` and the select `b`) and the osm example with two
tags meet the hypotheses of `xpaths_nodup` -/
example :
    (match C07Sheets.groupTrees "default".toList C07Sheets.hkG C07Sheets.treesG,
           C07Sheets.groupLists "default".toList C07Sheets.hkG C07Sheets.listsG with
     | .ok gt, .ok gl =>
       let x := C07Sheets.treeSurvey "default".toList gt gl
       sibsOkB (rootKids x.root) && decide (kidNames (rootKids x.root)).Nodup && (flats x).length == 3
     | _, _ => false) = true ∧
    (let x := C07.exOsm (C07.tr [("en", "Name")])
     sibsOkB (rootKids x.root) && decide (kidNames (rootKids x.root)).Nodup && (flats x).length == 3) = true := by
  simp only [C07Sheets.hkG, C07Sheets.treesG, C07Sheets.listsG, toList_lit rfl]
  decide +kernel

end Pyxv.C07Paths
