import Pyxv.Proofs.ConvertC10DefaultsFull
/-!
# C10 for the end-to-end composition: the leaves of the `Defaults` slice's instance and the document's texts

`convert_c10_defaults_leaves`: every leaf of `(Defaults.gen dynQ sub root (toDefL ditems)).inst` — the C10 slice's
primary instance of the mapped tree: instance copies and `jr:template` copies — has, as its text, exactly what
`convertDoc` writes into the childless nodes at that path (`lookupPath path defs`, absent = empty).
-/
namespace Pyxv.ConvertP
open Pyxv Pyxv.Form Pyxv.Rows Pyxv.Xml Pyxv.Asm Pyxv.Convert Pyxv.C01

/-- no section of a converted workbook is empty (from the `validate17` step) -/
theorem trace_secsNonEmpty {wb : Workbook} {doc : Node} {f : Fields} {lists : List (Str × List Choices.Choice)}
    {rows : List Cells} {drows : List ((Nat × RowK) × Pay)} {o : FormOut} {ditems : List DItem}
    (T : Trace wb doc f lists rows drows o ditems)
    (hval : Rows17.validate17 f.name (withMeta rows [] o.items) = .ok ()) :
    Defaults.secsNonEmpty (toDefL ditems) = true := by
  rw [← trace_erase_all T] at hval
  obtain ⟨h1, -⟩ := validate17_parts _ _ hval
  rw [← validateEach17_shape] at h1
  have hn := C10.noEmpty_shape _ ((Rows17.validateEach17_ok_iff _).1 h1).1
  obtain ⟨tail, ht⟩ := dWithMeta_prefix f.name rows ditems
  rw [ht, toDefL_append] at hn
  exact Defaults.secsNonEmpty_append_left _ _ hn

theorem toDefL_eq_nil : ∀ (ds : List DItem), toDefL ds = [] → ds = []
  | [], _ => rfl
  | _ :: _, h => by simp [toDefL] at h

theorem trace_c10_leaves {wb doc f lists rows drows o ditems} (T : Trace wb doc f lists rows drows o ditems)
    (hval : Rows17.validate17 f.name (withMeta rows [] o.items) = .ok ()) (sub : Defaults.Path → Str → Str) :
    ∀ l ∈ Defaults.leaves [] false (Defaults.gen dynQ sub f.name (toDefL ditems)).inst,
      (lookupPath l.path (defaultsOfL [f.name] ditems)).getD [] = l.text := by
  intro l hl
  by_cases hne : toDefL ditems = []
  · have hd := toDefL_eq_nil ditems hne
    subst hd
    simp only [Defaults.gen, toDefL, Defaults.instKids, Defaults.leaves, List.mem_singleton] at hl
    subst hl
    simp [defaultsOfL, lookupPath]
  · obtain ⟨x, hx, e1, e2⟩ :=
      C10.instance_text_sound dynQ sub f.name (toDefL ditems) (trace_secsNonEmpty T hval) hne l hl
    rw [e1, trace_c10_defaults T hval x hx, e2]
    rfl

/-- **C10, instance text: the `Defaults` slice's instance and the converted document agree leaf by leaf** (full).
    Each leaf `l` of `(Defaults.gen dynQ sub root (toDefL ditems)).inst`, in a `jr:template` copy or not, has the text
    `convertDoc` writes at that path, `(lookupPath l.path defs).getD []`.  Existential closure of `trace_c10_leaves`
    (there `ditems` is the run's tree, `defs = defaultsOfL [root] ditems`); this statement does not tie `ditems` to the
    document. -/
theorem convert_c10_defaults_leaves (wb : Workbook) (doc : Node) (h : convertDoc wb = .ok doc)
    (sub : Defaults.Path → Str → Str) :
    ∃ (root : Str) (ditems : List DItem) (defs : List (List Str × Str)) (nts : List NT) (rt : Node),
      primaryRoot doc = some rt ∧ kidsOf rt = instNodes defs [root] nts ∧ ntOfL (kidsOf rt) = nts ∧
      ∀ l ∈ Defaults.leaves [] false (Defaults.gen dynQ sub root (toDefL ditems)).inst,
        (lookupPath l.path defs).getD [] = l.text := by
  obtain ⟨f, lists, rows, drows, o, ditems, T, hval⟩ := convertDoc_trace_val wb doc h
  obtain ⟨rt, h1, h2, h3⟩ := trace_instance T
  exact ⟨f.name, ditems, _, _, rt, h1, h2, h3, trace_c10_leaves T hval sub⟩

#print axioms convert_c10_defaults_leaves

-- the C10 slice's instance of `exDefs` has five leaves: a, and r/n and r/m once in the `jr:template` copy and once in the instance copy
example : (Defaults.leaves [] false (Defaults.gen dynQ (fun _ s => s) (l!"data") (toDefL exDefs)).inst).length = 5 := by
  simp [exDefs, toDefL, toDef, toQ, Defaults.gen, Defaults.instKids, Defaults.tmplKids, Defaults.qNode, Defaults.leaves,
    Defaults.leavesL]
-- the theorem applied to the example workbook
example : ∃ doc, convertDoc exWb = .ok doc ∧ ∃ root ditems defs nts rt,
    primaryRoot doc = some rt ∧ kidsOf rt = instNodes defs [root] nts ∧ ntOfL (kidsOf rt) = nts ∧
    ∀ l ∈ Defaults.leaves [] false (Defaults.gen dynQ (fun _ s => s) root (toDefL ditems)).inst,
      (lookupPath l.path defs).getD [] = l.text := by
  obtain ⟨doc, hd, -, -⟩ := ex_doc
  exact ⟨doc, hd, convert_c10_defaults_leaves exWb doc hd _⟩

end Pyxv.ConvertP
