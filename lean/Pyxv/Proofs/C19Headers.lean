import Pyxv.Proofs.C19
import Pyxv.Model.EntitiesHeaders
import Pyxv.Proofs.BindsLemmas
/-!
# C19 — the entities header loop (duplicate spellings, grouped headers)

Theorems about `Pyxv.Entities.dealiasSheet` / `convertH` (Model/EntitiesHeaders.lean): the model of
`dealias_and_group_headers` on the entities sheet, composed from C05's `Binds.headerKeys`.
-/
namespace Pyxv.C19
open Pyxv Pyxv.Entities Pyxv.Gen

theorem setCell_eq (d : Cells) (k v : Str) : setCell d k v = AList.write d k v := rfl

/-- one cell of `process_row`: outside the fragment, or filed under the first token of its header -/
theorem processRowE_cons (key : List (Str × List Str)) (acc r : Cells) (h v : Str) :
    (∃ w, processRowE key acc ((h, v) :: r) = .error (.unsupported w)) ∨
    ∃ t0 rest w, lookup h key = some (t0 :: rest) ∧
      processRowE key acc ((h, v) :: r) = processRowE key (setCell acc t0 w) r := by
  rw [processRowE]
  split
  · exact .inl ⟨_, rfl⟩                                -- a cell without a header
  · exact .inl ⟨_, rfl⟩                                -- a header without tokens
  · rename_i t hl; exact .inr ⟨t, [], v, hl, rfl⟩
  · rename_i t0 x xs hl
    split
    · exact .inl ⟨_, rfl⟩                              -- a grouped entities column
    · exact .inr ⟨t0, x :: xs, [], hl, rfl⟩

theorem processRowE_cons_ok (key : List (Str × List Str)) (acc r r' : Cells) (h v : Str)
    (hr : processRowE key acc ((h, v) :: r) = .ok r') :
    ∃ t0 rest w, lookup h key = some (t0 :: rest) ∧ processRowE key (setCell acc t0 w) r = .ok r' := by
  rcases processRowE_cons key acc r h v with ⟨w, e⟩ | ⟨t0, rest, w, hl, e⟩
  · rw [e] at hr; cases hr
  · exact ⟨t0, rest, w, hl, e ▸ hr⟩

/-- `process_row` never drops a key of `out_row` -/
theorem processRowE_keeps (key : List (Str × List Str)) : ∀ (r acc r' : Cells) (k : Str),
    processRowE key acc r = .ok r' → k ∈ acc.map (·.1) → k ∈ r'.map (·.1)
  | [], acc, r', k, h, hk => by
    simp only [processRowE, Except.ok.injEq] at h; subst h; exact hk
  | (h0, v0) :: r, acc, r', k, h, hk => by
    obtain ⟨t0, _, w, _, h'⟩ := processRowE_cons_ok key acc r r' h0 v0 h
    exact processRowE_keeps key r _ r' k h' (setCell_eq .. ▸ AList.mem_keys_write.2 (.inl hk))

/-- every cell of the row is filed under the first token of its header -/
theorem processRowE_first_token (key : List (Str × List Str)) : ∀ (r acc r' : Cells) (h v t0 : Str) (rest : List Str),
    processRowE key acc r = .ok r' → (h, v) ∈ r → lookup h key = some (t0 :: rest) → t0 ∈ r'.map (·.1)
  | [], _, _, _, _, _, _, _, hm, _ => by cases hm
  | (h0, v0) :: r, acc, r', h, v, t0, rest, hr, hm, hl => by
    obtain ⟨t, rest', w, hl', hr'⟩ := processRowE_cons_ok key acc r r' h0 v0 hr
    rcases List.mem_cons.mp hm with heq | hm'
    · cases heq
      rw [hl] at hl'; cases hl'
      exact processRowE_keeps key r _ r' t0 hr' (setCell_eq .. ▸ AList.mem_keys_write.2 (.inr rfl))
    · exact processRowE_first_token key r _ r' h v t0 rest hr' hm' hl

theorem processRowE_error (key : List (Str × List Str)) : ∀ (r acc : Cells) (e : Rej),
    processRowE key acc r = .error e → ∃ w, e = .unsupported w
  | [], _, _, h => by cases h
  | (h0, v) :: r, acc, e, h => by
    rcases processRowE_cons key acc r h0 v with ⟨w, e'⟩ | ⟨_, _, _, _, e'⟩
    · rw [e'] at h; cases h; exact ⟨w, rfl⟩
    · exact processRowE_error key r _ e (e' ▸ h)

/-- Extends `unknown_columns_rejected` to the full header loop: on a one-row entities sheet, a cell whose header —
    after dealiasing and splitting — has a first token that is no entities column rejects the form, naming that token
    among the unexpected columns (unless the sheet leaves the model's fragment). -/
theorem unknown_first_token_rejected (root : Str) (sub : Str → Str) (settings : Cells) (headers : List Str)
    (row : Cells) (survey : List Cells) (key : List (Str × List Str)) (h v t0 : Str) (rest : List Str)
    (hkey : entityHeaderKey headers = .ok key) (hm : (h, v) ∈ row) (hl : lookup h key = some (t0 :: rest))
    (hun : entityColumnsL.contains t0 = false) :
    (∃ w, convertH root sub settings headers [row] survey = .error (.unsupported w)) ∨
    (∃ cs, t0 ∈ cs ∧ convertH root sub settings headers [row] survey = .error (.columns cs)) := by
  unfold convertH dealiasSheet
  simp only [hkey, processRowsE]
  cases hp : processRowE key [] row with
  | error e =>
    obtain ⟨w, rfl⟩ := processRowE_error key row [] e hp
    exact Or.inl ⟨w, rfl⟩
  | ok row' =>
    right
    have hin : t0 ∈ row'.map (·.1) := processRowE_first_token key row [] row' h v t0 rest hp hm hl
    have hex : t0 ∈ extraColumns row' := List.mem_filter.mpr ⟨hin, by rw [hun]; rfl⟩
    refine ⟨extraColumns row', hex, ?_⟩
    simp only [convert, unknown_columns_rejected row' (List.ne_nil_of_mem hex)]

example : convertH "data".toList id [] ["dataset".toList, "foo:bar".toList]
    [[("dataset".toList, "t".toList), ("foo:bar".toList, "x".toList)]] [] = .error (.columns ["foo".toList]) :=
  errVal_elim _ _ (by decide +kernel)

/-- One step of the header loop, in every state: a header that `process_header` changes (or that is an alias) and
    whose tokens an earlier header produced is rejected with `INVALID_DUPLICATE` naming both.
    (`C17.Hdr.alias_clash_step` is the same step for the other model of the loop, `Headers.headerLoop`.) -/
theorem duplicate_header_step (udc : Bool) (al : List (Str × List Str)) (cols : List Str) (h : Str) (hs : List Str)
    (key : List (Str × List Str)) (tk : List (List Str × Str)) (nh : Binds.NH) (toks : List Str) (other : Str)
    (hne : h ≠ []) (hnew : lookup h key = none) (hp : Binds.processHeader udc al cols h = some (nh, toks))
    (hseen : Binds.lookupToks toks tk = some other) (hch : nh ≠ .str h) :
    Binds.headerKeys udc al cols (h :: hs) key tk = .error (.dup other h) := by
  unfold Binds.headerKeys
  cases h with
  | nil => exact absurd rfl hne
  | cons c cs => simp [hnew, hp, hseen, hch]

theorem lookupToks_self (a : Str) (ps : List Str) (ha : a ∈ ps) :
    Binds.lookupToks [a] (ps.map fun h => ([h], h)) = some a := by
  rw [Binds.lookupToks_eq]
  obtain ⟨v, hv⟩ := AList.exists_get_of_mem_keys (k := [a]) (l := ps.map fun h => ([h], h))
    (List.mem_map.mpr ⟨_, List.mem_map_of_mem ha, rfl⟩)
  obtain ⟨h, _, e⟩ := List.mem_map.mp (AList.mem_of_get hv)
  cases e
  exact hv

theorem headerKeys_plain_prefix (udc : Bool) (al : List (Str × List Str)) (cols rest : List Str) :
    ∀ (ps : List Str) (key : List (Str × List Str)) (tk : List (List Str × Str)),
    (∀ h ∈ ps, h ≠ [] ∧ Binds.processHeader udc al cols h = some (.str h, [h]) ∧ lookup h key = none ∧
      Binds.lookupToks [h] tk = none) → ps.Nodup →
    Binds.headerKeys udc al cols (ps ++ rest) key tk =
      Binds.headerKeys udc al cols rest (key ++ ps.map fun h => (h, [h])) ((ps.map fun h => ([h], h)).reverse ++ tk)
  | [], key, tk, _, _ => by simp
  | h :: ps, key, tk, hp, hnd => by
    obtain ⟨hne, hph, hk, ht⟩ := hp h List.mem_cons_self
    obtain ⟨hnot, hnd'⟩ := List.nodup_cons.mp hnd
    have hemp : h.isEmpty = false := List.isEmpty_eq_false_iff.2 hne
    rw [List.cons_append, Binds.headerKeys]
    simp only [hemp, hk, hph, ht, Option.isSome_none, Bool.false_eq_true, if_false]
    rw [headerKeys_plain_prefix udc al cols rest ps _ _ ?_ hnd']
    · simp [List.append_assoc]
    · intro x hx
      obtain ⟨h1, h2, h3, h4⟩ := hp x (List.mem_cons_of_mem _ hx)
      have hxh : x ≠ h := fun e => hnot (e ▸ hx)
      refine ⟨h1, h2, ?_, ?_⟩
      · rw [lookup_append, h3]; simp [lookup, hxh]
      · simp [Binds.lookupToks, hxh, h4]

/-- After any number of plainly spelled, pairwise distinct headers, a header that is
    another spelling of one of them (snake-cases to it, or is its alias) is rejected with `INVALID_DUPLICATE` naming both,
    whatever columns follow and whatever the rows hold. -/
theorem respelled_after_plain_rejected (ps : List Str) (a b : Str) (hs : List Str) (row : Cells) (rows : List Cells)
    (nh : Binds.NH)
    (hplain : ∀ h ∈ ps, h ≠ [] ∧ Binds.processHeader ((ps ++ b :: hs).any fun h => isInfix "::".toList h)
      entityAliasesB entityHeaderColumns h = some (.str h, [h]))
    (hnd : ps.Nodup) (ha : a ∈ ps) (hb : b ≠ []) (hbn : b ∉ ps)
    (hpb : Binds.processHeader ((ps ++ b :: hs).any fun h => isInfix "::".toList h) entityAliasesB entityHeaderColumns b
      = some (nh, [a]))
    (hch : nh ≠ .str b) :
    dealiasSheet (ps ++ b :: hs) (row :: rows) = .error (.msg (dupMsg a b)) := by
  have h1 : Binds.headerKeys ((ps ++ b :: hs).any fun h => isInfix "::".toList h) entityAliasesB entityHeaderColumns
      (ps ++ b :: hs) [] [] = .error (.dup a b) := by
    rw [headerKeys_plain_prefix _ _ _ _ ps [] [] (fun h hh => ⟨(hplain h hh).1, (hplain h hh).2, rfl, rfl⟩) hnd]
    apply duplicate_header_step _ _ _ _ _ _ _ nh [a] a hb ?_ hpb ?_ hch
    · rw [List.nil_append, lookup_eq_none_iff, List.map_map]
      exact fun hm => hbn (by simpa using hm)
    · rw [List.append_nil, ← List.map_reverse]; exact lookupToks_self a _ (List.mem_reverse.mpr ha)
  unfold dealiasSheet entityHeaderKey
  simp only [h1]

/-- The case of a single plain header: a sheet whose first header is exactly an
    entities column (not an alias) and whose second header is another spelling of it is rejected. -/
theorem exact_then_respelled_rejected (a b : Str) (hs : List Str) (row : Cells) (rows : List Cells) (nh : Binds.NH)
    (ha : a ≠ []) (hb : b ≠ []) (hab : b ≠ a)
    (hpa : Binds.processHeader ((a :: b :: hs).any fun h => isInfix "::".toList h) entityAliasesB entityHeaderColumns a
      = some (.str a, [a]))
    (hpb : Binds.processHeader ((a :: b :: hs).any fun h => isInfix "::".toList h) entityAliasesB entityHeaderColumns b
      = some (nh, [a]))
    (hch : nh ≠ .str b) :
    dealiasSheet (a :: b :: hs) (row :: rows) = .error (.msg (dupMsg a b)) :=
  respelled_after_plain_rejected [a] a b hs row rows nh
    (fun h hh => by rw [List.mem_singleton.1 hh]; exact ⟨ha, hpa⟩) (by simp) List.mem_cons_self hb
    (by simpa using hab) hpb hch

set_option maxRecDepth 20000 in
example : dealiasSheet ["dataset".toList, "Dataset".toList] [[("dataset".toList, "t".toList)]] =
    .error (.msg (dupMsg "dataset".toList "Dataset".toList)) :=
  exact_then_respelled_rejected _ _ [] _ [] (.str "dataset".toList) (by decide +kernel) (by decide +kernel) (by decide +kernel)
    (by decide +kernel) (by decide +kernel) (by decide +kernel)

set_option maxRecDepth 20000 in
example : dealiasSheet ["label".toList, "dataset".toList, "list_name".toList] [[("dataset".toList, "t".toList)]] =
    .error (.msg (dupMsg "dataset".toList "list_name".toList)) :=
  respelled_after_plain_rejected ["label".toList, "dataset".toList] _ _ [] _ [] (.str "dataset".toList)
    (by decide +kernel) (by decide +kernel) (by decide +kernel) (by decide +kernel) (by decide +kernel)
    (by decide +kernel) (by decide +kernel)

-- the accepted order (other spelling first, exact spelling last): no rejection, the later cell wins
set_option maxRecDepth 20000 in
example : dealiasSheet ["Dataset".toList, "dataset".toList]
    [[("Dataset".toList, "t".toList), ("dataset".toList, "u".toList)]] = .ok [[("dataset".toList, "u".toList)]] :=
  okVal_elim _ _ (by decide +kernel)

example : dealiasSheet ["dataset".toList, "Dataset".toList] [[]] =
    .error (.msg (dupMsg "dataset".toList "Dataset".toList)) :=
  exact_then_respelled_rejected _ _ [] [] [] (.str "dataset".toList) (by decide +kernel) (by decide +kernel) (by decide +kernel)
    (by decide +kernel) (by decide +kernel) (by decide +kernel)

example : Binds.headerKeys false entityAliasesB entityHeaderColumns ["list_name".toList, "x".toList]
    [("dataset".toList, ["dataset".toList])] [(["dataset".toList], "dataset".toList)] =
    .error (.dup "dataset".toList "list_name".toList) :=
  duplicate_header_step _ _ _ _ _ _ _ (.str "dataset".toList) ["dataset".toList] _ (by decide +kernel) (by decide +kernel) (by decide +kernel)
    (by decide +kernel) (by decide +kernel)

theorem headerKeys_plain_step (udc : Bool) (al : List (Str × List Str)) (cols : List Str) (h : Str) (hs : List Str)
    (key : List (Str × List Str)) (tk : List (List Str × Str)) (hne : h ≠ [])
    (hph : Binds.processHeader udc al cols h = some (.str h, [h])) :
    ∃ tk', Binds.headerKeys udc al cols (h :: hs) key tk =
      Binds.headerKeys udc al cols hs (if (lookup h key).isSome then key else key ++ [(h, [h])]) tk' := by
  have hemp : h.isEmpty = false := List.isEmpty_eq_false_iff.2 hne
  rw [Binds.headerKeys]
  simp only [hemp, Bool.false_eq_true, if_false]
  by_cases hseen : (lookup h key).isSome = true
  · exact ⟨tk, by simp only [hseen, if_true]⟩
  · simp only [hseen, Bool.false_eq_true, if_false, hph]
    split
    · simp only [ne_eq, not_true_eq_false, if_false]
      exact ⟨_, rfl⟩
    · exact ⟨_, rfl⟩

/-- headers that `process_header` leaves unchanged pass the loop, each mapped to itself -/
theorem headerKeys_plain (udc : Bool) (al : List (Str × List Str)) (cols : List Str) :
    ∀ (hs : List Str) (key : List (Str × List Str)) (tk : List (List Str × Str)),
    (∀ h ∈ hs, h ≠ [] ∧ Binds.processHeader udc al cols h = some (.str h, [h])) →
    (∀ p ∈ key, p.2 = [p.1]) →
    ∃ key', Binds.headerKeys udc al cols hs key tk = .ok key' ∧ (∀ p ∈ key', p.2 = [p.1]) ∧
      (∀ h, (h ∈ hs ∨ (lookup h key).isSome = true) → (lookup h key').isSome = true)
  | [], key, tk, _, hk => ⟨key, by simp [Binds.headerKeys], hk, fun h hh => by
      rcases hh with hh | hh
      · cases hh
      · exact hh⟩
  | h :: hs, key, tk, hp, hk => by
    obtain ⟨hne, hph⟩ := hp h List.mem_cons_self
    obtain ⟨tk', e⟩ := headerKeys_plain_step udc al cols h hs key tk hne hph
    rw [e]
    have hk' : ∀ p ∈ (if (lookup h key).isSome then key else key ++ [(h, [h])]), p.2 = [p.1] := by
      split
      · exact hk
      · exact List.forall_mem_append.2 ⟨hk, List.forall_mem_singleton.2 rfl⟩
    obtain ⟨key', h1, h2, h3⟩ := headerKeys_plain udc al cols hs _ tk'
      (fun x hx => hp x (List.mem_cons_of_mem _ hx)) hk'
    refine ⟨key', h1, h2, fun x hx => h3 x ?_⟩
    rcases hx with hx | hx
    · rcases List.mem_cons.mp hx with rfl | hx
      · right; split
        · assumption
        · rw [lookup_append]; cases lookup x key <;> simp [lookup]
      · exact Or.inl hx
    · right; split
      · exact hx
      · rw [lookup_append, Option.isSome_or, hx]; rfl

/-- cells under plainly mapped, pairwise distinct headers are filed unchanged, in order -/
theorem processRowE_plain (key : List (Str × List Str)) : ∀ (r acc : Cells),
    (∀ k ∈ r.map (·.1), lookup k key = some [k]) → (acc.map (·.1) ++ r.map (·.1)).Nodup →
    processRowE key acc r = .ok (acc ++ r)
  | [], acc, _, _ => by simp [processRowE]
  | (h, v) :: r, acc, hl, hnd => by
    have hlh : lookup h key = some [h] := hl h (by simp)
    have hnotin : ¬ h ∈ acc.map (·.1) := by
      intro hc
      have := (List.nodup_append.mp hnd).2.2 h hc h (by simp)
      exact this rfl
    have hset : setCell acc h v = acc ++ [(h, v)] := by
      rw [setCell_eq, AList.write_eq_set (List.nodup_append.mp hnd).1, AList.set_of_not_mem v hnotin]
    unfold processRowE
    simp only [hlh, hset]
    rw [processRowE_plain key r (acc ++ [(h, v)]) (fun k hk => hl k (by simp at hk ⊢; exact Or.inr hk))
      (by simpa [List.append_assoc] using hnd)]
    simp

/-- When every header is one `process_header` leaves unchanged and every row has pairwise distinct keys among the
    headers, the header loop returns the rows unchanged: every theorem of C19.lean about `convert` on dealiased rows
    is then a theorem about `convertH` on the raw sheet. -/
theorem dealiasSheet_plain (headers : List Str) (rows : List Cells)
    (hplain : ∀ h ∈ headers, h ≠ [] ∧ ∀ udc, Binds.processHeader udc entityAliasesB entityHeaderColumns h = some (.str h, [h]))
    (hrows : ∀ r ∈ rows, (r.map (·.1)).Nodup ∧ ∀ k ∈ r.map (·.1), k ∈ headers) :
    dealiasSheet headers rows = .ok rows := by
  cases rows with
  | nil => rfl
  | cons r0 rs =>
    obtain ⟨key, h1, h2, h3⟩ := headerKeys_plain (headers.any fun h => isInfix "::".toList h) entityAliasesB
      entityHeaderColumns headers [] [] (fun h hh => ⟨(hplain h hh).1, (hplain h hh).2 _⟩) (by simp)
    have hlk : ∀ k ∈ headers, lookup k key = some [k] := by
      intro k hk
      have hs := h3 k (Or.inl hk)
      cases hl : lookup k key with
      | none => rw [hl] at hs; cases hs
      | some t => have := h2 _ (lookup_mem hl); simp only at this; rw [this]
    have hall : ∀ (rows : List Cells), (∀ r ∈ rows, (r.map (·.1)).Nodup ∧ ∀ k ∈ r.map (·.1), k ∈ headers) →
        processRowsE key rows = .ok rows := by
      intro rows
      induction rows with
      | nil => intro _; rfl
      | cons r rs ih =>
        intro hr
        obtain ⟨hnd, hin⟩ := hr r List.mem_cons_self
        have := processRowE_plain key r [] (fun k hk => hlk k (hin k hk)) (by simpa using hnd)
        simp only [processRowsE, this, List.nil_append, ih (fun x hx => hr x (List.mem_cons_of_mem _ hx))]
    unfold dealiasSheet entityHeaderKey
    simp only [h1]
    exact hall _ hrows

/-- On such a sheet the mechanism with the header loop in front is `convert`. -/
theorem convertH_plain (root : Str) (sub : Str → Str) (settings : Cells) (headers : List Str) (rows survey : List Cells)
    (hplain : ∀ h ∈ headers, h ≠ [] ∧ ∀ udc, Binds.processHeader udc entityAliasesB entityHeaderColumns h = some (.str h, [h]))
    (hrows : ∀ r ∈ rows, (r.map (·.1)).Nodup ∧ ∀ k ∈ r.map (·.1), k ∈ headers) :
    convertH root sub settings headers rows survey = convert root sub settings rows survey := by
  unfold convertH
  rw [dealiasSheet_plain headers rows hplain hrows]

set_option maxRecDepth 20000 in
example : dealiasSheet ["dataset".toList, "label".toList] [[("dataset".toList, "t".toList), ("label".toList, "x".toList)]] =
    .ok [[("dataset".toList, "t".toList), ("label".toList, "x".toList)]] :=
  dealiasSheet_plain _ _ (by decide +kernel) (by decide +kernel)

end Pyxv.C19
