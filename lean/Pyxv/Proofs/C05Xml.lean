import Pyxv.Proofs.C05
import Pyxv.Proofs.XmlRoundTrip
/-!
# C05 ∘ XML round trip: what an XML reader reads from the written bind is the spec value

`bind_of_row` says which attribute list `xml_bindings` hands to the DOM; `Pyxv.Xml.render_parses_compact_lax` says what a
reader gets back from the text minidom's `_write_data` writes for it.  Composed: the value of attribute `k` that a parser
reports for the row's `<bind>` is the property's value (the row's own cell else the type table's value, converted,
reference-substituted), up to the attribute-value normalisation every XML reader applies (TAB / LF / CR → space).  In
particular text shaped like a character or entity reference (`&#10;`, `&amp;`) comes back as typed.
-/
namespace Pyxv.C05
open Pyxv Pyxv.Binds Pyxv.Xml

/-- the DOM element `xml_bindings` yields -/
def bindNode (path : Str) (attrs : List (Str × Str)) : Node :=
  .elem "bind".toList (("nodeset".toList, path) :: attrs) []

/-- render the row's bind as pyxform does, parse the text: the reader reports a `bind` element whose attribute `k`
    (any name other than `nodeset`) is the property's value for `k`, attribute-value normalised -/
theorem bind_read_back (root : Str) (tops : List Str) (path : Str) (trig : Bool)
    (tt : List (Str × Str)) (logic : BindDict) (attrs : List (Str × Str))
    (hl : (logic.map (·.1)).Nodup)
    (h : attrsOf root tops path trig (dictUpdate (tt.map fun (k, v) => (k, BVal.s v)) logic) = some attrs)
    (hwf : attrsWFLax (("nodeset".toList, path) :: attrs) = true) :
    ∃ a', parseDoc (renderDoc false (bindNode path attrs)) = some (.elem "bind".toList a' []) ∧
      ∀ k, k ≠ "nodeset".toList →
        lookup k a' = ((Spec.source tt logic trig k).bind (Spec.value root tops path k)).map normAttrVal := by
  have hw : (bindNode path attrs).WFLax = true := by
    simp only [bindNode, Node.WFLax, WFKidsLax, hwf, Bool.and_true]
    decide
  refine ⟨normAttrList (("nodeset".toList, path) :: attrs), ?_, ?_⟩
  · rw [render_parses_compact_lax _ hw rfl, bindNode, expectedLax_leaf]
  · intro k hk
    rw [lookup_normAttrList]
    simp only [lookup, if_neg hk]
    rw [bind_of_row root tops path trig tt logic attrs hl h k]

/-- … and exactly the property's value when that value has no TAB / LF / CR.  `clean_text_values` removes these at the
    ends of a cell only (`str.strip`; `RE_WHITESPACE` collapses U+0020 only), so for a multi-line logic cell only
    `bind_read_back` applies. -/
theorem bind_read_back_exact (root : Str) (tops : List Str) (path : Str) (trig : Bool)
    (tt : List (Str × Str)) (logic : BindDict) (attrs : List (Str × Str))
    (hl : (logic.map (·.1)).Nodup)
    (h : attrsOf root tops path trig (dictUpdate (tt.map fun (k, v) => (k, BVal.s v)) logic) = some attrs)
    (hwf : attrsWF (("nodeset".toList, path) :: attrs) = true) :
    ∃ a', parseDoc (renderDoc false (bindNode path attrs)) = some (.elem "bind".toList a' []) ∧
      ∀ k, k ≠ "nodeset".toList →
        lookup k a' = (Spec.source tt logic trig k).bind (Spec.value root tops path k) := by
  obtain ⟨a', hp, hk⟩ := bind_read_back root tops path trig tt logic attrs hl h (attrsWFLax_of_attrsWF hwf)
  refine ⟨a', hp, fun k hne => ?_⟩
  rw [hk k hne, ← bind_of_row root tops path trig tt logic attrs hl h k]
  cases hlk : lookup k attrs with
  | none => rfl
  | some v =>
    simp only [Option.map_some, Option.some.injEq]
    apply normAttrVal_ok
    -- `v` is one of the values of `attrs`, all of which are `attrCharOk`
    simp only [attrsWF, List.all_cons, Bool.and_eq_true] at hwf
    have := List.all_eq_true.mp hwf.1.2 (k, v) (lookup_mem hlk)
    simp only [Bool.and_eq_true] at this
    exact this.2

/-! non-vacuity: a constraint with reference-shaped text and a message with a quote, written and read back -/

private def s (x : String) : Str := x.toList

private def exAttrs : List (Str × Str) :=
  [(s "type", s "string"), (s "constraint", s ". != '&#10;' and . < \"&amp;\""), (s "jr:constraintMsg", s "a < b & c")]

example : attrsOf (s "data") [] (s "/data/q") false
    (dictUpdate ([(s "type", s "string")].map fun (k, v) => (k, BVal.s v))
      [(s "constraint", .s (s ". != '&#10;' and . < \"&amp;\"")), (s "jr:constraintMsg", .s (s "a < b & c"))]) = some exAttrs := by
  simp only [exAttrs, s, toList_lit rfl]; decide +kernel

example : attrsWF ((s "nodeset", s "/data/q") :: exAttrs) = true := by
  simp only [exAttrs, s, toList_lit rfl]; decide +kernel

example : parseDoc (renderDoc false (bindNode (s "/data/q") exAttrs)) =
    some (.elem (s "bind") ((s "nodeset", s "/data/q") :: exAttrs) []) := by
  simp only [exAttrs, s, toList_lit rfl]; decide +kernel

end Pyxv.C05
