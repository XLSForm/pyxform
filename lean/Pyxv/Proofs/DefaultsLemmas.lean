import Pyxv.Model.Defaults
import Pyxv.Proofs.BaseLemmas
/-!
# Lemmas about `Pyxv.Defaults` (property C10)

Specifications (`exp…`): separate, shorter definitions that emit exactly one item per relevant
question in ONE document-order traversal; the lemmas relate what the mechanism model writes into
`<model>` / `<repeat>` / controls / binds / the instance to these.
-/
namespace Pyxv.Defaults
open Pyxv List

/-- induction over an element forest (the recursor of the nested type) -/
theorem els_induction {motive : List El → Prop} (nil : motive [])
    (q : ∀ d rest, motive rest → motive (.q d :: rest))
    (grp : ∀ n ks rest, motive ks → motive rest → motive (.grp n ks :: rest))
    (rep : ∀ n ks rest, motive ks → motive rest → motive (.rep n ks :: rest)) : ∀ els, motive els :=
  @El.rec_1 (fun e => ∀ rest, motive rest → motive (e :: rest)) motive
    (fun d rest h => q d rest h) (fun n ks ihk rest h => grp n ks rest ihk h) (fun n ks ihk rest h => rep n ks rest ihk h) nil
    (fun _ ks ihk ihks => ihk ks ihks)

/-- every question with its absolute path, document order -/
def qwp (pre : Path) : List El → List (Path × Q)
  | [] => []
  | .q d :: rest => (pre ++ [d.name], d) :: qwp pre rest
  | .grp n ks :: rest => qwp (pre ++ [n]) ks ++ qwp pre rest
  | .rep n ks :: rest => qwp (pre ++ [n]) ks ++ qwp pre rest

/-- questions with path and nearest repeat ancestor (`none` = no repeat ancestor) -/
def qwn (pre : Path) (near : Option Path) : List El → List (Path × Option Path × Q)
  | [] => []
  | .q d :: rest => (pre ++ [d.name], near, d) :: qwn pre near rest
  | .grp n ks :: rest => qwn (pre ++ [n]) near ks ++ qwn pre near rest
  | .rep n ks :: rest => qwn (pre ++ [n]) (some (pre ++ [n])) ks ++ qwn pre near rest

/-- a traversal that emits per question and concatenates is a `flatMap` over `qwn`: the one induction behind every
    `… = (qwn …).flatMap …` below -/
theorem flatMap_qwn {β} {f : Path → Option Path → List El → List β} {g : Path × Option Path × Q → List β}
    (nil : ∀ pre near, f pre near [] = [])
    (q : ∀ pre near d rest, f pre near (.q d :: rest) = g (pre ++ [d.name], near, d) ++ f pre near rest)
    (grp : ∀ pre near n ks rest, f pre near (.grp n ks :: rest) = f (pre ++ [n]) near ks ++ f pre near rest)
    (rep : ∀ pre near n ks rest,
      f pre near (.rep n ks :: rest) = f (pre ++ [n]) (some (pre ++ [n])) ks ++ f pre near rest) :
    ∀ els pre near, f pre near els = (qwn pre near els).flatMap g := by
  intro els
  induction els using els_induction with
  | nil =>
    intro pre near
    rw [nil, qwn, List.flatMap_nil]
  | q d rest ih =>
    intro pre near
    rw [q, qwn, List.flatMap_cons, ih]
  | grp n ks rest ihk ih =>
    intro pre near
    rw [grp, qwn, List.flatMap_append, ihk, ih]
  | rep n ks rest ihk ih =>
    intro pre near
    rw [rep, qwn, List.flatMap_append, ihk, ih]

theorem qwn_forget (els : List El) (pre : Path) (near : Option Path) :
    (qwn pre near els).map (fun y => (y.1, y.2.2)) = qwp pre els := by
  rw [List.map_eq_flatMap]
  exact (flatMap_qwn (f := fun pre _ els => qwp pre els) (fun _ _ => qwp.eq_1 _) (fun _ _ => qwp.eq_2 _)
    (fun _ _ => qwp.eq_3 _) (fun _ _ => qwp.eq_4 _) els pre near).symm

/-- the same for traversals that do not look at the nearest repeat -/
theorem flatMap_qwp {β} {f : Path → List El → List β} {g : Path × Q → List β}
    (nil : ∀ pre, f pre [] = [])
    (q : ∀ pre d rest, f pre (.q d :: rest) = g (pre ++ [d.name], d) ++ f pre rest)
    (grp : ∀ pre n ks rest, f pre (.grp n ks :: rest) = f (pre ++ [n]) ks ++ f pre rest)
    (rep : ∀ pre n ks rest, f pre (.rep n ks :: rest) = f (pre ++ [n]) ks ++ f pre rest)
    (els : List El) (pre : Path) : f pre els = (qwp pre els).flatMap g := by
  rw [← qwn_forget els pre none, List.flatMap_map]
  exact flatMap_qwn (f := fun pre _ els => f pre els) (fun pre _ => nil pre) (fun pre _ => q pre) (fun pre _ => grp pre)
    (fun pre _ => rep pre) els pre none

theorem qwn_mem_induct {P : Path → Option Path → List El → Path × Option Path × Q → Prop}
    (here : ∀ pre near d rest, P pre near (.q d :: rest) (pre ++ [d.name], near, d))
    (tail : ∀ pre near e rest y, P pre near rest y → P pre near (e :: rest) y)
    (grp : ∀ pre near n ks rest y, P (pre ++ [n]) near ks y → P pre near (.grp n ks :: rest) y)
    (rep : ∀ pre near n ks rest y, P (pre ++ [n]) (some (pre ++ [n])) ks y → P pre near (.rep n ks :: rest) y) :
    ∀ els pre near y, y ∈ qwn pre near els → P pre near els y := by
  intro els
  induction els using els_induction with
  | nil =>
    intro _ _ y h
    simp [qwn] at h
  | q d rest ih =>
    intro pre near y h
    rcases List.mem_cons.1 (by simpa only [qwn] using h) with rfl | h
    · exact here ..
    · exact tail _ _ _ _ _ (ih _ _ _ h)
  | grp n ks rest ihk ih =>
    intro pre near y h
    rcases List.mem_append.1 (by simpa only [qwn] using h) with h | h
    · exact grp _ _ _ _ _ _ (ihk _ _ _ h)
    · exact tail _ _ _ _ _ (ih _ _ _ h)
  | rep n ks rest ihk ih =>
    intro pre near y h
    rcases List.mem_append.1 (by simpa only [qwn] using h) with h | h
    · exact rep _ _ _ _ _ _ (ihk _ _ _ h)
    · exact tail _ _ _ _ _ (ih _ _ _ h)

variable (dyn : Q → Bool) (sub : Path → Str → Str)

/-- the one setvalue a question with a dynamic default must have: at its nearest repeat ancestor `near`
    (`none` = `<model>`), fired on first load and, inside a repeat, for new instances -/
def expSet (pre : Path) (near : Option Path) (d : Q) : List SetFact :=
  if hasDynDefault dyn d then
    [{ loc := near,
       set := { tag := "setvalue".toList, ref := pre ++ [d.name],
                event := if near.isSome then evNewRepeat else evFirstLoad,
                value := some (sub (pre ++ [d.name]) d.default) } }]
  else []

/-- spec: one traversal, `near` = nearest repeat ancestor -/
def expSets (pre : Path) (near : Option Path) : List El → List SetFact
  | [] => []
  | .q d :: rest => expSet dyn sub pre near d ++ expSets pre near rest
  | .grp n ks :: rest => expSets (pre ++ [n]) near ks ++ expSets pre near rest
  | .rep n ks :: rest => expSets (pre ++ [n]) (some (pre ++ [n])) ks ++ expSets pre near rest

theorem perm4 {α} (a b c d : List α) : ((a ++ b) ++ (c ++ d)).Perm ((a ++ c) ++ (b ++ d)) := by
  rw [List.append_assoc, List.append_assoc]
  exact List.Perm.append_left a (List.perm_append_comm_assoc b c d)

theorem bodySetsL_append (a b : List Body) : bodySetsL (a ++ b) = bodySetsL a ++ bodySetsL b :=
  append_of_eqns rfl (fun _ _ => rfl) a b

theorem bodySetsL_qCtl (paths : Str → Path) (tbl : List Trig) (pre : Path) (d : Q) :
    bodySetsL (qCtl sub paths tbl pre d) = [] := by
  unfold qCtl
  split <;> simp [bodySetsL, bodySets]

theorem dynSet_map (pre : Path) (near : Option Path) (d : Q) :
    (dynSet dyn sub pre near.isSome d).map (fun s => ({ loc := near, set := s } : SetFact)) =
      expSet dyn sub pre near d := by
  unfold dynSet expSet
  split <;> simp

/-- `xml_descendent_bindings` for `<model>`, `_dynamic_defaults_helper` for a repeat: they differ in the event only -/
def nearSets (near : Option Path) (pre : Path) (els : List El) : List SetV :=
  if near.isSome then helperSets dyn sub pre els else modelSets dyn sub pre els

theorem nearSets_nil (near : Option Path) (pre : Path) : nearSets dyn sub near pre [] = [] := by
  cases near <;> simp [nearSets, helperSets, modelSets]

theorem nearSets_q (near : Option Path) (pre : Path) (d : Q) (rest : List El) :
    nearSets dyn sub near pre (.q d :: rest) = dynSet dyn sub pre near.isSome d ++ nearSets dyn sub near pre rest := by
  cases near <;> simp [nearSets, helperSets, modelSets]

theorem nearSets_grp (near : Option Path) (pre : Path) (n : Str) (ks rest : List El) :
    nearSets dyn sub near pre (.grp n ks :: rest) =
      nearSets dyn sub near (pre ++ [n]) ks ++ nearSets dyn sub near pre rest := by
  cases near <;> simp [nearSets, helperSets, modelSets]

theorem nearSets_rep (near : Option Path) (pre : Path) (n : Str) (ks rest : List El) :
    nearSets dyn sub near pre (.rep n ks :: rest) = nearSets dyn sub near pre rest := by
  cases near <;> simp [nearSets, helperSets, modelSets]

/-- what the builder collects for `near` (`<model>` or a repeat) plus what the repeats nested in the body carry
    is the spec -/
theorem near_sets (paths : Str → Path) (tbl : List Trig) :
    ∀ (els : List El) (near : Option Path) (pre : Path),
      (((nearSets dyn sub near pre els).map fun s => ({ loc := near, set := s } : SetFact)) ++
        bodySetsL (body dyn sub paths tbl pre els)).Perm (expSets dyn sub pre near els) := by
  intro els
  induction els using els_induction with
  | nil =>
    intro near pre
    simp [nearSets_nil, body, bodySetsL, expSets]
  | q d rest ih =>
    intro near pre
    simp only [nearSets_q, body, expSets, List.map_append, bodySetsL_append, bodySetsL_qCtl,
      List.nil_append, dynSet_map, List.append_assoc]
    exact List.Perm.append_left _ (ih near pre)
  | grp n ks rest ihk ih =>
    intro near pre
    simp only [nearSets_grp, body, expSets, List.map_append, bodySetsL, bodySets]
    exact (perm4 _ _ _ _).trans (List.Perm.append (ihk near (pre ++ [n])) (ih near pre))
  | rep n ks rest ihk ih =>
    intro near pre
    have ih1 := ihk (some (pre ++ [n])) (pre ++ [n])
    simp only [nearSets, Option.isSome_some, if_true] at ih1
    simp only [nearSets_rep, body, expSets, bodySetsL, bodySets]
    -- the nested repeat's own block moves to the front, where the spec has it
    exact (List.perm_append_comm_assoc _ _ _).trans (List.Perm.append (List.perm_append_comm.trans ih1) (ih near pre))

theorem model_sets (paths : Str → Path) (tbl : List Trig) (els : List El) (pre : Path) :
    (((modelSets dyn sub pre els).map fun s => ({ loc := none, set := s } : SetFact)) ++
      bodySetsL (body dyn sub paths tbl pre els)).Perm (expSets dyn sub pre none els) :=
  near_sets dyn sub paths tbl els none pre

/-- spec: the bind carries `calculate` iff the question has a calculation and NO trigger (with the yes/no →
    `true()`/`false()` conversion of `xml_bindings`) -/
def expBind (x : Path × Q) : Bind :=
  { path := x.1, calculate := if !x.2.trigger.isEmpty || x.2.calcu.isEmpty then none else some (sub x.1 (bindConv x.2.calcu)) }

theorem binds_eq (els : List El) (pre : Path) :
    binds sub pre els = (qwp pre els).flatMap fun x => if x.2.hasBind then [expBind sub x] else [] :=
  flatMap_qwp (f := binds sub) (binds.eq_1 sub) (binds.eq_2 sub) (binds.eq_3 sub) (binds.eq_4 sub) els pre

theorem trigTable_eq (els : List El) (pre : Path) :
    trigTable els = (qwp pre els).flatMap fun x => saveTrigger x.2 :=
  flatMap_qwp (f := fun _ => trigTable) (fun _ => trigTable.eq_1) (fun _ => trigTable.eq_2) (fun _ => trigTable.eq_3)
    (fun _ => trigTable.eq_4) els pre

/-- spec: the set-nodes nested in the control of a shown question `t`: one per table entry keyed exactly `${t}` —
    setvalues first, then setgeopoints — each targeting its entry's question -/
def expNested (paths : Str → Path) (tbl : List Trig) (x : Path × Q) : List TrigFact :=
  if shown x.2 then
    ((triggered tbl x.2.name false).map fun e =>
      ({ ctl := x.1, set := { tag := "setvalue".toList, ref := paths e.target, event := evChanged,
                              value := if e.value.isEmpty then none else some (sub (paths e.target) e.value) } } : TrigFact)) ++
    ((triggered tbl x.2.name true).map fun e =>
      ({ ctl := x.1, set := { tag := "odk:setgeopoint".toList, ref := paths e.target, event := evChanged,
                              value := if e.value.isEmpty then none else some (sub (paths e.target) e.value) } } : TrigFact))
  else []

theorem bodyTrigsL_append (a b : List Body) : bodyTrigsL (a ++ b) = bodyTrigsL a ++ bodyTrigsL b :=
  append_of_eqns rfl (fun _ _ => rfl) a b

theorem bodyTrigsL_qCtl (paths : Str → Path) (tbl : List Trig) (pre : Path) (d : Q) :
    bodyTrigsL (qCtl sub paths tbl pre d) = expNested sub paths tbl (pre ++ [d.name], d) := by
  unfold qCtl expNested
  split <;> simp [bodyTrigsL, bodyTrigs, nestSets, List.map_append, Function.comp_def]

theorem trigs_eq (paths : Str → Path) (tbl : List Trig) (els : List El) (pre : Path) :
    bodyTrigsL (body dyn sub paths tbl pre els) = (qwp pre els).flatMap (expNested sub paths tbl) :=
  flatMap_qwp (f := fun pre els => bodyTrigsL (body dyn sub paths tbl pre els)) (fun _ => by rw [body, bodyTrigsL])
    (fun pre d rest => by rw [body, bodyTrigsL_append, bodyTrigsL_qCtl])
    (fun _ _ _ _ => by simp only [body, bodyTrigsL, bodyTrigs]) (fun _ _ _ _ => by simp only [body, bodyTrigsL, bodyTrigs])
    els pre

theorem leaves_node_of_ne {pre : Path} {inT : Bool} {n : Str} {t : Bool} {txt : Str} {ks : List IT}
    (h : ks ≠ []) : leaves pre inT (.node n t txt ks) = leavesL (pre ++ [n]) (inT || t) ks := by
  cases ks with
  | nil => exact absurd rfl h
  | cons k ks => simp [leaves]

theorem mem_leaves_node {pre : Path} {inT : Bool} {n : Str} {t : Bool} {txt : Str} {ks : List IT} {l : Leaf}
    (h : l ∈ leavesL (pre ++ [n]) (inT || t) ks) : l ∈ leaves pre inT (.node n t txt ks) := by
  rw [leaves_node_of_ne fun h0 => by simp [h0, leavesL] at h]
  exact h

theorem instKids_ne (app : Bool) (els : List El) (h : els ≠ []) : instKids dyn app els ≠ [] := by
  cases els with
  | nil => exact absurd rfl h
  | cons e rest =>
    cases e with
    | q d => simp [instKids]
    | grp n ks => simp [instKids]
    | rep n ks => cases app <;> simp [instKids]

theorem tmplKids_ne (els : List El) (h : els ≠ []) : tmplKids dyn els ≠ [] := by
  cases els with
  | nil => exact absurd rfl h
  | cons e rest => cases e <;> simp [tmplKids]

/-- the node a question must have: its text is the default iff the default is static -/
def expLeaf (inT : Bool) (x : Path × Q) : Leaf := { path := x.1, tmpl := inT, text := instText dyn x.2 }

theorem leaves_qNode (d : Q) (pre : Path) (inT : Bool) :
    leaves pre inT (qNode dyn d) = [expLeaf dyn inT (pre ++ [d.name], d)] := by
  simp [qNode, leaves, expLeaf]

/-- questions that have a repeat ancestor (relative to the list) -/
def qInRepeat (pre : Path) : List El → List (Path × Q)
  | [] => []
  | .q _ :: rest => qInRepeat pre rest
  | .grp n ks :: rest => qInRepeat (pre ++ [n]) ks ++ qInRepeat pre rest
  | .rep n ks :: rest => qwp (pre ++ [n]) ks ++ qInRepeat pre rest

theorem qInRepeat_eq (els : List El) (pre : Path) :
    qInRepeat pre els = (qwn pre none els).flatMap fun y => if y.2.1.isSome then [(y.1, y.2.2)] else [] :=
  -- below a repeat (`near` defined) every question counts: there the traversal is `qwp`
  flatMap_qwn (f := fun pre near els => if near.isSome then qwp pre els else qInRepeat pre els)
    (fun _ near => by cases near <;> simp [qwp, qInRepeat]) (fun _ near _ _ => by cases near <;> simp [qwp, qInRepeat])
    (fun _ near _ _ _ => by cases near <;> simp [qwp, qInRepeat]) (fun _ near _ _ _ => by cases near <;> simp [qwp, qInRepeat])
    els pre none

theorem qInRepeat_subset (els : List El) (pre : Path) : qInRepeat pre els ⊆ qwp pre els := by
  intro x hx
  rw [qInRepeat_eq, List.mem_flatMap] at hx
  obtain ⟨y, hy, h⟩ := hx
  split at h
  · rw [List.mem_singleton.1 h, ← qwn_forget els pre none]
    exact List.mem_map_of_mem hy
  · cases h

theorem qwn_inRepeat (els : List El) (pre : Path) (y : Path × Option Path × Q) (hy : y ∈ qwn pre none els)
    (hs : y.2.1.isSome = true) : (y.1, y.2.2) ∈ qInRepeat pre els := by
  rw [qInRepeat_eq, List.mem_flatMap]
  exact ⟨y, hy, by simp [hs]⟩

theorem leavesL_kids_subset {pre : Path} {inT : Bool} {n : Str} {t b : Bool} {txt : Str} {ks rest : List IT}
    (hb : (inT || t) = b) : leavesL (pre ++ [n]) b ks ⊆ leavesL pre inT (.node n t txt ks :: rest) :=
  fun _ h => List.mem_append_left _ (mem_leaves_node (hb ▸ h))

theorem leavesL_rest_subset {pre : Path} {inT : Bool} {k : IT} {rest : List IT} :
    leavesL pre inT rest ⊆ leavesL pre inT (k :: rest) :=
  fun _ h => List.mem_append_right _ h

/-- coverage: every question has its node in every copy of its section that `Section.xml_instance` writes; a question
    below a repeat also in a `jr:template` copy -/
theorem leaves_cover (els : List El) :
    (∀ pre inT app, (qwp pre els).map (expLeaf dyn inT) ⊆ leavesL pre inT (instKids dyn app els)) ∧
    (∀ pre inT, (qInRepeat pre els).map (expLeaf dyn true) ⊆ leavesL pre inT (instKids dyn false els)) ∧
    (∀ pre, (qwp pre els).map (expLeaf dyn true) ⊆ leavesL pre true (tmplKids dyn els)) := by
  induction els using els_induction with
  | nil => simp [qwp, qInRepeat]
  | q d rest ih =>
    obtain ⟨r1, r2, r3⟩ := ih
    have hq := leaves_qNode dyn d
    refine ⟨fun pre inT app => ?_, fun pre inT => ?_, fun pre => ?_⟩
    · simp only [qwp, instKids, leavesL, hq, List.map_cons, List.singleton_append]
      exact List.cons_subset_cons _ (r1 pre inT app)
    · simp only [qInRepeat, instKids]
      exact (r2 pre inT).trans leavesL_rest_subset
    · simp only [qwp, tmplKids, leavesL, hq, List.map_cons, List.singleton_append]
      exact List.cons_subset_cons _ (r3 pre)
  | grp n ks rest ihk ih =>
    obtain ⟨k1, k2, k3⟩ := ihk
    obtain ⟨r1, r2, r3⟩ := ih
    refine ⟨fun pre inT app => ?_, fun pre inT => ?_, fun pre => ?_⟩
    · simp only [qwp, instKids, List.map_append]
      exact List.append_subset.2 ⟨(k1 _ _ app).trans (leavesL_kids_subset (Bool.or_false _)),
        (r1 pre inT app).trans leavesL_rest_subset⟩
    · simp only [qInRepeat, instKids, List.map_append]
      exact List.append_subset.2 ⟨(k2 _ _).trans (leavesL_kids_subset (Bool.or_false _)),
        (r2 pre inT).trans leavesL_rest_subset⟩
    · simp only [qwp, tmplKids, List.map_append]
      exact List.append_subset.2 ⟨(k1 _ _ false).trans (leavesL_kids_subset rfl), (r3 pre).trans leavesL_rest_subset⟩
  | rep n ks rest ihk ih =>
    obtain ⟨k1, k2, k3⟩ := ihk
    obtain ⟨r1, r2, r3⟩ := ih
    refine ⟨fun pre inT app => ?_, fun pre inT => ?_, fun pre => ?_⟩
    · cases app
      · simp only [qwp, instKids, Bool.false_eq_true, if_false, List.map_append]
        exact List.append_subset.2
          ⟨((k1 _ _ true).trans (leavesL_kids_subset (Bool.or_false _))).trans leavesL_rest_subset,
            ((r1 pre inT false).trans leavesL_rest_subset).trans leavesL_rest_subset⟩
      · simp only [qwp, instKids, if_true, List.map_append]
        exact List.append_subset.2 ⟨(k1 _ _ true).trans (leavesL_kids_subset (Bool.or_false _)),
          (r1 pre inT true).trans leavesL_rest_subset⟩
    · simp only [qInRepeat, instKids, Bool.false_eq_true, if_false, List.map_append]
      exact List.append_subset.2 ⟨(k3 _).trans (leavesL_kids_subset (Bool.or_true _)),
        ((r2 pre inT).trans leavesL_rest_subset).trans leavesL_rest_subset⟩
    · simp only [qwp, tmplKids, List.map_append]
      exact List.append_subset.2 ⟨(k3 _).trans (leavesL_kids_subset rfl), (r3 pre).trans leavesL_rest_subset⟩

/-- no section is empty (an empty group crashes the implementation: finding F13, property C17) -/
def secsNonEmpty : List El → Bool
  | [] => true
  | .q _ :: rest => secsNonEmpty rest
  | .grp _ ks :: rest => !ks.isEmpty && secsNonEmpty ks && secsNonEmpty rest
  | .rep _ ks :: rest => !ks.isEmpty && secsNonEmpty ks && secsNonEmpty rest

theorem ne_of_not_isEmpty {α} {l : List α} (h : (!l.isEmpty) = true) : l ≠ [] := by
  cases l <;> simp_all

theorem leavesL_sec {pre : Path} {inT : Bool} {n : Str} {t : Bool} {ks rest : List IT} (h : ks ≠ []) :
    leavesL pre inT (.node n t [] ks :: rest) = leavesL (pre ++ [n]) (inT || t) ks ++ leavesL pre inT rest := by
  rw [leavesL, leaves_node_of_ne h]

/-- when no section is empty the instance has the leaves `leaves_cover` names and no others -/
theorem mem_leaves (els : List El) (hne : secsNonEmpty els = true) :
    (∀ pre inT app l, l ∈ leavesL pre inT (instKids dyn app els) ↔
      l ∈ (qwp pre els).map (expLeaf dyn inT) ∨ (app = false ∧ l ∈ (qInRepeat pre els).map (expLeaf dyn true))) ∧
    (∀ pre l, l ∈ leavesL pre true (tmplKids dyn els) ↔ l ∈ (qwp pre els).map (expLeaf dyn true)) := by
  induction els using els_induction with
  | nil => simp [instKids, tmplKids, leavesL, qwp, qInRepeat]
  | q d rest ih =>
    obtain ⟨r1, r2⟩ := ih (by simpa [secsNonEmpty] using hne)
    have hq := leaves_qNode dyn d
    constructor
    · intro pre inT app l
      simp only [instKids, leavesL, hq, qwp, qInRepeat, List.map_cons, List.mem_append, List.mem_cons, r1,
        List.not_mem_nil, or_false, or_assoc]
    · intro pre l
      simp only [tmplKids, leavesL, hq, qwp, List.map_cons, List.mem_append, List.mem_cons, r2, List.not_mem_nil, or_false]
  | grp n ks rest ihk ih =>
    simp only [secsNonEmpty, Bool.and_eq_true] at hne
    have hk := ne_of_not_isEmpty hne.1.1
    obtain ⟨k1, k2⟩ := ihk hne.1.2
    obtain ⟨r1, r2⟩ := ih hne.2
    constructor
    · intro pre inT app l
      simp only [instKids, leavesL_sec (instKids_ne dyn app ks hk), qwp, qInRepeat, List.map_append, List.mem_append,
        k1, r1, Bool.or_false, and_or_left]
      exact or_or_or_comm
    · intro pre l
      -- a group inside a template restarts `xml_instance`: its repeats get template copies again, all marked already
      have := List.map_subset (expLeaf dyn true) (qInRepeat_subset ks (pre ++ [n]))
      simp only [tmplKids, leavesL_sec (instKids_ne dyn false ks hk), qwp, List.map_append, List.mem_append,
        k1, r2, Bool.or_false, true_and]
      exact ⟨fun h => h.elim (fun h => h.elim .inl fun h => .inl (this h)) .inr, fun h => h.elim (.inl ∘ .inl) .inr⟩
  | rep n ks rest ihk ih =>
    simp only [secsNonEmpty, Bool.and_eq_true] at hne
    have hk := ne_of_not_isEmpty hne.1.1
    obtain ⟨k1, k2⟩ := ihk hne.1.2
    obtain ⟨r1, r2⟩ := ih hne.2
    constructor
    · intro pre inT app l
      cases app
      · simp only [instKids, Bool.false_eq_true, if_false, leavesL_sec (tmplKids_ne dyn ks hk),
          leavesL_sec (instKids_ne dyn true ks hk), qwp, qInRepeat, List.map_append, List.mem_append, k1, k2, r1,
          Bool.or_false, Bool.or_true, true_and, Bool.true_eq_false, false_and, or_false]
        -- the same four disjuncts on both sides, regrouped
        exact or_left_comm.trans ((or_congr_right or_left_comm).trans or_assoc.symm)
      · simp only [instKids, if_true, leavesL_sec (instKids_ne dyn true ks hk), qwp, List.map_append, List.mem_append,
          k1, r1, Bool.or_false, Bool.true_eq_false, false_and, or_false]
    · intro pre l
      simp only [tmplKids, leavesL_sec (tmplKids_ne dyn ks hk), qwp, List.map_append, List.mem_append, k2, r2,
        Bool.or_true]

/-- `expSet` on an entry of `qwn` -/
def expSetP (y : Path × Option Path × Q) : List SetFact :=
  if hasDynDefault dyn y.2.2 then
    [{ loc := y.2.1,
       set := { tag := "setvalue".toList, ref := y.1,
                event := if y.2.1.isSome then evNewRepeat else evFirstLoad,
                value := some (sub y.1 y.2.2.default) } }]
  else []

theorem expSetP_eq (pre : Path) (near : Option Path) (d : Q) :
    expSetP dyn sub (pre ++ [d.name], near, d) = expSet dyn sub pre near d := rfl

theorem expSets_eq_flatMap (els : List El) (pre : Path) (near : Option Path) :
    expSets dyn sub pre near els = (qwn pre near els).flatMap (expSetP dyn sub) :=
  flatMap_qwn (f := expSets dyn sub) (expSets.eq_1 dyn sub) (fun pre near d rest => by rw [expSets, expSetP_eq])
    (expSets.eq_3 dyn sub) (expSets.eq_4 dyn sub) els pre near

theorem expSetP_ref (z : Path × Option Path × Q) (f : SetFact) (hf : f ∈ expSetP dyn sub z) : f.set.ref = z.1 := by
  unfold expSetP at hf
  split at hf
  · simp only [List.mem_singleton] at hf; subst hf; rfl
  · simp at hf

theorem qwn_some : ∀ (els : List El) (pre r : Path) (y : Path × Option Path × Q),
    y ∈ qwn pre (some r) els → y.2.1.isSome = true :=
  fun els pre r y h =>
    qwn_mem_induct (P := fun _ near _ y => near.isSome = true → y.2.1.isSome = true)
      (fun _ _ _ _ h => h) (fun _ _ _ _ _ h => h) (fun _ _ _ _ _ _ h => h) (fun _ _ _ _ _ _ h _ => h rfl)
      els pre (some r) y h rfl

/-- with unique keys, filtering a `flatMap` by one key leaves that key's part -/
theorem filter_flatMap_unique {α β γ} [DecidableEq γ] (key : α → γ) (r : β → γ) (g : α → List β)
    (hg : ∀ z f, f ∈ g z → r f = key z) (l : List α) (hnd : (l.map key).Nodup) (y : α) (hy : y ∈ l) :
    (l.flatMap g).filter (fun f => decide (r f = key y)) = g y := by
  rw [List.filter_flatMap, flatMap_single key _ l hnd y hy fun x _ hne =>
    List.filter_eq_nil_iff.2 fun f hf => by simp [hg x f hf, hne]]
  exact List.filter_eq_self.2 fun f hf => by simp [hg y f hf]

theorem qPaths_last : ∀ (els : List El) (pre : Path) (x : Str × Path), x ∈ qPaths pre els → x.2.getLast? = some x.1 := by
  intro els
  induction els using els_induction with
  | nil =>
    intro _ x
    simp [qPaths]
  | q d rest ih =>
    intro pre x h
    simp only [qPaths, List.mem_cons] at h
    rcases h with h | h
    · subst h; simp
    · exact ih pre x h
  | grp n ks rest ihk ih | rep n ks rest ihk ih =>
    intro pre x h
    simp only [qPaths, List.mem_cons, List.mem_append] at h
    rcases h with h | h | h
    · subst h; simp
    · exact ihk (pre ++ [n]) x h
    · exact ih pre x h

theorem qwp_sublist_qPaths : ∀ (els : List El) (pre : Path),
    ((qwp pre els).map fun x => (x.2.name, x.1)).Sublist (qPaths pre els) := by
  intro els
  induction els using els_induction with
  | nil =>
    intro _
    simp [qwp, qPaths]
  | q d rest ih =>
    intro pre
    simp only [qwp, qPaths, List.map_cons]
    exact (ih pre).cons_cons _
  | grp n ks rest ihk ih | rep n ks rest ihk ih =>
    intro pre
    simp only [qwp, qPaths, List.map_append]
    exact ((ihk (pre ++ [n])).append (ih pre)).cons _

theorem qwp_in_qPaths (els : List El) (pre : Path) (x : Path × Q) (h : x ∈ qwp pre els) :
    (x.2.name, x.1) ∈ qPaths pre els :=
  (qwp_sublist_qPaths els pre).subset (List.mem_map_of_mem (f := fun x : Path × Q => (x.2.name, x.1)) h)

theorem qwp_names_sublist (els : List El) (pre : Path) :
    ((qwp pre els).map fun x => x.2.name).Sublist ((qPaths pre els).map (·.1)) := by
  simpa [List.map_map, Function.comp_def] using (qwp_sublist_qPaths els pre).map (·.1)

/-- the path table answers the name of a question with one of its own entries (of the first element of that name) -/
theorem pathOf_mem (els : List El) (pre : Path) (x : Path × Q) (hx : x ∈ qwp pre els) :
    (x.2.name, pathOf (qPaths pre els) x.2.name) ∈ qPaths pre els := by
  obtain ⟨v, hv⟩ := exists_lookup_of_mem_keys (List.mem_map_of_mem (f := (·.1)) (qwp_in_qPaths els pre x hx))
  rw [pathOf, hv]
  exact lookup_mem hv

theorem pathOf_inj (els : List El) (pre : Path) (x y : Path × Q)
    (hx : x ∈ qwp pre els) (hy : y ∈ qwp pre els)
    (h : pathOf (qPaths pre els) x.2.name = pathOf (qPaths pre els) y.2.name) : x.2.name = y.2.name := by
  have l1 := qPaths_last els pre _ (pathOf_mem els pre x hx)
  have l2 := qPaths_last els pre _ (pathOf_mem els pre y hy)
  rw [h] at l1
  exact Option.some.inj (l1.symm.trans l2)

theorem saveTrigger_target (d : Q) (e : Trig) (h : e ∈ saveTrigger d) : e.target = d.name := by
  unfold saveTrigger at h
  split at h
  · simp at h
  · simp only [List.mem_singleton] at h; subst h; rfl

theorem tbl_filter_target (els : List El) (pre : Path) (y : Path × Q) (hy : y ∈ qwp pre els)
    (hn : ((qwp pre els).map fun x => x.2.name).Nodup) :
    (trigTable els).filter (fun e => decide (e.target = y.2.name)) = saveTrigger y.2 := by
  rw [trigTable_eq els pre]
  exact filter_flatMap_unique (fun x : Path × Q => x.2.name) (·.target) (fun x => saveTrigger x.2)
    (fun z f hf => saveTrigger_target z.2 f hf) _ hn y hy

theorem tbl_target_is_question (els : List El) (pre : Path) (e : Trig) (h : e ∈ trigTable els) :
    ∃ x ∈ qwp pre els, e.target = x.2.name := by
  rw [trigTable_eq els pre] at h
  obtain ⟨x, hx, hf⟩ := List.mem_flatMap.1 h
  exact ⟨x, hx, saveTrigger_target x.2 e hf⟩

theorem refOf_inj {a b : Str} (h : refOf a = refOf b) : a = b := by
  simpa [refOf] using h

/-- the table entry of a question with a trigger cell -/
def entryOf (q : Q) : Trig :=
  { key := strip q.trigger, target := q.name, value := q.calcu, geo := q.type == "background-geopoint".toList }

theorem saveTrigger_of_trigger (q : Q) (h : q.trigger.isEmpty = false) : saveTrigger q = [entryOf q] := by
  simp [saveTrigger, h, entryOf]

/-- one half (`g`: setvalue or setgeopoint table) of the nodes nested in the control of the question named `n`,
    restricted to those that target `y`; `mk` is either half's node constructor, `hmk` all that is used of it -/
theorem nested_half_filter (els : List El) (pre : Path) (y : Path × Q) (hy : y ∈ qwp pre els)
    (hn : ((qwp pre els).map fun x => x.2.name).Nodup) (htrig : y.2.trigger.isEmpty = false)
    (n : Str) (g : Bool) (mk : Trig → TrigFact)
    (hmk : ∀ e, (mk e).set.ref = pathOf (qPaths pre els) e.target) :
    ((triggered (trigTable els) n g).map mk).filter
        (fun f => decide (f.set.ref = pathOf (qPaths pre els) y.2.name)) =
      if (entryOf y.2).key == refOf n && (entryOf y.2).geo == g then [mk (entryOf y.2)] else [] := by
  -- a node's `ref` is `y`'s path iff its entry targets `y`: the lookup separates the names of questions (`pathOf_inj`)
  have hcongr : ∀ e ∈ trigTable els,
      (decide ((mk e).set.ref = pathOf (qPaths pre els) y.2.name) && (e.key == refOf n && e.geo == g)) =
      ((e.key == refOf n && e.geo == g) && decide (e.target = y.2.name)) := by
    intro e he
    obtain ⟨x, hx, hxe⟩ := tbl_target_is_question els pre e he
    have : decide ((mk e).set.ref = pathOf (qPaths pre els) y.2.name) = decide (e.target = y.2.name) := by
      rw [hmk e]
      by_cases h : e.target = y.2.name
      · simp [h]
      · have : pathOf (qPaths pre els) e.target ≠ pathOf (qPaths pre els) y.2.name := by
          intro hp
          rw [hxe] at hp h
          exact h (pathOf_inj els pre x y hx hy hp)
        simp [h, this]
    rw [this, Bool.and_comm]
  rw [List.filter_map]
  unfold triggered
  rw [List.filter_filter]
  have h1 : (trigTable els).filter
      (fun e => ((fun f => decide (f.set.ref = pathOf (qPaths pre els) y.2.name)) ∘ mk) e && (e.key == refOf n && e.geo == g)) =
      (trigTable els).filter (fun e => (e.key == refOf n && e.geo == g) && decide (e.target = y.2.name)) :=
    List.filter_congr hcongr
  rw [h1, ← List.filter_filter, tbl_filter_target els pre y hy hn, saveTrigger_of_trigger y.2 htrig]
  by_cases hk : ((entryOf y.2).key == refOf n && (entryOf y.2).geo == g) = true <;> simp [List.filter, hk]

theorem pathOf_question (els : List El) (pre : Path) (y : Path × Q) (hy : y ∈ qwp pre els)
    (hn : ((qPaths pre els).map (·.1)).Nodup) : pathOf (qPaths pre els) y.2.name = y.1 :=
  (Prod.mk.inj (eq_of_map_nodup (·.1) hn (pathOf_mem els pre y hy) (qwp_in_qPaths els pre y hy) rfl)).2

/-! ## acceptance: a converted form's triggers are references to visible questions -/

theorem firstErr_eq_findSome? {α} (f : α → Option Err) : ∀ (l : List α), firstErr f l = l.findSome? f
  | [] => rfl
  | a :: as => by
    rw [firstErr, List.findSome?_cons, firstErr_eq_findSome? f as]
    cases f a <;> rfl

theorem firstErr_none {α} (f : α → Option Err) (l : List α) (h : firstErr f l = none) : ∀ a ∈ l, f a = none :=
  List.findSome?_eq_none_iff.1 (firstErr_eq_findSome? f l ▸ h)

theorem questions_eq (els : List El) (pre : Path) : questions els = (qwp pre els).map (·.2) := by
  rw [List.map_eq_flatMap]
  exact flatMap_qwp (f := fun _ => questions) (fun _ => questions.eq_1) (fun _ => questions.eq_2) (fun _ => questions.eq_3)
    (fun _ => questions.eq_4) els pre

theorem check_none_parts (els : List El) (h : check dyn els = none) :
    firstErr (usableErr (questions els) (trigTable els)) (trigTable els) = none ∧
    firstErr (ctlErr (trigTable els)) (questions els) = none := by
  unfold check at h
  dsimp only at h
  -- seven early exits (two `unsupported` guards, five `firstErr` stages) before the last stage, `ctlErr`
  split at h
  · cases h
  split at h
  · cases h
  split at h
  · cases h
  split at h
  · cases h
  split at h
  · cases h
  split at h
  · cases h
  split at h
  · cases h
  exact ⟨by assumption, h⟩

/-- `Survey._is_usable_trigger` (the F8 repair) + the "not user-visible" error of `Question.xml_control` -/
theorem accepted_trigger_visible_aux (els : List El) (pre : Path) (h : check dyn els = none)
    (y : Path × Q) (hy : y ∈ qwp pre els) (htrig : y.2.trigger.isEmpty = false) :
    ∃ x ∈ qwp pre els, strip y.2.trigger = refOf x.2.name ∧ shown x.2 = true := by
  -- `usableErr` finds the question `t` the key names and rejects it when hidden without setvalues, or not hidden but
  -- without a control; `ctlErr` rejects it when hidden with setvalues: so `t` is shown
  obtain ⟨hu, hc⟩ := check_none_parts dyn els h
  have hmem : entryOf y.2 ∈ trigTable els := by
    rw [trigTable_eq els pre]
    exact List.mem_flatMap.2 ⟨y, hy, by simp [saveTrigger_of_trigger y.2 htrig]⟩
  have hue := firstErr_none _ _ hu _ hmem
  unfold usableErr at hue
  split at hue
  · cases hue
  · rename_i t hfind
    have htq : t ∈ questions els := List.mem_of_find?_eq_some hfind
    have hkey : (refOf t.name == (entryOf y.2).key) = true := by
      have := List.find?_some hfind
      simpa using this
    have hct := firstErr_none _ _ hc t htq
    rw [questions_eq els pre] at htq
    obtain ⟨x, hx, rfl⟩ := List.mem_map.1 htq
    refine ⟨x, hx, ?_, ?_⟩
    · have : refOf x.2.name = (entryOf y.2).key := by simpa using hkey
      exact this.symm
    · unfold ctlErr at hct
      by_cases hh : hiddenQ x.2 = true
      · simp only [hh, if_true] at hue hct
        split at hct
        · cases hct
        · rename_i hnil
          simp [hnil] at hue
      · have hh' : hiddenQ x.2 = false := by simpa using hh
        simp only [hh', Bool.false_eq_true, if_false] at hue
        split at hue
        · rename_i hctl; simp [shown, hh', hctl]
        · cases hue

@[simp] theorem gen_inst (root : Str) (els : List El) :
    (gen dyn sub root els).inst = .node root false [] (instKids dyn false els) := rfl
@[simp] theorem gen_modelSets (root : Str) (els : List El) :
    (gen dyn sub root els).modelSets = modelSets dyn sub [root] els := rfl
@[simp] theorem gen_binds (root : Str) (els : List El) :
    (gen dyn sub root els).binds = binds sub [root] els := rfl
@[simp] theorem gen_body (root : Str) (els : List El) :
    (gen dyn sub root els).body = body dyn sub (pathOf (qPaths [root] els)) (trigTable els) [root] els := rfl

/-! ### a walk of a forest splits at its first tree -/

theorem modelSets_cons (pre : Path) (e : El) (rest : List El) :
    modelSets dyn sub pre (e :: rest) = modelSets dyn sub pre [e] ++ modelSets dyn sub pre rest := by
  cases e <;> simp [modelSets]

theorem helperSets_cons (pre : Path) (e : El) (rest : List El) :
    helperSets dyn sub pre (e :: rest) = helperSets dyn sub pre [e] ++ helperSets dyn sub pre rest := by
  cases e <;> simp [helperSets]

theorem body_cons (paths : Str → Path) (tbl : List Trig) (pre : Path) (e : El) (rest : List El) :
    body dyn sub paths tbl pre (e :: rest) = body dyn sub paths tbl pre [e] ++ body dyn sub paths tbl pre rest := by
  cases e <;> simp [body]

theorem qwp_cons (pre : Path) (e : El) (rest : List El) : qwp pre (e :: rest) = qwp pre [e] ++ qwp pre rest := by
  cases e <;> simp [qwp]

theorem qwp_append (pre : Path) (a b : List El) : qwp pre (a ++ b) = qwp pre a ++ qwp pre b :=
  append_of_eqns (g := fun e => qwp pre [e]) (qwp.eq_1 pre) (qwp_cons pre) a b

theorem secsNonEmpty_cons (e : El) (rest : List El) :
    secsNonEmpty (e :: rest) = (secsNonEmpty [e] && secsNonEmpty rest) := by
  cases e <;> simp [secsNonEmpty]

theorem secsNonEmpty_append_left (a b : List El) (h : secsNonEmpty (a ++ b) = true) : secsNonEmpty a = true := by
  rw [and_of_eqns (g := fun e => secsNonEmpty [e]) secsNonEmpty.eq_1 secsNonEmpty_cons, Bool.and_eq_true] at h
  exact h.1

end Pyxv.Defaults
