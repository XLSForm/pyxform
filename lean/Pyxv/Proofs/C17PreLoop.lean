import Pyxv.Model.PreLoop
import Pyxv.Proofs.C17NoInternal
/-!
# C17 — `no_internal` beyond the row loop: header splitting and the settings reads of `workbook_to_json`
-/
namespace Pyxv.PreLoop
open Pyxv Pyxv.RowLoop

/-- header splitting raises exactly on the excluded shape, and then `IndexError` -/
theorem jrJoin_eq : ∀ toks : List Str, ∃ ts, jrJoin toks =
    if jrOk toks then .ok ts else .error (.internal "IndexError" "sheet_headers.py:process_header")
  | [] => ⟨[], rfl⟩
  | t :: rest => by
    unfold jrJoin jrOk
    by_cases ht : t = jr
    · cases rest with
      | nil => exact ⟨[], by simp [ht]⟩
      | cons n rest' => exact ⟨_, by simp only [ht, if_true]; rfl⟩
    · obtain ⟨ts, h⟩ := jrJoin_eq rest
      simp only [ht, if_false, h]
      cases jrOk rest
      · exact ⟨[], rfl⟩
      · exact ⟨t :: ts, rfl⟩

/-- **header splitting never raises** when the first `jr` token of a `:`-delimited header is not its last token
    (complement of the `x:jr` shape of F14) -/
theorem jrJoin_no_internal : ∀ (toks : List Str), jrOk toks = true → NoInt (jrJoin toks) := by
  intro toks h
  obtain ⟨ts, e⟩ := jrJoin_eq toks
  rw [e, h]
  exact noInt_pure _

/-- and conversely: the excluded shape does raise (`IndexError`) -/
theorem jrJoin_internal : ∀ (toks : List Str), jrOk toks = false →
    jrJoin toks = .error (.internal "IndexError" "sheet_headers.py:process_header") := by
  intro toks h
  obtain ⟨ts, e⟩ := jrJoin_eq toks
  rw [e, h]
  rfl

theorem headerTokens_no_internal (useDouble : Bool) (h : Str)
    (hg : useDouble = true ∨ isInfix [':', ':'] h = true ∨ jrOk ((splitOnChar ':' h).map strip) = true) :
    NoInt (headerTokens useDouble h) := by
  unfold headerTokens
  by_cases hc : (useDouble || isInfix [':', ':'] h) = true
  · rw [if_pos hc]; exact noInt_pure _
  · rw [if_neg hc]
    rcases hg with h1 | h1 | h1
    · simp [h1] at hc
    · simp [h1] at hc
    · exact jrJoin_no_internal _ h1

theorem hashKey_noInt (s : TRow) (key : String) (h : cellIsStr s key = true) : NoInt (hashKey s key) := by
  intro c st
  unfold hashKey
  unfold cellIsStr at h
  split <;> simp_all

/-- **the settings reads of `workbook_to_json` never raise** under `settingsOk` (the complement of F22 on the keys
    that function reads; it forbids a `children` column even when nothing is appended, where the code does not
    raise), whatever else the settings row contains -/
theorem settingsOps_no_internal (s : TRow) (c : SCtx) (h : settingsOk s = true) : NoInt (settingsOps s c) := by
  unfold settingsOk at h
  simp only [Bool.and_eq_true] at h
  obtain ⟨⟨⟨⟨h1, h2⟩, h3⟩, h4⟩, h5⟩ := h
  unfold settingsOps
  refine noInt_bind _ _ (hashKey_noInt s _ h1) (fun _ _ => ?_)
  refine noInt_bind _ _ (noInt_ite (hashKey_noInt s _ h2) (noInt_pure _)) (fun _ _ => ?_)
  refine noInt_bind _ _ (noInt_ite (hashKey_noInt s _ h3) (noInt_pure _)) (fun _ _ => ?_)
  refine noInt_crash _ _ _ _ ?_ (hashKey_noInt s _ h4)
  cases hl : lookup (k "children") s with
  | none => rfl
  | some v => rw [hl] at h5; cases h5

def isInt {α} (cls site : String) : M α → Bool
  | .error (.internal c s) => c == cls && s == site
  | _ => false

def tk (l : List String) : List Str := l.map String.toList

example : jrOk (tk ["bind", "jr", "count"]) = true ∧ jrOk (tk ["x", "jr"]) = false ∧ jrOk (tk ["jr"]) = false ∧
    jrOk (tk ["jr", "jr"]) = true := by decide +kernel
example : (match headerTokens false "bind:jr:constraintMsg".toList with
    | .ok ts => ts == tk ["bind", "jr:constraintMsg"] | _ => false) = true := by decide +kernel
example : isInt "IndexError" "sheet_headers.py:process_header" (headerTokens false "x:jr".toList) = true := by
  decide +kernel
example : (match headerTokens true "x:jr".toList with | .ok ts => ts == tk ["x:jr"] | _ => false) = true := by decide +kernel

def s1 : TRow := [cs "form_title" "T", cs "omit_instanceID" "yes", cd "attribute" [cs "x" "1"]]
example : settingsOk s1 = true := by decide +kernel
example : (match settingsOps s1 ⟨true, true⟩ with | .ok () => true | _ => false) = true := by decide +kernel
example : isInt "TypeError" "xls2json.py:workbook_to_json"
    (settingsOps [cd "clean_text_values" [cs "x" "no"]] ⟨false, true⟩) = true := by decide +kernel
example : isInt "AttributeError" "xls2json.py:workbook_to_json"
    (settingsOps [cs "children" "x"] ⟨false, true⟩) = true := by decide +kernel
example : isInt "TypeError" "xls2json.py:workbook_to_json"
    (settingsOps [cd "allow_choice_duplicates" [cs "x" "yes"]] ⟨true, true⟩) = true := by decide +kernel
example : (match settingsOps [cd "allow_choice_duplicates" [cs "x" "yes"]] ⟨false, true⟩ with | .ok () => true | _ => false) = true := by
  decide +kernel

end Pyxv.PreLoop
