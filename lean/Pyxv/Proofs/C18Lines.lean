import Pyxv.Proofs.C18
import Pyxv.Proofs.BaseLemmas
/-!
# C18 — the error cleaner over the FULL set of Python line boundaries

`ErrorCleaner._cleanup_errors` (error_cleaner.py:26-35) calls `str.strip().splitlines()` (never `split("\n")`), and
`_join_final` joins with `"\n"`.  Whatever mixture of Python's ten line boundaries (`\r\n` counting as one) separates
the lines, the path substitution acts on each line on its own, `strip` commutes with it, and the final message is the
`\n`-join of the individually rewritten lines.
-/
namespace Pyxv.Validator

/-! ## every line boundary is a blank, hence a path delimiter -/

/-- both sets are Python's: table facts `isLineBreak_table` / `pyIsSpace_table` -/
theorem lineBreak_space (c : Char) (h : isLineBreak c = true) : pyIsSpace c = true := by
  have hsub : ∀ n ∈ Gen.c18LineBreaks, n ∈ spaceNats := by decide
  rw [isLineBreak_table, List.contains_iff_mem] at h
  exact (pyIsSpace_iff_mem c).2 (hsub _ h)

example : isLineBreak '\r' = true ∧ pyIsSpace '\r' = true := by decide

/-- … hence no path match of `ERROR_MESSAGE_REGEX` ever contains or crosses a line boundary -/
theorem lineBreak_delim (c : Char) (h : isLineBreak c = true) : isDelim c = true :=
  space_delim c (lineBreak_space c h)

example : isDelim (Char.ofNat 0x2028) = true := lineBreak_delim _ (by decide)

example : splitlines "ab\rcd\x0bef\n\rg".toList = ["ab".toList, "cd".toList, "ef".toList, [], "g".toList] := by decide

example : splitlines "ab\r\ncd".toList = ["ab".toList, "cd".toList] := by decide

theorem break_decomp (s : Str) :
    (∀ c ∈ s, isLineBreak c = false) ∨
    ∃ a d b, s = a ++ d :: b ∧ (∀ c ∈ a, isLineBreak c = false) ∧ isLineBreak d = true := by
  cases h : s.find? isLineBreak with
  | none => exact .inl fun c hc => by simpa using List.find?_eq_none.1 h c hc
  | some d =>
    obtain ⟨hd, a, b, rfl, ha⟩ := List.find?_eq_some_iff_append.1 h
    exact .inr ⟨a, d, b, rfl, fun c hc => by simpa using ha c hc, hd⟩

theorem subPaths_noBreak (l : Str) (h : ∀ c ∈ l, isLineBreak c = false) : ∀ c ∈ subPaths l, isLineBreak c = false := by
  have hall : l.all (fun c => !isLineBreak c) = true := by
    simp only [List.all_eq_true, Bool.not_eq_true']
    exact h
  have := subPaths_all (fun c => !isLineBreak c) (by decide) (by decide) (by decide) (by decide) l hall
  simpa only [List.all_eq_true, Bool.not_eq_true'] using this

/-- for EVERY text: substituting paths and then splitting at Python's line boundaries gives the same lines as splitting
first and substituting in each line.  No match crosses a boundary, no boundary is made or destroyed, `\r\n` pairs stay pairs. -/
theorem splitlines_subPaths (s : Str) : splitlines (subPaths s) = (splitlines s).map subPaths := by
  suffices H : ∀ n, ∀ s : Str, s.length = n → splitlines (subPaths s) = (splitlines s).map subPaths from H _ s rfl
  intro n
  induction n using Nat.strongRecOn with
  | ind n ih =>
    intro s hn
    rcases break_decomp s with h | ⟨a, d, b, rfl, ha, hd⟩
    · cases s with
      | nil => simp [subPaths_nil, splitlines]
      | cons c cs =>
        obtain ⟨d, r, hr, _⟩ := subPaths_first c cs
        rw [splitlines_noBreak (c :: cs) (by simp) h,
          splitlines_noBreak (subPaths (c :: cs)) (by rw [hr]; simp) (subPaths_noBreak _ h)]
        rfl
    · have hdel := lineBreak_delim d hd
      have ha' := subPaths_noBreak a ha
      rw [subPaths_split a b d hdel]
      by_cases hcr : d = '\r' ∧ ∃ r, b = '\n' :: r
      · obtain ⟨rfl, r, rfl⟩ := hcr
        rw [subPaths_delim_cons '\n' r nl_delim, splitlines_line_crlf _ _ ha', splitlines_line_crlf _ _ ha,
          ih r.length (by simp at hn; omega) r rfl]
        rfl
      · -- the rewritten rest starts with `\n` only if the rest does (`subPaths_first`): `\r\n` pairs are neither made nor broken
        have hcr' : ¬ (d = '\r' ∧ ∃ r, subPaths b = '\n' :: r) := by
          rintro ⟨hd', r, hr⟩
          cases b with
          | nil => rw [subPaths_nil] at hr; exact absurd hr (by simp)
          | cons c b' =>
            obtain ⟨d', r', hr', hd''⟩ := subPaths_first c b'
            rw [hr'] at hr
            injection hr with h1 _
            rcases hd'' with rfl | rfl
            · exact hcr ⟨hd', b', by rw [h1]⟩
            · exact absurd h1 (by decide)
        rw [splitlines_line_break _ _ d ha' hd hcr', splitlines_line_break _ _ d ha hd hcr,
          ih b.length (by simp at hn; omega) b rfl]
        rfl

example : splitlines (subPaths "x /a/b\r\ny /c/d\x0cz".toList) = ["x ${b}".toList, "y ${d}".toList, "z".toList] := by
  simp only [toList_lit rfl]
  decide +kernel

/-! ## `strip` commutes with the substitution, for every text -/

theorem lstrip_subPaths (s : Str) : lstrip (subPaths s) = subPaths (lstrip s) := by
  obtain ⟨ws, h1, h2⟩ := Pyxv.lstrip_decomp s
  have hs : subPaths s = ws ++ subPaths (lstrip s) := by
    conv => lhs; rw [h2]
    exact subPaths_blank_prefix ws _ h1
  rw [hs, lstrip_append_left ws _ h1]
  cases h : lstrip s with
  | nil => rw [subPaths_nil]; rfl
  | cons c r =>
    obtain ⟨d, r', hr', hd⟩ := subPaths_first c r
    rw [hr']
    apply lstrip_cons_of_not
    rcases hd with rfl | rfl
    · exact lstrip_head_not h
    · decide

theorem rstrip_subPaths (s : Str) : rstrip (subPaths s) = subPaths (rstrip s) := by
  obtain ⟨ws, h1, h2⟩ := Pyxv.rstrip_decomp s
  have hs : subPaths s = subPaths (rstrip s) ++ ws := by
    conv => lhs; rw [h2]
    exact subPaths_blank_suffix _ ws h1
  rw [hs, rstrip_append_right _ ws h1]
  rcases List.eq_nil_or_concat (rstrip s) with h | ⟨x, d, h⟩
  · rw [h, subPaths_nil]; rfl
  · rw [List.concat_eq_append] at h
    obtain ⟨z, e', hz, he'⟩ := subPaths_last x d slash_not_seg
    rw [h, hz]
    apply rstrip_snoc_of_not
    rcases he' with rfl | rfl
    · exact rstrip_last_not h
    · decide

/-- no blank (in particular no line boundary) at either end is consumed, produced or moved by a path match. -/
theorem strip_subPaths (s : Str) : strip (subPaths s) = subPaths (strip s) := by
  unfold strip
  rw [lstrip_subPaths, rstrip_subPaths]

example : strip (subPaths "\r\n  /a/b \x0b".toList) = "${b}".toList := by
  simp only [toList_lit rfl]
  decide +kernel

/-! ## end to end, for every text -/

/-- `_cleanup_errors` for EVERY text: the Python lines of the stripped text, each rewritten by the path substitution
on its own, neighbouring duplicates dropped. -/
theorem cleaner_lines_all (msg : Str) :
    cleanupErrors msg = dedupAdj ((splitlines (strip msg)).map subPaths) := by
  rw [cleanupErrors, strip_subPaths, splitlines_subPaths]

/-- `ErrorCleaner.odk_validate` for EVERY diagnostic text but the launcher's jarfile message, whatever separates its
lines and whatever blanks surround it: the final message is the `\n`-join of the Python lines of the stripped text, each
rewritten by the path substitution *on its own*, neighbouring duplicates (compared AFTER the rewriting) dropped, stack
lines dropped and exception names deleted. -/
theorem cleaner_end_to_end_all (msg : Str) (hjar : isInfix jarfilePhrase msg = false) :
    odkValidate msg = joinWith ['\n'] ((dedupAdj ((splitlines (strip msg)).map subPaths)).filterMap removeJava) := by
  simp only [odkValidate, hjar, Bool.false_eq_true, ↓reduceIte, cleanLines, cleaner_lines_all]

example : odkValidate "\r\n  Error /data/g/q1 bad\r\n\tat org.Foo(Foo.java:3)\rmore /data/q2\x0bmore /data/q2 end \n".toList
    = "Error ${q1} bad\nmore ${q2}\nend".toList := by
  simp only [cleaner_chars, cleaner_tables, toList_lit rfl]
  decide +kernel

example (ls : List Str) (hne : ls ≠ []) (hlb : ∀ l ∈ ls, ∀ c ∈ l, isLineBreak c = false)
    (hlast : ls.getLast hne ≠ []) (hs : strip (joinWith ['\n'] ls) = joinWith ['\n'] ls)
    (hjar : isInfix jarfilePhrase (joinWith ['\n'] ls) = false) :
    odkValidate (joinWith ['\n'] ls) = joinWith ['\n'] ((dedupAdj (ls.map subPaths)).filterMap removeJava) := by
  rw [cleaner_end_to_end_all _ hjar, hs, splitlines_join ls hne hlb hlast]

/-- the `\n`-only case of `cleaner_end_to_end_all`, stated on the lines: a diagnostic given as `\n`-joined lines
surrounded by ANY amount of blanks (the trailing newline java prints, indentation, …) yields the `\n`-join of the
lines, each rewritten on its own: `strip`, `splitlines` and `join` neither merge, split nor lose lines. -/
theorem cleaner_end_to_end_padded (ws1 ws2 : Str) (ls : List Str) (hne : ls ≠ [])
    (hws1 : ∀ c ∈ ws1, pyIsSpace c = true) (hws2 : ∀ c ∈ ws2, pyIsSpace c = true)
    (hlb : ∀ l ∈ ls, ∀ c ∈ l, isLineBreak c = false)
    (hhead : ∃ c r rest, ls = (c :: r) :: rest ∧ pyIsSpace c = false)
    (hlast : ∃ x e, ls.getLast hne = x ++ [e] ∧ pyIsSpace e = false)
    (hjar : isInfix jarfilePhrase (ws1 ++ joinWith ['\n'] ls ++ ws2) = false) :
    odkValidate (ws1 ++ joinWith ['\n'] ls ++ ws2) = joinWith ['\n'] ((dedupAdj (ls.map subPaths)).filterMap removeJava) := by
  obtain ⟨x, e, hl, he⟩ := hlast
  obtain ⟨c, r0, rest, rfl, hc⟩ := hhead
  obtain ⟨r, hr⟩ := joinWith_head ['\n'] c r0 rest
  obtain ⟨pre, hpre⟩ := joinWith_getLast ['\n'] ((c :: r0) :: rest) _ (List.getLast?_eq_some_getLast hne)
  rw [cleaner_end_to_end_all _ hjar,
    strip_pad ws1 _ ws2 c e r (pre ++ x) hws1 hws2 hr (by rw [hpre, hl, List.append_assoc]) hc he,
    splitlines_join _ hne hlb (by rw [hl]; simp)]

/-- the already stripped case of `cleaner_end_to_end_padded` -/
theorem cleaner_end_to_end (ls : List Str) (hne : ls ≠ [])
    (hlb : ∀ l ∈ ls, ∀ c ∈ l, isLineBreak c = false)
    (hhead : ∃ c r rest, ls = (c :: r) :: rest ∧ pyIsSpace c = false)
    (hlast : ∃ x e, ls.getLast hne = x ++ [e] ∧ pyIsSpace e = false)
    (hjar : isInfix jarfilePhrase (joinWith ['\n'] ls) = false) :
    odkValidate (joinWith ['\n'] ls) = joinWith ['\n'] ((dedupAdj (ls.map subPaths)).filterMap removeJava) := by
  have := cleaner_end_to_end_padded [] [] ls hne (by simp) (by simp) hlb hhead hlast (by simpa using hjar)
  simpa using this

/-- the shape of real ODK Validate output: a diagnostic whose first line contains a delimited path (as in
`cleaner_paths_to_refs`) is reported with `${sn}` in its place, whatever follows on the other lines. -/
theorem cleaner_end_to_end_path (pre post : Str) (segs : List Str) (more : List Str) (hne : (pre ++ chainText segs ++ post) :: more ≠ [])
    (hpre : pre = [] ∨ ∃ p c, pre = p ++ [c] ∧ isSeg c = false)
    (hpost : post = [] ∨ ∃ c r, post = c :: r ∧ isSeg c = false ∧ c ≠ '/')
    (hsegs : ∀ s ∈ segs, s ≠ [] ∧ ∀ c ∈ s, isSeg c = true) (hlen : 2 ≤ segs.length)
    (hkeep : keepMatch (chainText segs) = false)
    (hlb : ∀ l ∈ (pre ++ chainText segs ++ post) :: more, ∀ c ∈ l, isLineBreak c = false)
    (hhead : ∃ c r, pre ++ chainText segs ++ post = c :: r ∧ pyIsSpace c = false)
    (hlast : ∃ x e, ((pre ++ chainText segs ++ post) :: more).getLast hne = x ++ [e] ∧ pyIsSpace e = false)
    (hjar : isInfix jarfilePhrase (joinWith ['\n'] ((pre ++ chainText segs ++ post) :: more)) = false) :
    odkValidate (joinWith ['\n'] ((pre ++ chainText segs ++ post) :: more)) =
      joinWith ['\n'] ((dedupAdj ((subPaths pre ++ ('$' :: '{' :: (segs.getLastD []) ++ ['}']) ++ subPaths post)
        :: more.map subPaths)).filterMap removeJava) := by
  obtain ⟨c, r, h1, h2⟩ := hhead
  have h := cleaner_end_to_end _ hne hlb ⟨c, r, more, by rw [h1], h2⟩ hlast hjar
  obtain ⟨hsp, hrep, _⟩ := cleaner_paths_to_refs pre post segs hpre hpost hsegs hlen
  rw [h, List.map_cons, hsp, hrep hkeep]

theorem splitlines_lines_noBreak (s : Str) : ∀ l ∈ splitlines s, ∀ c ∈ l, isLineBreak c = false := by
  fun_induction splitlines s with
  | case1 => simp
  | case2 r ih => exact List.forall_mem_cons.2 ⟨by simp, ih⟩
  | case3 c rest hcr hb ih => exact List.forall_mem_cons.2 ⟨by simp, ih⟩
  | case4 c rest hcr hb hs ih => simpa using hb
  | case5 c rest hcr hb x xs hs ih =>
    obtain ⟨hx, hxs⟩ := List.forall_mem_cons.1 (hs ▸ ih)
    exact List.forall_mem_cons.2 ⟨List.forall_mem_cons.2 ⟨by simpa using hb, hx⟩, hxs⟩

/-- the final message contains no line boundary other than the `\n` the join puts between lines — every `\r`, `\x0b`,
`\x85`, U+2028 … of the validator's output is gone.  Stated per emitted line. -/
theorem cleaner_lines_noBreak (msg : Str) : ∀ l ∈ cleanupErrors msg, ∀ c ∈ l, isLineBreak c = false := by
  intro l hl
  rw [cleaner_lines_all, dedupAdj_mem, List.mem_map] at hl
  obtain ⟨l0, h0, rfl⟩ := hl
  apply subPaths_noBreak
  exact splitlines_lines_noBreak _ l0 h0

example : ∀ l ∈ cleanupErrors "a\rb c".toList, ∀ c ∈ l, isLineBreak c = false := cleaner_lines_noBreak _

/-! ## the `isSeg` hypothesis of `cleaner_paths_to_refs`, discharged as far as the code allows

A question name may contain characters outside the regex's segment class (`.`, non-ASCII letters: finding C18-F2).
For ANY last name that starts with a segment character the match ends at the first character outside the class: the
reference shows that prefix and the rest of the name follows (up to further substitutions inside it). -/

/-- a path `/s1/…/s(n-1)/NAME` (n ≥ 2) whose NAME is `p ++ c :: r`, `p` a non-empty run of segment characters and `c`
ANY other character but `/` (e.g. `.`, `é`), is rewritten to `${p}` followed by the substitution of `c :: r ++ post`
(`/data/g/my.q` ↦ `${my}.q`: finding C18-F2).  With `cleaner_paths_to_refs` (NAME of segment characters only) this
covers every last name that starts with a segment character. -/
theorem cleaner_paths_name_cut (pre post : Str) (init : List Str) (p r : Str) (c : Char)
    (hpre : pre = [] ∨ ∃ q c, pre = q ++ [c] ∧ isSeg c = false)
    (hinit : ∀ s ∈ init, s ≠ [] ∧ ∀ c ∈ s, isSeg c = true) (hlen : 1 ≤ init.length)
    (hp : p ≠ [] ∧ ∀ c ∈ p, isSeg c = true) (hc : isSeg c = false) (hc' : c ≠ '/') :
    subPaths (pre ++ chainText (init ++ [p ++ c :: r]) ++ post)
      = subPaths pre ++ replacement (init ++ [p]) ++ subPaths (c :: r ++ post) := by
  have hct : chainText (init ++ [p ++ c :: r]) = chainText (init ++ [p]) ++ c :: r := by
    rw [chainText_append, chainText_append]
    simp [chainText]
  have hsegs : ∀ s ∈ init ++ [p], s ≠ [] ∧ ∀ c ∈ s, isSeg c = true := by
    intro s hs
    rcases List.mem_append.1 hs with h | h
    · exact hinit s h
    · rw [List.mem_singleton.1 h]; exact hp
  have := (cleaner_paths_to_refs pre (c :: r ++ post) (init ++ [p]) hpre
    (Or.inr ⟨c, r ++ post, rfl, hc, hc'⟩) hsegs (by simp; omega)).1
  rw [hct]
  simpa [List.append_assoc] using this

example : subPaths "bad /data/g/my.q here".toList = "bad ${my}.q here".toList := by
  simp only [toList_lit rfl]
  decide +kernel

end Pyxv.Validator
