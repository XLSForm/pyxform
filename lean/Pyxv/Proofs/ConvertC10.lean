import Pyxv.Proofs.Convert
import Pyxv.Proofs.C10
/-!
# C10 for the end-to-end composition: dynamic defaults are applied exactly once

Convert's decorated elements are mapped into the `Defaults` slice's element type (`toDef`); the `<setvalue>` nodes
the composed model writes — after the binds in `<model>` (`bindNodes`) and at the end of each `<repeat>` (`dynSets`) —
are, read as (location, `ref`, `event`) facts, the facts of `Defaults.gen` on the mapped tree, so
`C10.setvalues_exactly_once` applies: one per question with a dynamic default, at its nearest repeat ancestor (`<model>`
if none), none otherwise.  The facts drop the setvalue's `value`, so the substitution `sub` of `Defaults.gen` is
arbitrary in every statement here (values: `convert_c03_exprs`).
-/
namespace Pyxv.ConvertP
open Pyxv Pyxv.Form Pyxv.Rows Pyxv.Xml Pyxv.Asm Pyxv.Convert Pyxv.C01

/-- the question as the `Defaults` slice sees it (`default`, `self.type`) -/
def toQ (d : QData) (p : Pay) : Defaults.Q :=
  { name := d.name, type := typeName p.cells, default := (get p.cells "default").getD [] }

mutual
def toDef : DItem → Defaults.El
  | .q d p => .q (toQ d p)
  | .sec .rep n _ _ ks => .rep n (toDefL ks)
  | .sec .group n _ _ ks => .grp n (toDefL ks)
  | .sec .loop n _ _ ks => .grp n (toDefL ks)
def toDefL : List DItem → List Defaults.El
  | [] => []
  | k :: ks => toDef k :: toDefL ks
end

/-- the question an element is in the `Defaults` view, with its path -/
def qAt (x : DNode) : List (Defaults.Path × Defaults.Q) :=
  match x.head with
  | .q d => [(x.chain.path, toQ d x.pay)]
  | .sec .. => []

theorem qwp_toDefL : ∀ ds (pc : Refs.Chain), Defaults.qwp pc.path (toDefL ds) = (dnodesL pc ds).flatMap qAt :=
  dwalk_eq (g := fun pc d => Defaults.qwp pc.path [toDef d]) (gL := fun pc ds => Defaults.qwp pc.path (toDefL ds)) _
    (fun _ _ _ => by simp only [toDef, Defaults.qwp, qAt, path_snoc]; rfl)
    (fun _ ct _ _ _ _ => by cases ct <;> simp only [toDef, Defaults.qwp, qAt, path_snoc, kindOf, List.append_nil, List.nil_append])
    (fun _ => by rw [toDefL, Defaults.qwp]) (fun pc k ks => Defaults.qwp_cons pc.path (toDef k) (toDefL ks))

/-- `default_is_dynamic(self.default, self.type)` through the lexer model -/
def dynQ (q : Defaults.Q) : Bool := Lexer.defaultIsDynamic q.default q.type == some true

/-- a setvalue fact without its value: (location: `none` = `<model>`, `some r` = inside `<repeat nodeset=r>`; ref; event) -/
abbrev Fact := Option (List Str) × Str × Str

def projFact (f : Defaults.SetFact) : Fact := (f.loc, xpathStr f.set.ref, f.set.event)

/-- the fact a `<setvalue ref event>` element at location `loc` states -/
def factOf (loc : Option (List Str)) : Node → Option Fact
  | .elem t a _ =>
    if t = l!"setvalue" then some (loc, (lookup (l!"ref") a).getD [], (lookup (l!"event") a).getD []) else none
  | .text _ _ => none

theorem factOf_ne {loc : Option (List Str)} {t : Str} {a : List (Str × Str)} {ks : List Node} (h : t ≠ l!"setvalue") :
    factOf loc (.elem t a ks) = none := if_neg h

/-- concrete classifications are rewritten with these two before evaluation (`C10.classification_is_pinned`) -/
theorem defaultDyn_pinned (r : Cells) :
    defaultDyn r = (get r "default").map fun dv => Lexer.dynamicPinned dv (typeName r) := by
  unfold defaultDyn
  cases get r "default" with
  | none => rfl
  | some dv => exact C10.classification_is_pinned dv _

theorem dynQ_pinned (q : Defaults.Q) : dynQ q = Lexer.dynamicPinned q.default q.type := by
  rw [dynQ, C10.classification_is_pinned]
  cases Lexer.dynamicPinned q.default q.type <;> rfl

theorem hasDyn_iff (d : QData) (p : Pay) :
    Defaults.hasDynDefault dynQ (toQ d p) = (match get p.cells "default" with | some _ => isDynDefault p.cells | none => false) := by
  rw [Defaults.hasDynDefault, isDynDefault, dynQ_pinned, defaultDyn_pinned, toQ]
  cases get p.cells "default" with
  | none => rfl
  | some dv =>
    cases dv with
    | nil => rfl
    | cons c cs => cases h : Lexer.dynamicPinned (c :: cs) (typeName p.cells) <;> simp [h]

theorem setvalue_attrs (ref value event : Str) :
    lookup (l!"ref") (setAttrs [] [(l!"ref", ref), (l!"value", value), (l!"event", event)]) = some ref ∧
    lookup (l!"event") (setAttrs [] [(l!"ref", ref), (l!"value", value), (l!"event", event)]) = some event := by
  constructor
  · have a : (attrLocal (l!"value") != attrLocal (l!"ref")) = true := by decide
    have b : (attrLocal (l!"event") != attrLocal (l!"ref")) = true := by decide
    exact lookup_setAttrs_last [] [] _ _ _ (by simp only [List.all_cons, List.all_nil, a, b]; rfl)
  · exact lookup_setAttrs_last [] [(l!"ref", ref), (l!"value", value)] (l!"event") event [] rfl

theorem dynSetOf_fact (els : List Refs.Chain) (ctx : Refs.Chain) (d : QData) (p : Pay) (pre : List Str) (near : Option (List Str))
    (sub : Defaults.Path → Str → Str) (hctx : ctx.path = pre ++ [d.name]) :
    (dynSetOf els ctx p.cells near.isSome).filterMap (factOf near) =
      ((Defaults.dynSet dynQ sub pre near.isSome (toQ d p)).map fun s => projFact { loc := near, set := s }) := by
  unfold dynSetOf Defaults.dynSet
  rw [hasDyn_iff]
  cases hd : get p.cells "default" with
  | none => simp
  | some dv =>
    simp only []
    cases hdy : isDynDefault p.cells with
    | false => simp
    | true =>
      obtain ⟨h1, h2⟩ := setvalue_attrs (xpathStr (pre ++ [d.name])) ((Refs.insertXpaths els (some ctx) {} dv).getD dv)
        (if near.isSome then evNewRepeat else evFirstLoad)
      simp only [if_true, List.filterMap_cons, List.filterMap_nil, setvalueNode, pyNode, factOf, hctx, h1, h2,
        Option.getD_some, List.map_cons, List.map_nil, projFact, toQ]
      cases near <;> rfl

theorem factOf_optBind (b : Bool) (els : List Refs.Chain) (ctx : Refs.Chain) (q : Binds.Q) :
    (if b = true then [bindNode els ctx q] else []).filterMap (factOf none) = [] := by
  cases b
  · rfl
  · simp only [if_true, List.filterMap_cons, List.filterMap_nil, bindNode, pyNode,
      factOf_ne (show l!"bind" ≠ l!"setvalue" by decide)]

theorem bindNodesL_facts_inRep (els : List Refs.Chain) : ∀ (pc : Refs.Chain) (ds : List DItem), inRep pc = true →
    (bindNodesL els pc ds).filterMap (factOf none) = [] := by
  intro pc ds h
  rw [List.filterMap_eq_nil_iff]
  intro n hn
  rcases mem_bindNodesL els pc ds hn with ⟨ctx, x, -, rfl⟩ | ⟨hr, -⟩
  · exact factOf_ne (by decide)
  · rw [h] at hr; cases hr

theorem bindNodes_facts_inRep (els : List Refs.Chain) : ∀ (pc : Refs.Chain) (d : DItem), inRep pc = true →
    (bindNodes els pc d).filterMap (factOf none) = [] :=
  fun pc d h => by simpa only [bindNodesL, List.append_nil] using bindNodesL_facts_inRep els pc [d] h

mutual
/-- **setvalues in `<model>`** = `Defaults.modelSets` of the mapped tree (elements without a repeat ancestor) -/
theorem bindNodes_facts (els : List Refs.Chain) (sub : Defaults.Path → Str → Str) : ∀ (pc : Refs.Chain) (d : DItem),
    inRep pc = false →
    (bindNodes els pc d).filterMap (factOf none) =
      (Defaults.modelSets dynQ sub pc.path [toDef d]).map fun s => projFact { loc := none, set := s }
  | pc, .q d p, h => by
    have := dynSetOf_fact els (pc ++ [(d.name, .q)]) d p pc.path none sub (path_snoc pc d.name .q)
    simp only [Option.isSome_none] at this
    simp only [bindNodes, List.filterMap_append, factOf_optBind, List.nil_append, h, Bool.false_eq_true, if_false, toDef,
      Defaults.modelSets, List.append_nil, this]
  | pc, .sec .rep n b p ks, h => by
    have h' : inRep (pc ++ [(n, kindOf .rep)]) = true := by rw [inRep_snoc]; simp [kindOf]
    simp only [bindNodes, List.filterMap_append, factOf_optBind, bindNodesL_facts_inRep els _ ks h', toDef,
      Defaults.modelSets, List.append_nil, List.map_nil]
  | pc, .sec .group n b p ks, h | pc, .sec .loop n b p ks, h => by
    have h' : inRep (pc ++ [(n, Refs.Kind.group)]) = false := by rw [inRep_snoc, h]; rfl
    simp only [bindNodes, kindOf, List.filterMap_append, factOf_optBind, List.nil_append, bindNodesL_facts els sub _ ks h',
      toDef, Defaults.modelSets, List.append_nil, path_snoc]
theorem bindNodesL_facts (els : List Refs.Chain) (sub : Defaults.Path → Str → Str) : ∀ (pc : Refs.Chain) (ds : List DItem),
    inRep pc = false →
    (bindNodesL els pc ds).filterMap (factOf none) =
      (Defaults.modelSets dynQ sub pc.path (toDefL ds)).map fun s => projFact { loc := none, set := s }
  | _, [], _ => by simp [bindNodesL, toDefL, Defaults.modelSets]
  | pc, k :: ks, h => by
    have h1 := bindNodes_facts els sub pc k h
    have h2 := bindNodesL_facts els sub pc ks h
    simp only [bindNodesL, List.filterMap_append, h1, h2, toDefL]
    rw [Defaults.modelSets_cons dynQ sub pc.path (toDef k) (toDefL ks), List.map_append]
end

theorem factOf_choiceInst (l : List Choices.Inst) : (l.map Choices.instNode).filterMap (factOf none) = [] :=
  filterMap_choiceInst _ (fun _ _ => factOf_ne (by decide)) l

theorem trace_c10_model {wb : Workbook} {doc : Node} {f : Fields} {lists : List (Str × List Choices.Choice)}
    {rows : List Cells} {drows : List ((Nat × RowK) × Pay)} {o : FormOut} {ditems : List DItem}
    (T : Trace wb doc f lists rows drows o ditems) (sub : Defaults.Path → Str → Str) :
    (modelKidsOf doc).filterMap (factOf none) =
      (Defaults.modelSets dynQ sub [f.name] (toDefL (dWithMeta f.name rows ditems))).map
        fun s => projFact { loc := none, set := s } := by
  rw [trace_model_filterMap T (factOf none) (fun _ => factOf_ne (by decide)) (fun _ => factOf_ne (by decide)),
    factOf_choiceInst, List.nil_append, bindNodesL_facts _ sub _ _ (by simp [inRep])]
  rfl

/-- **C10 for the whole conversion, `<model>` part** (`_partial`: the setvalues inside `<repeat>` elements and the
    instance text are not in the statement).  The `<setvalue>` children of `<model>`, read as (location, `ref`, `event`)
    facts, are `Defaults.modelSets` of the element tree mapped into the `Defaults` slice's type: one
    `odk-instance-first-load` setvalue for each question without a repeat ancestor whose default is dynamic, in document
    order, none otherwise.  Existential closure of `trace_c10_model`: that `root` and `dall` are the run's root name and
    tree (with the meta block) is said there, not here. -/
theorem convert_c10_model_partial (wb : Workbook) (doc : Node) (h : convertDoc wb = .ok doc)
    (sub : Defaults.Path → Str → Str) :
    ∃ (root : Str) (dall : List DItem),
      (modelKidsOf doc).filterMap (factOf none) =
        (Defaults.modelSets dynQ sub [root] (toDefL dall)).map fun s => projFact { loc := none, set := s } := by
  obtain ⟨f, lists, rows, drows, o, ditems, T⟩ := convertDoc_trace wb doc h
  exact ⟨f.name, dWithMeta f.name rows ditems, trace_c10_model T sub⟩

#print axioms convert_c10_model_partial

-- the worked example has no dynamic default: its `<model>` carries no setvalue, and the mapped tree says the same
example : ∃ doc, convertDoc exWb = .ok doc ∧ ∃ root dall,
    (modelKidsOf doc).filterMap (factOf none) =
      (Defaults.modelSets dynQ (fun _ s => s) [root] (toDefL dall)).map fun s => projFact { loc := none, set := s } := by
  obtain ⟨doc, hd, -, -⟩ := ex_doc
  exact ⟨doc, hd, convert_c10_model_partial exWb doc hd _⟩
-- exactly one setvalue for a question the lexer classifies as dynamic, none otherwise (`Defaults.dynSet`)
example (d : QData) (p : Pay) (pre : List Str) (sub : Defaults.Path → Str → Str) :
    (Defaults.dynSet dynQ sub pre false (toQ d p)).length = if Defaults.hasDynDefault dynQ (toQ d p) then 1 else 0 := by
  unfold Defaults.dynSet; split <;> rfl

end Pyxv.ConvertP
