import Pyxv.Proofs.XmlSpec
import Pyxv.Proofs.ListLemmas
import Pyxv.Proofs.DictLemmas
/-!
# Lemmas for the XML round trip

The reader inverts escaping character by character (`Writes`, `Enc`); a rendered element read back is the
normalised layout tree (`rt_elem` / `rt_kids`, the text pending before the next child carried as `Enc e acc`).
Fuel is never computed exactly: a reading lemma holds "for every fuel from `b` on", and `cost` bounds `b` by the length of
the rendered text.
-/
namespace Pyxv.Xml

/-! ## the child-list half of each pass is `List.map`, of each check `List.all` -/

theorem normKids_eq : ∀ ks, normKids ks = ks.map normNode := eq_map_of_eqns rfl fun _ _ => rfl
theorem normTextKids_eq : ∀ ks, normTextKids ks = ks.map normText := eq_map_of_eqns rfl fun _ _ => rfl
theorem normAttrsKids_eq : ∀ ks, normAttrsKids ks = ks.map normAttrs := eq_map_of_eqns rfl fun _ _ => rfl
theorem withSpacesKids_eq : ∀ ks, withSpacesKids ks = ks.map withSpaces := eq_map_of_eqns rfl fun _ _ => rfl
theorem stripWsKids_eq : ∀ ks, stripWsKids ks = ks.map stripWs := eq_map_of_eqns rfl fun _ _ => rfl
theorem WFKids_eq : ∀ ks, WFKids ks = ks.all Node.WF := eq_all_of_eqns rfl fun _ _ => rfl
theorem WFKidsLax_eq : ∀ ks, WFKidsLax ks = ks.all Node.WFLax := eq_all_of_eqns rfl fun _ _ => rfl
theorem noCRKids_eq : ∀ ks, noCRKids ks = ks.all noCR := eq_all_of_eqns rfl fun _ _ => rfl

theorem WFKids_append (a b : List Node) : WFKids (a ++ b) = (WFKids a && WFKids b) := by
  simp only [WFKids_eq, List.all_append]

theorem WFKids_map {α} (g : α → Node) (l : List α) (h : ∀ x ∈ l, (g x).WF = true) : WFKids (l.map g) = true := by
  rw [WFKids_eq, List.all_map, List.all_eq_true]
  exact h

theorem WFKidsLax_append (L1 L2 : List Node) : WFKidsLax (L1 ++ L2) = (WFKidsLax L1 && WFKidsLax L2) := by
  simp only [WFKidsLax_eq, List.all_append]

theorem normAttrsKids_append (L1 L2 : List Node) :
    normAttrsKids (L1 ++ L2) = normAttrsKids L1 ++ normAttrsKids L2 := by
  simp only [normAttrsKids_eq, List.map_append]

theorem withSpacesKids_append (L1 L2 : List Node) :
    withSpacesKids (L1 ++ L2) = withSpacesKids L1 ++ withSpacesKids L2 := by
  simp only [withSpacesKids_eq, List.map_append]

theorem noCRKids_append (L1 L2 : List Node) : noCRKids (L1 ++ L2) = (noCRKids L1 && noCRKids L2) := by
  simp only [noCRKids_eq, List.all_append]

theorem isText_eq_not_isElem (n : Node) : isText n = !isElem n := by
  cases n <;> rfl

theorem escTextChar_plain {c : Char} (h1 : c ≠ '&') (h2 : c ≠ '<') (h3 : c ≠ '>') :
    escTextChar c = [c] := by
  unfold escTextChar; split <;> simp_all

theorem escAttrChar_plain {c : Char} (h1 : c ≠ '&') (h2 : c ≠ '<') (h3 : c ≠ '>') (h4 : c ≠ '"') :
    escAttrChar c = [c] := by
  unfold escAttrChar; split <;> simp_all

theorem escText_plain (n : Str) (hn : ∀ c ∈ n, c ≠ '&' ∧ c ≠ '<' ∧ c ≠ '>') : escText n = n :=
  (flatMap_congr fun c hc => escTextChar_plain (hn c hc).1 (hn c hc).2.1 (hn c hc).2.2).trans (List.flatMap_singleton' n)

theorem escAttr_plain (v : Str) (hv : ∀ c ∈ v, c ≠ '&' ∧ c ≠ '<' ∧ c ≠ '>' ∧ c ≠ '"') : escAttr v = v :=
  (flatMap_congr fun c hc => escAttrChar_plain (hv c hc).1 (hv c hc).2.1 (hv c hc).2.2.1 (hv c hc).2.2.2).trans
    (List.flatMap_singleton' v)

theorem escText_append (a b : Str) : escText (a ++ b) = escText a ++ escText b := by
  simp [escText]
theorem escAttr_append (a b : Str) : escAttr (a ++ b) = escAttr a ++ escAttr b := by
  simp [escAttr]
@[simp] theorem escText_nil : escText [] = [] := rfl
@[simp] theorem escAttr_nil : escAttr [] = [] := rfl
theorem escText_cons (c : Char) (s : Str) : escText (c :: s) = escTextChar c ++ escText s := by
  simp [escText]
theorem escAttr_cons (c : Char) (s : Str) : escAttr (c :: s) = escAttrChar c ++ escAttr s := by
  simp [escAttr]

/-- what may follow character data: end of input or markup -/
def startsLt : Str → Prop
  | [] => True
  | c :: _ => c = '<'

theorem startsLt.ne_lf {rest : Str} (h : startsLt rest) : ∀ r', rest ≠ '\n' :: r' := by
  rintro r' rfl
  simp [startsLt] at h

theorem normEol_cr_lf (r : Str) : normEol ('\r' :: '\n' :: r) = '\n' :: normEol r := by
  simp [normEol]

/-- `e` is `s` with every character written by `escape_text_for_xml` (`escTextChar`) or by minidom's `_write_data`
    (`escAttrChar`); `s` holds XML characters only (CR allowed: both writers write it raw) -/
inductive Enc : Str → Str → Prop
  | nil : Enc [] []
  | text (c : Char) {e s : Str} : isXmlChar c = true → Enc e s → Enc (escTextChar c ++ e) (c :: s)
  | attr (c : Char) {e s : Str} : isXmlChar c = true → Enc e s → Enc (escAttrChar c ++ e) (c :: s)

theorem Enc.append {e1 s1 e2 s2 : Str} (h1 : Enc e1 s1) (h2 : Enc e2 s2) :
    Enc (e1 ++ e2) (s1 ++ s2) := by
  induction h1 with
  | nil => simpa using h2
  | text c hc _ ih => simpa [List.append_assoc] using Enc.text c hc ih
  | attr c hc _ ih => simpa [List.append_assoc] using Enc.attr c hc ih

theorem Enc.escText {s : Str} (h : s.all isXmlChar = true) : Enc (escText s) s := by
  induction s with
  | nil => exact Enc.nil
  | cons c cs ih =>
    simp only [List.all_cons, Bool.and_eq_true] at h
    rw [escText_cons]; exact Enc.text c h.1 (ih h.2)

theorem Enc.escAttr {s : Str} (h : s.all isXmlChar = true) : Enc (escAttr s) s := by
  induction s with
  | nil => exact Enc.nil
  | cons c cs ih =>
    simp only [List.all_cons, Bool.and_eq_true] at h
    rw [escAttr_cons]; exact Enc.attr c h.1 (ih h.2)

theorem Enc.nil_inv {e : Str} (h : Enc e []) : e = [] := by
  cases h; rfl

theorem takeRef_amp (r : Str) : takeRef ('a' :: 'm' :: 'p' :: ';' :: r) = some ('&', r) := rfl
theorem takeRef_lt (r : Str) : takeRef ('l' :: 't' :: ';' :: r) = some ('<', r) := rfl
theorem takeRef_gt (r : Str) : takeRef ('g' :: 't' :: ';' :: r) = some ('>', r) := rfl
theorem takeRef_quot (r : Str) : takeRef ('q' :: 'u' :: 'o' :: 't' :: ';' :: r) = some ('"', r) := rfl

/-- how a writer puts out one character `c`: raw (then `c` is none of `& < >`), or as an entity reference
    that the reader resolves to `c` -/
def Writes (c : Char) (ec : Str) : Prop :=
  (ec = [c] ∧ c ≠ '&' ∧ c ≠ '<' ∧ c ≠ '>') ∨
    ∃ n, ec = '&' :: n ∧ '>' ∉ n ∧ ∀ r, takeRef (n ++ r) = some (c, r)

theorem escTextChar_writes (c : Char) : Writes c (escTextChar c) := by
  unfold escTextChar
  split
  · exact .inr ⟨_, rfl, by decide, takeRef_amp⟩
  · exact .inr ⟨_, rfl, by decide, takeRef_lt⟩
  · exact .inr ⟨_, rfl, by decide, takeRef_gt⟩
  · rename_i h1 h2 h3
    exact .inl ⟨rfl, fun h => h1 h, fun h => h2 h, fun h => h3 h⟩

theorem escAttrChar_writes (c : Char) : Writes c (escAttrChar c) := by
  unfold escAttrChar
  split
  · exact .inr ⟨_, rfl, by decide, takeRef_amp⟩
  · exact .inr ⟨_, rfl, by decide, takeRef_lt⟩
  · exact .inr ⟨_, rfl, by decide, takeRef_gt⟩
  · exact .inr ⟨_, rfl, by decide, takeRef_quot⟩
  · rename_i h1 h2 h3 _
    exact .inl ⟨rfl, fun h => h1 h, fun h => h2 h, fun h => h3 h⟩

theorem Writes.length_pos {c : Char} {ec : Str} (h : Writes c ec) : 1 ≤ ec.length := by
  rcases h with ⟨rfl, _⟩ | ⟨n, rfl, _⟩ <;> simp

theorem Writes.no_gt {c : Char} {ec : Str} (h : Writes c ec) : '>' ∉ ec := by
  rcases h with ⟨rfl, _, _, h3⟩ | ⟨n, rfl, hn, _⟩
  · simpa using fun e => h3 e.symm
  · simp [hn]

/-- the last conjunct is for `Enc.head_lf`: a raw LF behind a CR can only be an LF of the source -/
theorem Writes.head {c : Char} {ec : Str} (h : Writes c ec) :
    ∃ d r, ec = d :: r ∧ d ≠ '<' ∧ (d = '\n' → c = '\n') := by
  rcases h with ⟨rfl, _, h2, _⟩ | ⟨n, rfl, _⟩
  · exact ⟨c, [], rfl, h2, id⟩
  · exact ⟨'&', n, rfl, by decide, fun h => absurd h (by decide)⟩

theorem Enc.cons_inv {e s : Str} {c : Char} (h : Enc e (c :: s)) :
    ∃ ec e', e = ec ++ e' ∧ Writes c ec ∧ (c = '\r' → ec = ['\r']) ∧ isXmlChar c = true ∧ Enc e' s := by
  cases h with
  | text _ hc he => exact ⟨_, _, rfl, escTextChar_writes c, by rintro rfl; rfl, hc, he⟩
  | attr _ hc he => exact ⟨_, _, rfl, escAttrChar_writes c, by rintro rfl; rfl, hc, he⟩

theorem Enc.no_gt {e s : Str} (h : Enc e s) : '>' ∉ e := by
  induction h with
  | nil => simp
  | text c _ _ ih => simp [(escTextChar_writes c).no_gt, ih]
  | attr c _ _ ih => simp [(escAttrChar_writes c).no_gt, ih]

theorem Enc.no_cdata_end {e s rest : Str} (h : Enc e s) (hr : startsLt rest) (tl : Str) :
    e ++ rest ≠ ']' :: '>' :: tl := by
  have hg := h.no_gt
  intro heq
  match e, hg, heq with
  | [], _, heq => simp at heq; subst heq; simp [startsLt] at hr
  | [a], _, heq => simp at heq; rw [heq.2] at hr; simp [startsLt] at hr
  | a :: b :: e', hg, heq => simp at heq; simp [heq.2.1] at hg

theorem Enc.head {e s : Str} {c : Char} (h : Enc e (c :: s)) : ∃ d r, e = d :: r ∧ d ≠ '<' := by
  obtain ⟨ec, e', rfl, hw, _, _, _⟩ := h.cons_inv
  obtain ⟨d, r, rfl, hd, _⟩ := hw.head
  exact ⟨d, r ++ e', rfl, hd⟩

theorem Enc.head_lf {e s rest : Str} (h : Enc e s) (hr : ∀ r', rest ≠ '\n' :: r')
    (hs : ∀ s', s ≠ '\n' :: s') : ∀ r', e ++ rest ≠ '\n' :: r' := by
  intro r' heq
  cases s with
  | nil => rw [h.nil_inv] at heq; exact hr r' heq
  | cons c s =>
    obtain ⟨ec, e', rfl, hw, _, _, _⟩ := h.cons_inv
    obtain ⟨d, r, rfl, _, hd⟩ := hw.head
    simp only [List.cons_append, List.cons.injEq] at heq
    exact hs s (by rw [hd heq.1])

theorem Enc.lf_inv {e s : Str} (h : Enc e ('\n' :: s)) : ∃ e', e = '\n' :: e' ∧ Enc e' s := by
  cases h with
  | text _ _ he => exact ⟨_, rfl, he⟩
  | attr _ _ he => exact ⟨_, rfl, he⟩

theorem takeText_cr_lf (f : Nat) (r : Str) :
    takeText (f + 1) ('\r' :: '\n' :: r) = (takeText f r).map fun p => ('\n' :: p.1, p.2) := by
  simp only [takeText]
  cases takeText f r <;> rfl

theorem takeText_cr (f : Nat) (r : Str) (h : ∀ r', r ≠ '\n' :: r') :
    takeText (f + 1) ('\r' :: r) = (takeText f r).map fun p => ('\n' :: p.1, p.2) := by
  rw [takeText.eq_7 f r fun r' e => h r' e]
  cases takeText f r <;> rfl

theorem takeText_ref (f : Nat) (r r' : Str) (d : Char) (h : takeRef r = some (d, r')) :
    takeText (f + 1) ('&' :: r) = (takeText f r').map fun p => (d :: p.1, p.2) := by
  simp only [takeText, h]
  cases takeText f r' <;> rfl

theorem takeText_plain (f : Nat) (c : Char) (r : Str) (h1 : c ≠ '<') (h2 : c ≠ '&') (h3 : c ≠ '\r')
    (h4 : isXmlChar c = true) (h5 : ∀ tl, r ≠ ']' :: '>' :: tl) :
    takeText (f + 1) (c :: r) = (takeText f r).map fun p => (c :: p.1, p.2) := by
  rw [takeText.eq_8 f c r h1 h2 (fun _ _ e => h5 _ e) (fun _ e _ => h3 e) h3, if_pos h4]
  cases takeText f r <;> rfl

theorem takeText_writes (f : Nat) {c : Char} {ec : Str} (X : Str) (hw : Writes c ec)
    (hx : isXmlChar c = true) (hcr : c ≠ '\r') (hX : ∀ tl, X ≠ ']' :: '>' :: tl) :
    takeText (f + 1) (ec ++ X) = (takeText f X).map fun p => (c :: p.1, p.2) := by
  rcases hw with ⟨rfl, h1, h2, _⟩ | ⟨n, rfl, _, hn⟩
  · exact takeText_plain f c X h2 h1 hcr hx hX
  · exact takeText_ref f (n ++ X) X c (hn X)

/-- any interleaving of the two writers, CR included; by the case analysis of `normEol` -/
theorem takeText_enc {e s : Str} (h : Enc e s) (rest : Str) (fuel : Nat) (hr : startsLt rest)
    (hf : e.length < fuel) : takeText fuel (e ++ rest) = some (normEol s, rest) := by
  induction s using normEol.induct generalizing e fuel with
  | case1 =>
    cases h
    obtain ⟨f, rfl⟩ : ∃ f, fuel = f + 1 := ⟨fuel - 1, by simp at hf; omega⟩
    cases rest with
    | nil => simp [takeText, normEol]
    | cons c r => simp [startsLt] at hr; subst hr; simp [takeText, normEol]
  | case2 s ih =>
    obtain ⟨ec, e', rfl, _, hec, _, he'⟩ := h.cons_inv
    obtain rfl := hec rfl
    obtain ⟨e'', rfl, he''⟩ := he'.lf_inv
    obtain ⟨f, rfl⟩ : ∃ f, fuel = f + 1 := ⟨fuel - 1, by omega⟩
    simp only [List.cons_append, List.nil_append]
    rw [takeText_cr_lf, normEol_cr_lf, ih he'' f (by simp at hf; omega)]
    rfl
  | case3 c s hc ih =>
    obtain ⟨ec, e', rfl, hw, hec, hx, he'⟩ := h.cons_inv
    have hlen := hw.length_pos
    obtain ⟨f, rfl⟩ : ∃ f, fuel = f + 1 := ⟨fuel - 1, by omega⟩
    have ih := ih he' f (by simp at hf; omega)
    rw [normEol.eq_3 c s hc]
    by_cases hcr : c = '\r'
    · subst hcr
      obtain rfl := hec rfl
      simp only [List.cons_append, List.nil_append]
      rw [takeText_cr f _ (he'.head_lf hr.ne_lf (fun s' h => hc s' rfl h)), ih]
      simp
    · rw [List.append_assoc, takeText_writes f _ hw hx hcr (he'.no_cdata_end hr), ih]
      simp [hcr]

theorem normEol_of_noCR (s : Str) (h : ∀ c ∈ s, c ≠ '\r') : normEol s = s := by
  induction s with
  | nil => rfl
  | cons c s ih =>
    have hc : c ≠ '\r' := h c (by simp)
    rw [normEol.eq_3 c s (fun _ e => absurd e hc), ih (fun d hd => h d (by simp [hd]))]
    simp [hc]

theorem normEol_isEmpty (s : Str) : (normEol s).isEmpty = s.isEmpty := by
  cases s with
  | nil => simp [normEol]
  | cons c s => rw [normEol.eq_def]; split <;> simp_all

theorem mem_normEol {d : Char} {s : Str} : d ∈ normEol s → d = '\n' ∨ (d ∈ s ∧ d ≠ '\r') := by
  induction s using normEol.induct with
  | case1 => simp [normEol]
  | case2 r ih =>
    rw [normEol_cr_lf]
    intro h
    rcases List.mem_cons.mp h with rfl | h
    · exact .inl rfl
    · exact (ih h).imp id fun ⟨m, n⟩ => ⟨by simp [m], n⟩
  | case3 c r hc ih =>
    rw [normEol.eq_3 c r hc]
    intro h
    rcases List.mem_cons.mp h with rfl | h
    · split
      · exact .inl rfl
      · rename_i hne; exact .inr ⟨by simp, hne⟩
    · exact (ih h).imp id fun ⟨m, n⟩ => ⟨by simp [m], n⟩


theorem takeAttrVal_ref (f : Nat) (r r' : Str) (d : Char) (h : takeRef r = some (d, r')) :
    takeAttrVal '"' (f + 1) ('&' :: r) = (takeAttrVal '"' f r').map fun p => (d :: p.1, p.2) := by
  simp only [takeAttrVal, h]
  simp
  cases takeAttrVal '"' f r' <;> rfl

theorem takeAttrVal_plain (f : Nat) (c : Char) (r : Str) (h0 : c ≠ '"') (h1 : c ≠ '<') (h2 : c ≠ '&')
    (h3 : attrCharOk c = true) :
    takeAttrVal '"' (f + 1) (c :: r) = (takeAttrVal '"' f r).map fun p => (c :: p.1, p.2) := by
  simp only [attrCharOk, Bool.and_eq_true, bne_iff_ne, ne_eq] at h3
  simp only [takeAttrVal]
  simp [h0, h1, h2, h3]
  cases takeAttrVal '"' f r <;> rfl

theorem takeAttrVal_escAttrChar (f : Nat) (c : Char) (X : Str) (hc : attrCharOk c = true) :
    takeAttrVal '"' (f + 1) (escAttrChar c ++ X) = (takeAttrVal '"' f X).map fun p => (c :: p.1, p.2) := by
  rcases escAttrChar_writes c with ⟨he, h1, h2, _⟩ | ⟨n, he, _, hn⟩
  · have hq : c ≠ '"' := by rintro rfl; exact absurd he (by decide)
    rw [he]
    exact takeAttrVal_plain f c X hq h2 h1 hc
  · rw [he]
    exact takeAttrVal_ref f (n ++ X) X c (hn X)

theorem normAttrVal_cr_lf (r : Str) : normAttrVal ('\r' :: '\n' :: r) = ' ' :: normAttrVal r := by
  simp [normAttrVal]

theorem normAttrVal_cons (c : Char) (r : Str) (h : c = '\r' → ∀ r', r ≠ '\n' :: r') :
    normAttrVal (c :: r) = (if c = '\r' ∨ c = '\t' ∨ c = '\n' then ' ' else c) :: normAttrVal r :=
  normAttrVal.eq_3 c r fun r' h1 h2 => h h1 r' h2


theorem takeAttrVal_cr_lf (f : Nat) (r : Str) :
    takeAttrVal '"' (f + 1) ('\r' :: '\n' :: r) = (takeAttrVal '"' f r).map fun p => (' ' :: p.1, p.2) := by
  simp only [takeAttrVal]
  simp
  cases takeAttrVal '"' f r <;> rfl

theorem takeAttrVal_space (f : Nat) (c : Char) (r : Str) (hc : c = '\r' ∨ c = '\t' ∨ c = '\n')
    (h : c = '\r' → ∀ r', r ≠ '\n' :: r') :
    takeAttrVal '"' (f + 1) (c :: r) = (takeAttrVal '"' f r).map fun p => (' ' :: p.1, p.2) := by
  simp only [takeAttrVal]
  rcases hc with rfl | rfl | rfl
  · cases r with
    | nil => simp; cases takeAttrVal '"' f [] <;> rfl
    | cons d r' =>
      have hd : d ≠ '\n' := fun e => h rfl r' (by rw [e])
      simp [hd]
      cases takeAttrVal '"' f (d :: r') <;> rfl
  · simp; cases takeAttrVal '"' f r <;> rfl
  · simp; cases takeAttrVal '"' f r <;> rfl

theorem takeAttrVal_escAttr_norm (v : Str) (hv : v.all isXmlChar = true) (rest : Str) (fuel : Nat)
    (hf : (escAttr v).length < fuel) :
    takeAttrVal '"' fuel (escAttr v ++ '"' :: rest) = some (normAttrVal v, rest) := by
  induction v using normAttrVal.induct generalizing fuel with
  | case1 =>
    obtain ⟨f, rfl⟩ : ∃ f, fuel = f + 1 := ⟨fuel - 1, by simp at hf; omega⟩
    simp [takeAttrVal, normAttrVal]
  | case2 v ih =>
    simp only [List.all_cons, Bool.and_eq_true] at hv
    have he : escAttr ('\r' :: '\n' :: v) = '\r' :: '\n' :: escAttr v := by
      simp [escAttr_cons, escAttrChar]
    rw [he] at hf ⊢
    obtain ⟨f, rfl⟩ : ∃ f, fuel = f + 1 := ⟨fuel - 1, by omega⟩
    simp only [List.cons_append]
    rw [takeAttrVal_cr_lf, normAttrVal_cr_lf, ih hv.2.2 f (by simp at hf; omega)]
    rfl
  | case3 c v hc ih =>
    simp only [List.all_cons, Bool.and_eq_true] at hv
    rw [escAttr_cons] at hf ⊢
    rw [normAttrVal.eq_3 c v hc]
    have hlen := (escAttrChar_writes c).length_pos
    obtain ⟨f, rfl⟩ : ∃ f, fuel = f + 1 := ⟨fuel - 1, by omega⟩
    have ih' := ih hv.2 f (by simp at hf; omega)
    by_cases hsp : c = '\r' ∨ c = '\t' ∨ c = '\n'
    · have he : escAttrChar c = [c] := by rcases hsp with rfl | rfl | rfl <;> rfl
      simp only [he, List.cons_append, List.nil_append, hsp, if_true]
      rw [takeAttrVal_space f c _ hsp fun hcr =>
        (Enc.escAttr hv.2).head_lf (by simp) (fun r' h => hc r' hcr h), ih']
      rfl
    · have hok : attrCharOk c = true := by
        simp only [not_or] at hsp
        simp only [attrCharOk, Bool.and_eq_true, bne_iff_ne, ne_eq]
        exact ⟨⟨⟨hv.1, hsp.2.1⟩, hsp.2.2⟩, hsp.1⟩
      simp only [hsp, if_false]
      rw [List.append_assoc, takeAttrVal_escAttrChar f c _ hok, ih']
      rfl

theorem normAttrVal_ok (v : Str) (h : v.all attrCharOk = true) : normAttrVal v = v := by
  induction v with
  | nil => rfl
  | cons c v ih =>
    simp only [List.all_cons, Bool.and_eq_true, attrCharOk, bne_iff_ne, ne_eq] at h
    rw [normAttrVal_cons c v (fun hc => absurd hc h.1.2), ih h.2]
    have : ¬(c = '\r' ∨ c = '\t' ∨ c = '\n') := fun hh => hh.elim h.1.2 fun hh => hh.elim h.1.1.1.2 h.1.1.2
    simp [this]

theorem attrCharOk_xml {v : Str} (h : v.all attrCharOk = true) : v.all isXmlChar = true := by
  simp only [List.all_eq_true, attrCharOk, Bool.and_eq_true] at h ⊢
  exact fun c hc => (h c hc).1.1.1

theorem takeAttrVal_escAttr (v : Str) (hv : v.all attrCharOk = true) (rest : Str) (fuel : Nat)
    (hf : (escAttr v).length < fuel) : takeAttrVal '"' fuel (escAttr v ++ '"' :: rest) = some (v, rest) := by
  rw [takeAttrVal_escAttr_norm v (attrCharOk_xml hv) rest fuel hf, normAttrVal_ok v hv]

theorem nameStartChar_nameChar {c : Char} (h : nameStartChar c = true) : nameChar c = true := by
  simp [nameChar, h]

theorem nsc_bang : nameStartChar '!' = false := by decide
theorem nsc_qm : nameStartChar '?' = false := by decide
theorem nsc_slash : nameStartChar '/' = false := by decide
theorem nsc_gt : nameStartChar '>' = false := by decide
theorem nsc_lt : nameStartChar '<' = false := by decide

theorem ne_of_nsc {c d : Char} (hc : nameStartChar c = true) (hd : nameStartChar d = false) : c ≠ d := by
  rintro rfl
  rw [hc] at hd
  cases hd

theorem nc_slash : nameChar '/' = false := by decide
theorem nc_gt : nameChar '>' = false := by decide
theorem nc_sp : nameChar ' ' = false := by decide
theorem nc_eq : nameChar '=' = false := by decide

theorem nameStartChar_not_ws {c : Char} (h : nameStartChar c = true) : isWs c = false := by
  cases hw : isWs c with
  | false => rfl
  | true =>
    simp only [isWs, Bool.or_eq_true, beq_iff_eq] at hw
    rcases hw with ((rfl | rfl) | rfl) | rfl <;> revert h <;> decide


theorem isName_cons {s : Str} (h : isName s = true) :
    ∃ c cs, s = c :: cs ∧ nameStartChar c = true ∧ ∀ x ∈ c :: cs, nameChar x = true := by
  cases s with
  | nil => simp [isName] at h
  | cons c cs =>
    simp only [isName, Bool.and_eq_true, List.all_eq_true] at h
    refine ⟨c, cs, rfl, h.1, ?_⟩
    intro x hx
    simp at hx
    rcases hx with rfl | hx
    · exact nameStartChar_nameChar h.1
    · exact h.2 x hx

theorem takeName_append (t : Str) (c : Char) (r : Str)
    (ht : ∀ x ∈ t, nameChar x = true) (hc : nameChar c = false) :
    takeName (t ++ c :: r) = (t, c :: r) := by
  induction t with
  | nil => simp [takeName, hc]
  | cons a as ih =>
    have ha : nameChar a = true := ht a (by simp)
    have ih' := ih (fun x hx => ht x (by simp [hx]))
    simp [takeName, ha, ih']

theorem skipWs_nonws {c : Char} (r : Str) (h : isWs c = false) : skipWs (c :: r) = c :: r := by
  simp [skipWs, h]

/-- indentation / newline strings: XML white space without CR -/
def padOk (s : Str) : Bool := s.all fun c => isWs c && c != '\r'

theorem skipWs_pad_append (p r : Str) (hp : padOk p = true) : skipWs (p ++ r) = skipWs r := by
  induction p with
  | nil => rfl
  | cons d p ih =>
    simp only [padOk, List.all_cons, Bool.and_eq_true] at hp
    simp [skipWs, hp.1.1, ih (by simpa [padOk] using hp.2)]

theorem skipWs_pad (p : Str) (c : Char) (r : Str) (hp : padOk p = true) (hc : isWs c = false) :
    skipWs (p ++ c :: r) = c :: r := by
  rw [skipWs_pad_append p _ hp, skipWs_nonws r hc]

theorem takeAttrs_attr (f : Nat) (k v X : Str) (hk : isName k = true) (hv : v.all isXmlChar = true) :
    takeAttrs (f + 1) (' ' :: (k ++ '=' :: '"' :: (escAttr v ++ '"' :: X))) =
      (takeAttrs f X).map fun p => ((k, normAttrVal v) :: p.1, p.2.1, p.2.2) := by
  obtain ⟨c, cs, rfl, hc, hall⟩ := isName_cons hk
  have hws : isWs c = false := nameStartChar_not_ws hc
  have hsp : isWs ' ' = true := by decide
  have heqn : isWs '=' = false := by decide
  have hq : isWs '"' = false := by decide
  have h1 : skipWs (' ' :: (c :: cs ++ '=' :: '"' :: (escAttr v ++ '"' :: X))) =
      c :: cs ++ '=' :: '"' :: (escAttr v ++ '"' :: X) := by
    simp only [skipWs, hsp, hws, List.cons_append]; simp
  have hgt : c ≠ '>' := ne_of_nsc hc nsc_gt
  have hsl : c ≠ '/' := ne_of_nsc hc nsc_slash
  have h2 := takeName_append (c :: cs) '=' ('"' :: (escAttr v ++ '"' :: X)) hall nc_eq
  rw [takeAttrs.eq_def]
  simp only [h1]
  split
  · rename_i heq; simp at heq; exact absurd heq.1 hgt
  · rename_i heq; simp at heq; exact absurd heq.1 hsl
  · simp only [List.cons_append] at h2
    simp only [List.cons_append, h2, hk]
    rw [if_neg (by simp)]
    simp only [Bool.not_true, Bool.false_eq_true, if_false]
    rw [skipWs_nonws _ heqn]
    simp only [skipWs_nonws _ hq, true_or, if_true]
    rw [takeAttrVal_escAttr_norm v hv X _ (by simp; omega)]
    simp only []
    cases takeAttrs f X <;> rfl

/-- `pad`: the space in `<output value="…" />` of `_var_repl_output_function`; `render` writes none -/
theorem takeAttrs_render (attrs : List (Str × Str))
    (h : attrs.all (fun kv => isName kv.1 && kv.2.all isXmlChar) = true) (pad r : Str) (hp : padOk pad = true) :
    ∀ fuel, attrs.length < fuel →
      takeAttrs fuel (renderAttrs attrs ++ (pad ++ '>' :: r)) = some (normAttrList attrs, false, r) ∧
      takeAttrs fuel (renderAttrs attrs ++ (pad ++ '/' :: '>' :: r)) = some (normAttrList attrs, true, r) := by
  induction attrs with
  | nil =>
    intro fuel hf
    obtain ⟨f, rfl⟩ : ∃ f, fuel = f + 1 := ⟨fuel - 1, by omega⟩
    have h1 : isWs '>' = false := by decide
    have h2 : isWs '/' = false := by decide
    constructor
    · simp only [renderAttrs, List.nil_append]
      rw [takeAttrs.eq_def]; simp only [skipWs_pad pad '>' r hp h1]; rfl
    · simp only [renderAttrs, List.nil_append]
      rw [takeAttrs.eq_def]; simp only [skipWs_pad pad '/' _ hp h2]; rfl
  | cons kv rest ih =>
    intro fuel hf
    obtain ⟨k, v⟩ := kv
    simp only [List.all_cons, Bool.and_eq_true] at h
    obtain ⟨f, rfl⟩ : ∃ f, fuel = f + 1 := ⟨fuel - 1, by omega⟩
    have ih := ih h.2 f (by simp at hf; omega)
    simp only [renderAttrs, List.cons_append, List.append_assoc]
    rw [takeAttrs_attr f k v _ h.1.1 h.1.2, takeAttrs_attr f k v _ h.1.1 h.1.2, ih.1, ih.2]
    exact ⟨rfl, rfl⟩

theorem attrs_length_le (attrs : List (Str × Str)) : attrs.length ≤ (renderAttrs attrs).length := by
  induction attrs with
  | nil => simp
  | cons kv rest ih => obtain ⟨k, v⟩ := kv; simp [renderAttrs]; omega

theorem pNode_text_step (f : Nat) (c : Char) (r : Str) (hc : c ≠ '<') :
    pNode (f + 1) (c :: r) = (takeText (r.length + 2) (c :: r)).map fun p => (some (.text false p.1), p.2) := by
  rw [pNode.eq_7 f c r (fun _ e _ => hc e) (fun _ e _ => hc e) (fun _ e _ => hc e) hc]
  cases takeText (r.length + 2) (c :: r) <;> rfl

theorem pNode_elem_step (f : Nat) (tag r1 : Str) (hn : isName tag = true)
    (h1 : takeName (tag ++ r1) = (tag, r1)) :
    pNode (f + 1) ('<' :: (tag ++ r1)) =
      match takeAttrs (r1.length + 1) r1 with
      | some (attrs, true, r2) => if attrKeysNodup attrs then some (some (.elem tag attrs []), r2) else none
      | some (attrs, false, r2) =>
        if !attrKeysNodup attrs then none else
        match pNodes f r2 with
        | some (kids, '<' :: '/' :: r3) =>
          match takeName r3 with
          | (tag', r4) =>
            match skipWs r4 with
            | '>' :: r5 => if tag' = tag then some (some (.elem tag attrs kids), r5) else none
            | _ => none
        | _ => none
      | none => none := by
  obtain ⟨c, cs, rfl, hc, hall⟩ := isName_cons hn
  have hb : c ≠ '!' := ne_of_nsc hc nsc_bang
  have hq : c ≠ '?' := ne_of_nsc hc nsc_qm
  rw [pNode.eq_5 f _ (fun _ e => hb (by simpa using congrArg List.head? e))
    (fun _ e => hb (by simpa using congrArg List.head? e)) (fun _ e => hq (by simpa using congrArg List.head? e)), h1]
  simp only [hn]
  rfl

theorem nameChars_of_isName {tag : Str} (hn : isName tag = true) : ∀ x ∈ tag, nameChar x = true := by
  obtain ⟨c, cs, rfl, _, hall⟩ := isName_cons hn
  exact hall

theorem pNodes_cons {c : Char} {r r1 r' : Str} {n : Node} {ks : List Node} (b : Nat)
    (hc : ∀ r'', c :: r ≠ '<' :: '/' :: r'')
    (h1 : ∀ f, b ≤ f → pNode f (c :: r) = some (some n, r1)) (h2 : ∀ f, b ≤ f → pNodes f r1 = some (ks, r')) :
    ∀ f, b + 1 ≤ f → pNodes f (c :: r) = some (n :: ks, r') := by
  intro f hf
  obtain ⟨g, rfl⟩ : ∃ g, f = g + 1 := ⟨f - 1, by omega⟩
  rw [pNodes.eq_4 (c :: r) g (by simp) fun r'' e => hc r'' e]
  simp [h1 g (by omega), h2 g (by omega)]

/-- put the text `a` in front of a (normalised) child list, merging it into a leading text node -/
def prepend : Str → List Node → List Node
  | [], l => l
  | c :: a, .text _ b :: r => .text false (c :: a ++ b) :: r
  | c :: a, r => .text false (c :: a) :: r

theorem mergeText_text (b : Bool) (a : Str) (rest : List Node) :
    mergeText (.text b a :: rest) = prepend a (mergeText rest) := by
  cases a with
  | nil => simp [mergeText, prepend]
  | cons c a =>
    rw [mergeText.eq_def]
    simp only
    cases h : mergeText rest with
    | nil => simp [prepend]
    | cons n l => cases n <;> simp [prepend]

theorem mergeText_elem (t : Str) (a : List (Str × Str)) (ks rest : List Node) :
    mergeText (.elem t a ks :: rest) = .elem t a ks :: mergeText rest := by
  simp [mergeText]

theorem prepend_nil (l : List Node) : prepend [] l = l := rfl

theorem prepend_prepend (a b : Str) (l : List Node) : prepend a (prepend b l) = prepend (a ++ b) l := by
  cases a with
  | nil => simp [prepend]
  | cons c a =>
    cases b with
    | nil => simp [prepend]
    | cons d b =>
      cases l with
      | nil => simp [prepend]
      | cons n l => cases n <;> simp [prepend]

theorem prepend_isElem (s : Str) (n : Node) (l : List Node) (h : isElem n = true) :
    prepend s (n :: l) = textIfNonempty s ++ n :: l := by
  cases n with
  | text _ _ => simp [isElem] at h
  | elem t a ks => cases s <;> simp [prepend, textIfNonempty]

theorem prepend_nil_list (s : Str) : prepend s [] = textIfNonempty s := by
  cases s <;> simp [prepend, textIfNonempty]

mutual
/-- fuel that `pNodes` needs for this node as a child (`pNode` needs 2 less) -/
def cost : Node → Nat
  | .text _ _ => 0
  | .elem _ _ [] => 3
  | .elem _ _ (k :: ks) => 3 + costs (k :: ks)
def costs : List Node → Nat
  | [] => 2
  | k :: ks => cost k + costs ks
end

theorem costs_ge (ks : List Node) : 2 ≤ costs ks := by
  induction ks with
  | nil => simp [costs]
  | cons k ks ih => simp [costs]; omega

theorem cost_elem_ge (t : Str) (a : List (Str × Str)) (ks : List Node) : 3 ≤ cost (.elem t a ks) := by
  cases ks <;> simp [cost]

mutual
theorem cost_le_length (ind add nl : Str) : ∀ (n : Node), cost n ≤ (render ind add nl n).length
  | .text _ _ => by simp [cost]
  | .elem t a [] => by simp [cost, render]; omega
  | .elem t a (k :: ks) => by
    have h1 := costs_le_length [] [] [] (k :: ks)
    have h2 := costs_le_length (ind ++ add) add nl (k :: ks)
    simp only [cost, render]
    split <;> simp <;> omega
theorem costs_le_length (ind add nl : Str) : ∀ (ks : List Node), costs ks ≤ (renderKids ind add nl ks).length + 2
  | [] => by simp [costs]
  | k :: ks => by
    have h1 := cost_le_length ind add nl k
    have h2 := costs_le_length ind add nl ks
    simp [costs, renderKids]; omega
end

/-- what `render` writes between the tags of an element with children -/
def content (ind add nl : Str) (ks : List Node) : Str :=
  if ks.any isText then leadSp ks ++ (renderKids [] [] [] ks ++ trailSp ks)
  else nl ++ (renderKids (ind ++ add) add nl ks ++ ind)

/-- `render` of an element without the leading `ind` and the trailing `nl` -/
def core (ind add nl : Str) : Node → Str
  | .text _ _ => []
  | .elem t a [] => '<' :: (t ++ (renderAttrs a ++ '/' :: '>' :: []))
  | .elem t a (k :: ks) =>
    '<' :: (t ++ (renderAttrs a ++ '>' :: (content ind add nl (k :: ks) ++ '<' :: '/' :: (t ++ ['>']))))

theorem render_elem (ind add nl t : Str) (a : List (Str × Str)) (ks : List Node) :
    render ind add nl (.elem t a ks) = ind ++ (core ind add nl (.elem t a ks) ++ nl) := by
  cases ks with
  | nil => simp [render, core]
  | cons k ks =>
    simp only [render, core, content, leadSp, trailSp]
    split <;> simp

theorem padChar {c : Char} (h : (isWs c && c != '\r') = true) : c = ' ' ∨ c = '\t' ∨ c = '\n' := by
  simp only [isWs, Bool.and_eq_true, Bool.or_eq_true, beq_iff_eq, bne_iff_ne] at h
  rcases h with ⟨((h | h) | h) | h, h2⟩ <;> simp_all

theorem padOk_nil : padOk [] = true := rfl
theorem padOk_append {a b : Str} (ha : padOk a = true) (hb : padOk b = true) : padOk (a ++ b) = true := by
  simp_all [padOk]
theorem padOk_leadSp (ks : List Node) : padOk (leadSp ks) = true := by
  cases ks with
  | nil => rfl
  | cons k ks => simp only [leadSp]; split <;> (try split) <;> decide
theorem padOk_trailSp (ks : List Node) : padOk (trailSp ks) = true := by
  cases ks with
  | nil => rfl
  | cons k ks => simp only [trailSp]; split <;> decide
theorem padOk_xml {s : Str} (h : padOk s = true) : s.all isXmlChar = true := by
  simp only [padOk, List.all_eq_true] at h ⊢
  intro c hc
  rcases padChar (h c hc) with rfl | rfl | rfl <;> decide

theorem Enc.pad {s : Str} (h : padOk s = true) : Enc s s := by
  have := Enc.escText (padOk_xml h)
  rwa [escText_plain s fun c hc => by
    rcases padChar (List.all_eq_true.mp h c hc) with rfl | rfl | rfl <;> decide] at this

/-- the normalised children for `renderKids ind add nl ks` followed by the text `post` -/
def K (ind add nl : Str) (ks : List Node) (post : Str) : List Node :=
  mergeText (normKids (layoutKids ind add nl ks ++ [.text false post]))

theorem K_nil (ind add nl post : Str) : K ind add nl [] post = textIfNonempty post := by
  simp [K, layoutKids, normKids, normNode, mergeText_text, mergeText, prepend_nil_list]

theorem K_text (ind add nl post : Str) (b : Bool) (s : Str) (ks : List Node) :
    K ind add nl (.text b s :: ks) post = prepend (ind ++ (s ++ nl)) (K ind add nl ks post) := by
  simp [K, layoutKids, layout, normKids, normNode, mergeText_text, prepend_prepend]

theorem normNode_elem (t : Str) (a : List (Str × Str)) (ks : List Node) :
    normNode (.elem t a ks) = .elem t a (mergeText (normKids ks)) := by
  simp [normNode]

theorem normNode_text (b : Bool) (s : Str) : normNode (.text b s) = .text false s := by
  simp [normNode]

theorem layout_elem (ind add nl t : Str) (a : List (Str × Str)) (ks : List Node) :
    ∃ ks', layout ind add nl (.elem t a ks) = .elem t a ks' := by
  cases ks <;> simp [layout]

theorem K_elem (ind add nl post t : Str) (a : List (Str × Str)) (ks' ks : List Node) :
    K ind add nl (.elem t a ks' :: ks) post =
      textIfNonempty ind ++ normNode (layout ind add nl (.elem t a ks')) :: prepend nl (K ind add nl ks post) := by
  obtain ⟨ks'', h⟩ := layout_elem ind add nl t a ks'
  simp [K, layoutKids, normKids, mergeText_text, h, normNode_elem, normNode_text, mergeText_elem]
  exact prepend_isElem _ _ _ rfl

theorem normNode_layout_cons (ind add nl t : Str) (a : List (Str × Str)) (k : Node) (ks : List Node) :
    normNode (layout ind add nl (.elem t a (k :: ks))) =
      .elem t a (if (k :: ks).any isText then
          prepend (leadSp (k :: ks)) (K [] [] [] (k :: ks) (trailSp (k :: ks)))
        else prepend nl (K (ind ++ add) add nl (k :: ks) ind)) := by
  simp only [layout, normNode_elem]
  split <;> simp [normKids, normNode, mergeText_text, K]

/-! ## attribute normalisation does not change the shape of the tree -/

theorem isText_normAttrs (k : Node) : isText (normAttrs k) = isText k := by
  cases k <;> simp [normAttrs, isText]

theorem isElem_normAttrs (k : Node) : isElem (normAttrs k) = isElem k := by
  cases k <;> simp [normAttrs, isElem]

theorem any_isText_normAttrsKids (ks : List Node) : (normAttrsKids ks).any isText = ks.any isText := by
  simp only [normAttrsKids_eq, List.any_map, Function.comp_def, isText_normAttrs]

theorem leadSp_normAttrsKids (ks : List Node) : leadSp (normAttrsKids ks) = leadSp ks := by
  rw [normAttrsKids_eq]
  cases ks with
  | nil => rfl
  | cons k ks => simp [leadSp, isText_normAttrs]

theorem trailSp_normAttrsKids (ks : List Node) : trailSp (normAttrsKids ks) = trailSp ks := by
  rw [normAttrsKids_eq]
  cases ks with
  | nil => rfl
  | cons k ks => simp [trailSp]

theorem attrKeysNodup_iff (d : List (Str × Str)) : attrKeysNodup d = true ↔ (d.map Prod.fst).Nodup := by
  induction d with
  | nil => simp [attrKeysNodup]
  | cons p r ih =>
    rw [attrKeysNodup, Bool.and_eq_true, Bool.not_eq_true', ← Bool.not_eq_true, ih, List.map_cons, List.nodup_cons]
    simp only [List.any_eq_true, beq_iff_eq, List.mem_map]

theorem attrKeysNodup_normAttrList (a : List (Str × Str)) :
    attrKeysNodup (normAttrList a) = attrKeysNodup a := by
  have : (normAttrList a).map Prod.fst = a.map Prod.fst := by simp [normAttrList]
  rw [Bool.eq_iff_iff, attrKeysNodup_iff, attrKeysNodup_iff, this]

theorem normAttrList_ok (a : List (Str × Str))
    (h : a.all (fun kv => isName kv.1 && kv.2.all attrCharOk) = true) : normAttrList a = a := by
  refine (List.map_congr_left fun kv hkv => ?_).trans (List.map_id' a)
  have hv := List.all_eq_true.mp h kv hkv
  rw [Bool.and_eq_true] at hv
  rw [normAttrVal_ok kv.2 hv.2]

theorem lookup_normAttrList (k : Str) (a : List (Str × Str)) :
    lookup k (normAttrList a) = (lookup k a).map normAttrVal :=
  lookup_map_values normAttrVal k a

theorem attrsWFLax_of_attrsWF {a : List (Str × Str)} (h : attrsWF a = true) : attrsWFLax a = true := by
  simp only [attrsWF, attrsWFLax, Bool.and_eq_true, List.all_eq_true] at h ⊢
  exact ⟨fun kv hkv => ⟨(h.1 kv hkv).1, List.all_eq_true.mp (attrCharOk_xml (List.all_eq_true.mpr (h.1 kv hkv).2))⟩, h.2⟩

mutual
theorem WFLax_of_WF : ∀ (n : Node), n.WF = true → n.WFLax = true
  | .text _ s, h => by
    simp only [Node.WF, Node.WFLax, List.all_eq_true, textCharOk, Bool.and_eq_true] at h ⊢
    exact fun c hc => (h c hc).1
  | .elem t a ks, h => by
    simp only [Node.WF, Node.WFLax, Bool.and_eq_true] at h ⊢
    exact ⟨⟨h.1.1, attrsWFLax_of_attrsWF h.1.2⟩, WFKidsLax_of_WFKids ks h.2⟩
theorem WFKidsLax_of_WFKids : ∀ (ks : List Node), WFKids ks = true → WFKidsLax ks = true
  | [], _ => rfl
  | k :: ks, h => by
    simp only [WFKids, WFKidsLax, Bool.and_eq_true] at h ⊢
    exact ⟨WFLax_of_WF k h.1, WFKidsLax_of_WFKids ks h.2⟩
end

mutual
theorem normAttrs_of_WF : ∀ (n : Node), n.WF = true → normAttrs n = n
  | .text _ _, _ => rfl
  | .elem t a ks, h => by
    simp only [Node.WF, attrsWF, Bool.and_eq_true] at h
    simp only [normAttrs, normAttrList_ok a h.1.2.1, normAttrsKids_of_WFKids ks h.2]
theorem normAttrsKids_of_WFKids : ∀ (ks : List Node), WFKids ks = true → normAttrsKids ks = ks
  | [], _ => rfl
  | k :: ks, h => by
    simp only [WFKids, Bool.and_eq_true] at h
    simp only [normAttrsKids, normAttrs_of_WF k h.1, normAttrsKids_of_WFKids ks h.2]
end

/-- what may follow a child list: end of input or an end tag -/
def closes : Str → Prop
  | [] => True
  | '<' :: '/' :: _ => True
  | _ => False

theorem closes_startsLt {r : Str} (h : closes r) : startsLt r := by
  unfold closes at h; split at h <;> simp_all [startsLt]

theorem pNodes_closes {r : Str} (h : closes r) : ∀ f, 1 ≤ f → pNodes f r = some ([], r) := by
  intro f hf
  obtain ⟨g, rfl⟩ : ∃ g, f = g + 1 := ⟨f - 1, by omega⟩
  unfold closes at h
  split at h
  · simp [pNodes]
  · simp [pNodes]
  · contradiction

theorem pNodes_zero (inp : Str) : pNodes 0 inp = none := by
  simp [pNodes]

theorem normTextKids_textIf (s : Str) (L : List Node) :
    normTextKids (textIfNonempty s ++ L) = textIfNonempty (normEol s) ++ normTextKids L := by
  cases s with
  | nil => simp [textIfNonempty, normEol]
  | cons c s =>
    have h : (normEol (c :: s)).isEmpty = false := normEol_isEmpty _
    simp [textIfNonempty, normTextKids, normText, h]

/-- empty text reads `X` with the fuel it is given; a text node costs one level -/
theorem pNodes_text_then {e s X : Str} {L : List Node} {r' : Str} (b : Nat) (he : Enc e s) (hX : startsLt X)
    (h : ∀ f, b ≤ f → pNodes f X = some (L, r')) :
    ∀ f, b + 1 ≤ f → pNodes f (e ++ X) = some (textIfNonempty (normEol s) ++ L, r') := by
  intro f hf
  cases s with
  | nil => rw [he.nil_inv]; simpa [textIfNonempty, normEol] using h f (by omega)
  | cons c s =>
    obtain ⟨d, r, rfl, hd⟩ := he.head
    have hb : 1 ≤ b := by
      cases b with
      | zero => have := h 0 (Nat.le_refl 0); simp [pNodes_zero] at this
      | succ _ => omega
    have ht := takeText_enc he X ((r ++ X).length + 2) hX (by simp; omega)
    have hn : ∀ g, b ≤ g → pNode g (d :: (r ++ X)) = some (some (.text false (normEol (c :: s))), X) := by
      intro g hg
      obtain ⟨g', rfl⟩ : ∃ g', g = g' + 1 := ⟨g - 1, by omega⟩
      rw [pNode_text_step g' d _ hd]
      simp only [List.cons_append] at ht
      rw [ht]; rfl
    have hne : (normEol (c :: s)).isEmpty = false := normEol_isEmpty _
    simpa [textIfNonempty, hne] using pNodes_cons b (by intro r'' h; simp at h; exact hd h.1) hn h f hf

theorem nameChar_pad {c : Char} (h : (isWs c && c != '\r') = true) : nameChar c = false := by
  rcases padChar h with rfl | rfl | rfl <;> decide

theorem takeName_tagEnd (t : Str) (a : List (Str × Str)) (pad : Str) (c : Char) (X : Str)
    (ht : ∀ x ∈ t, nameChar x = true) (hp : padOk pad = true) (hc : nameChar c = false) :
    takeName (t ++ (renderAttrs a ++ (pad ++ c :: X))) = (t, renderAttrs a ++ (pad ++ c :: X)) := by
  cases a with
  | cons kv rest => obtain ⟨k, v⟩ := kv; simpa [renderAttrs] using takeName_append t ' ' _ ht nc_sp
  | nil =>
    cases pad with
    | nil => simpa [renderAttrs] using takeName_append t c X ht hc
    | cons d p =>
      simp only [padOk, List.all_cons, Bool.and_eq_true] at hp
      simpa [renderAttrs] using takeName_append t d _ ht (nameChar_pad (by simpa using hp.1))

section
variable (f : Nat) {t : Str} {a : List (Str × Str)} (pad rest : Str) (ht : isName t = true)
  (ha : a.all (fun kv => isName kv.1 && kv.2.all isXmlChar) = true) (hnd : attrKeysNodup a = true)
  (hp : padOk pad = true)
include ht ha hnd hp

/-- `<t k="v" … />` -/
theorem pNode_leaf :
    pNode (f + 1) ('<' :: (t ++ (renderAttrs a ++ (pad ++ '/' :: '>' :: rest)))) =
      some (some (.elem t (normAttrList a) []), rest) := by
  rw [pNode_elem_step f t _ ht (takeName_tagEnd t a pad '/' _ (nameChars_of_isName ht) hp nc_slash),
    (takeAttrs_render a ha pad rest hp _ (by have := attrs_length_le a; simp; omega)).2]
  simp [attrKeysNodup_normAttrList, hnd]

/-- `<t k="v" … >X</t>` -/
theorem pNode_block (X : Str) (kids : List Node)
    (hk : pNodes f (X ++ '<' :: '/' :: (t ++ '>' :: rest)) = some (kids, '<' :: '/' :: (t ++ '>' :: rest))) :
    pNode (f + 1) ('<' :: (t ++ (renderAttrs a ++ (pad ++ '>' :: (X ++ '<' :: '/' :: (t ++ '>' :: rest)))))) =
      some (some (.elem t (normAttrList a) kids), rest) := by
  have h5 := takeName_append t '>' rest (nameChars_of_isName ht) nc_gt
  have h6 : isWs '>' = false := by decide
  rw [pNode_elem_step f t _ ht (takeName_tagEnd t a pad '>' _ (nameChars_of_isName ht) hp nc_gt),
    (takeAttrs_render a ha pad _ hp _ (by have := attrs_length_le a; simp; omega)).1]
  simp only [attrKeysNodup_normAttrList, hnd, hk, h5, skipWs_nonws _ h6]
  simp
end

theorem isElem_norm_layout (ind add nl t : Str) (a : List (Str × Str)) (ks : List Node) :
    isElem (normNode (layout ind add nl (.elem t a ks))) = true := by
  obtain ⟨ks', h⟩ := layout_elem ind add nl t a ks
  simp [h, normNode_elem, isElem]

theorem core_head (ind add nl t : Str) (a : List (Str × Str)) (ks : List Node) (rest : Str)
    (ht : isName t = true) :
    ∃ c r, core ind add nl (.elem t a ks) ++ rest = '<' :: c :: r ∧ c ≠ '/' ∧ c ≠ '!' ∧ c ≠ '?' := by
  obtain ⟨c, cs, rfl, hc, _⟩ := isName_cons ht
  have h := And.intro (ne_of_nsc hc nsc_slash) (And.intro (ne_of_nsc hc nsc_bang) (ne_of_nsc hc nsc_qm))
  cases ks with
  | nil => exact ⟨c, _, by simp [core]; rfl, h⟩
  | cons k ks => exact ⟨c, _, by simp [core]; rfl, h⟩

theorem WFLax_elem {t : Str} {a : List (Str × Str)} {ks : List Node} (h : (Node.elem t a ks).WFLax = true) :
    isName t = true ∧ a.all (fun kv => isName kv.1 && kv.2.all isXmlChar) = true ∧
      attrKeysNodup a = true ∧ WFKidsLax ks = true := by
  simp only [Node.WFLax, attrsWFLax, Bool.and_eq_true] at h
  exact ⟨h.1.1, h.1.2.1, h.1.2.2, h.2⟩

mutual
theorem rt_elem : ∀ (n : Node), n.WFLax = true → isElem n = true →
    ∀ (ind add nl rest : Str) (fuel : Nat), padOk ind = true → padOk add = true → padOk nl = true →
    cost n ≤ fuel + 2 →
    pNode fuel (core ind add nl n ++ rest) =
      some (some (normText (normNode (layout ind add nl (normAttrs n)))), rest)
  | .text _ _, _, he, _, _, _, _, _, _, _, _, _ => by simp [isElem] at he
  | .elem t a [], hwf, _, ind, add, nl, rest, fuel, _, _, _, hf => by
    obtain ⟨ht, ha, hnd, _⟩ := WFLax_elem hwf
    obtain ⟨f, rfl⟩ : ∃ f, fuel = f + 1 := ⟨fuel - 1, by simp [cost] at hf; omega⟩
    simpa [core, layout, normAttrs, normAttrsKids, normNode, normKids, mergeText, normText, normTextKids] using
      pNode_leaf f [] rest ht ha hnd padOk_nil
  | .elem t a (k :: ks), hwf, _, ind, add, nl, rest, fuel, hi, had, hnl, hf => by
    obtain ⟨ht, ha, hnd, hks⟩ := WFLax_elem hwf
    obtain ⟨f, rfl⟩ : ∃ f, fuel = f + 1 := ⟨fuel - 1, by simp [cost] at hf; have := costs_ge (k :: ks); omega⟩
    have hf' : costs (k :: ks) ≤ f := by simp only [cost] at hf; omega
    let tail := '<' :: '/' :: (t ++ '>' :: rest)
    have hcl : closes tail := by simp [tail, closes]
    have h4 : pNodes f (content ind add nl (k :: ks) ++ tail) =
        some (normTextKids (if (k :: ks).any isText then
            prepend (leadSp (k :: ks)) (K [] [] [] (normAttrsKids (k :: ks)) (trailSp (k :: ks)))
          else prepend nl (K (ind ++ add) add nl (normAttrsKids (k :: ks)) ind)), tail) := by
      unfold content
      split
      · simpa [List.append_assoc] using rt_kids (k :: ks) hks [] [] [] (leadSp (k :: ks)) (leadSp (k :: ks))
          (trailSp (k :: ks)) (trailSp (k :: ks)) tail f padOk_nil padOk_nil padOk_nil
          (Enc.pad (padOk_leadSp _)) (Enc.pad (padOk_trailSp _)) hcl hf'
      · simpa [List.append_assoc] using rt_kids (k :: ks) hks (ind ++ add) add nl nl nl ind ind tail f
          (padOk_append hi had) had hnl (Enc.pad hnl) (Enc.pad hi) hcl hf'
    have := pNode_block f [] rest ht ha hnd padOk_nil _ _ h4
    have hna : normAttrs (.elem t a (k :: ks)) = .elem t (normAttrList a) (normAttrsKids (k :: ks)) := by
      simp only [normAttrs]
    have hk : normAttrsKids (k :: ks) = normAttrs k :: normAttrsKids ks := by simp only [normAttrsKids]
    rw [hna, hk, normNode_layout_cons, ← hk, any_isText_normAttrsKids, leadSp_normAttrsKids, trailSp_normAttrsKids]
    simp only [normText]
    simpa [core, tail, List.append_assoc] using this
/-- reading back a rendered child list, preceded by the escaped text `e` and followed by `e'` -/
theorem rt_kids : ∀ (ks : List Node), WFKidsLax ks = true →
    ∀ (ind add nl e acc e' post rest : Str) (fuel : Nat),
    padOk ind = true → padOk add = true → padOk nl = true →
    Enc e acc → Enc e' post → closes rest → costs ks ≤ fuel →
    pNodes fuel (e ++ (renderKids ind add nl ks ++ (e' ++ rest))) =
      some (normTextKids (prepend acc (K ind add nl (normAttrsKids ks) post)), rest)
  | [], _, ind, add, nl, e, acc, e', post, rest, fuel, _, _, _, he, he', hcl, hf => by
    have := pNodes_text_then 1 (he.append he') (closes_startsLt hcl) (pNodes_closes hcl) fuel (by simpa [costs] using hf)
    simp only [renderKids, normAttrsKids, List.nil_append, K_nil, ← prepend_nil_list, prepend_prepend]
    have h0 := normTextKids_textIf (acc ++ post) []
    simp only [List.append_nil] at h0
    rw [prepend_nil_list, h0]
    simpa [List.append_assoc, normTextKids] using this
  | .text b s :: ks, hwf, ind, add, nl, e, acc, e', post, rest, fuel, hi, had, hnl, he, he', hcl, hf => by
    simp only [WFKidsLax, Node.WFLax, Bool.and_eq_true] at hwf
    have hok : (ind ++ (s ++ nl)).all isXmlChar = true := by
      simp [List.all_append, padOk_xml hi, padOk_xml hnl, hwf.1]
    have henc : Enc (render ind add nl (.text b s)) (ind ++ (s ++ nl)) := by
      simp only [render, List.append_assoc]
      split
      · exact Enc.escAttr hok
      · exact Enc.escText hok
    have := rt_kids ks hwf.2 ind add nl (e ++ render ind add nl (.text b s)) (acc ++ (ind ++ (s ++ nl)))
      e' post rest fuel hi had hnl (he.append henc) he' hcl (by simpa [costs, cost] using hf)
    simp only [normAttrsKids, normAttrs]
    rw [K_text, prepend_prepend]
    simpa [renderKids, List.append_assoc] using this
  | .elem t a ks' :: ks, hwf, ind, add, nl, e, acc, e', post, rest, fuel, hi, had, hnl, he, he', hcl, hf => by
    simp only [WFKidsLax, Bool.and_eq_true] at hwf
    obtain ⟨ht, _, _, _⟩ := WFLax_elem hwf.1
    have hc3 := cost_elem_ge t a ks'
    have hc2 := costs_ge ks
    simp only [costs] at hf
    let X' := nl ++ (renderKids ind add nl ks ++ (e' ++ rest))
    let E := normNode (layout ind add nl (.elem t (normAttrList a) (normAttrsKids ks')))
    let L := prepend nl (K ind add nl (normAttrsKids ks) post)
    obtain ⟨c, r, hcr, hc, _, _⟩ := core_head ind add nl t a ks' X' ht
    -- the element and what follows it, from `m` on; the pending text in front of it costs one more
    obtain ⟨m, hm⟩ : ∃ m, m + 2 = cost (.elem t a ks') + costs ks := ⟨_, Nat.sub_add_cancel (by omega)⟩
    have hX : ∀ f, m + 1 ≤ f → pNodes f ('<' :: c :: r) = some (normText E :: normTextKids L, rest) :=
      pNodes_cons m (by intro r'' h; simp at h; exact hc h.1)
        (fun f hf => by rw [← hcr]; exact rt_elem _ hwf.1 rfl ind add nl X' f hi had hnl (by omega))
        (fun f hf => rt_kids ks hwf.2 ind add nl nl nl e' post rest f hi had hnl (Enc.pad hnl) he' hcl (by omega))
    have := pNodes_text_then (m + 1) (he.append (Enc.pad hi)) (by simp [startsLt]) hX fuel (by omega)
    have hE : isElem E = true := isElem_norm_layout ind add nl t (normAttrList a) (normAttrsKids ks')
    simp only [normAttrsKids, normAttrs]
    -- `prepend acc (textIfNonempty ind ++ E :: L) = textIfNonempty (acc ++ ind) ++ E :: L`, `E` being an element
    rw [K_elem, ← prepend_isElem _ _ _ hE, prepend_prepend, prepend_isElem _ _ _ hE, normTextKids_textIf]
    simp only [renderKids, render_elem, normTextKids]
    rw [← hcr] at this
    simpa [X', E, L, List.append_assoc] using this
end

/-! ## compact layout = boundary spaces -/

theorem merge_norm_textIf (s : Str) (L : List Node) :
    mergeText (normKids (textIfNonempty s ++ L)) = prepend s (mergeText (normKids L)) := by
  cases s with
  | nil => simp [textIfNonempty, prepend]
  | cons c s => simp [textIfNonempty, normKids, normNode_text, mergeText_text]

theorem withSpaces_elem (t : Str) (a : List (Str × Str)) (ks : List Node) :
    ∃ ks', withSpaces (.elem t a ks) = .elem t a ks' := by
  simp only [withSpaces]; split <;> simp

mutual
theorem norm_layout_compact : ∀ (n : Node), normNode (layout [] [] [] n) = normNode (withSpaces n)
  | .text _ _ => by simp [layout, withSpaces]
  | .elem t a [] => by simp [layout, withSpaces, withSpacesKids]
  | .elem t a (k :: ks) => by
    rw [normNode_layout_cons]
    have h := K_compact (k :: ks)
    simp only [withSpaces]
    split
    · simp only [normNode_elem, List.append_assoc, merge_norm_textIf, h]
    · simp only [normNode_elem, List.append_nil, prepend_nil, h, textIfNonempty]
      simp
theorem K_compact : ∀ (ks : List Node) (post : Str),
    K [] [] [] ks post = mergeText (normKids (withSpacesKids ks ++ textIfNonempty post))
  | [], post => by
    have := merge_norm_textIf post []
    simp only [List.append_nil] at this
    simp [K_nil, withSpacesKids, this, normKids, mergeText, prepend_nil_list]
  | .text b s :: ks, post => by
    simp [K_text, K_compact ks post, withSpacesKids, withSpaces, normKids, normNode_text, mergeText_text]
  | .elem t a ks' :: ks, post => by
    obtain ⟨ks'', h⟩ := withSpaces_elem t a ks'
    rw [K_elem, norm_layout_compact (.elem t a ks'), K_compact ks post]
    simp [withSpacesKids, normKids, h, normNode_elem, mergeText_elem, textIfNonempty, prepend_nil]
end

theorem xmlDecl_eq : xmlDecl =
    ['<','?','x','m','l',' ','v','e','r','s','i','o','n','=','"','1','.','0','"','?','>'] := by
  decide

theorem skipDecl_xmlDecl (Y : Str) : skipDecl (xmlDecl ++ Y) = some Y := by
  rw [xmlDecl_eq]
  simp [skipDecl, skipPI, isWs, isXmlChar]

theorem skipMisc_pad_elem (f : Nat) (p : Str) (c : Char) (r : Str) (hp : padOk p = true)
    (h1 : c ≠ '!') (h2 : c ≠ '?') :
    skipMisc (f + 1) (p ++ '<' :: c :: r) = some ('<' :: c :: r) := by
  have hlt : isWs '<' = false := by decide
  rw [skipMisc.eq_def]
  simp only [skipWs_pad p '<' (c :: r) hp hlt]
  split
  · rename_i heq; simp at heq; exact absurd heq.1 h1
  · rename_i heq; simp at heq; exact absurd heq.1 h2
  · rfl

theorem skipMisc_pad_nil (f : Nat) (p : Str) (hp : padOk p = true) : skipMisc (f + 1) p = some [] := by
  have h : skipWs p = [] := by simpa [skipWs] using skipWs_pad_append p [] hp
  rw [skipMisc.eq_def]
  simp only [h]

/-! ## what `normNode` produces is a fixed point of `normNode`, also after `normText` -/

def headIsText : List Node → Bool
  | k :: _ => isText k
  | [] => false

mutual
/-- no empty text, no stock text, no adjacent text nodes (the shape of a parsed document) -/
def isNormNode : Node → Bool
  | .text b s => !b && !s.isEmpty
  | .elem _ _ ks => isNormKids ks
def isNormKids : List Node → Bool
  | [] => true
  | k :: ks => isNormNode k && isNormKids ks && !(isText k && headIsText ks)
end

theorem prepend_of_headNotText (c : Char) (s : Str) (L : List Node) (h : headIsText L = false) :
    prepend (c :: s) L = .text false (c :: s) :: L := by
  cases L with
  | nil => rfl
  | cons n r => cases n <;> simp_all [headIsText, isText, prepend]

mutual
theorem normNode_of_isNorm : ∀ (n : Node), isNormNode n = true → normNode n = n
  | .text b s, h => by
    simp only [isNormNode, Bool.and_eq_true, Bool.not_eq_true'] at h
    rw [normNode_text, h.1]
  | .elem t a ks, h => by
    simp only [isNormNode] at h
    rw [normNode_elem, mergeNorm_of_isNorm ks h]
theorem mergeNorm_of_isNorm : ∀ (ks : List Node), isNormKids ks = true → mergeText (normKids ks) = ks
  | [], _ => by simp [normKids, mergeText]
  | .text b s :: ks, h => by
    simp only [isNormKids, isNormNode, Bool.and_eq_true, Bool.not_eq_true', isText, Bool.true_and] at h
    obtain ⟨⟨⟨hb, hs⟩, hks⟩, hh⟩ := h
    cases s with
    | nil => simp at hs
    | cons c s =>
      simp only [normKids, normNode_text, mergeText_text, mergeNorm_of_isNorm ks hks]
      rw [prepend_of_headNotText c s ks hh, hb]
  | .elem t a ks' :: ks, h => by
    simp only [isNormKids, isNormNode, Bool.and_eq_true] at h
    simp only [normKids, normNode_elem, mergeText_elem, mergeNorm_of_isNorm ks' h.1.1,
      mergeNorm_of_isNorm ks h.1.2]
end

theorem isNorm_prepend (s : Str) (M : List Node) (h : isNormKids M = true) :
    isNormKids (prepend s M) = true := by
  cases s with
  | nil => exact h
  | cons c s =>
    cases M with
    | nil => simp [prepend, isNormKids, isNormNode, headIsText]
    | cons n r =>
      cases n with
      | text b x =>
        simp only [isNormKids, isNormNode, isText, Bool.true_and, Bool.and_eq_true] at h
        simp [prepend, isNormKids, isNormNode, isText, h.1.2, h.2]
      | elem t a ks =>
        simp only [isNormKids, isNormNode, Bool.and_eq_true] at h
        simp [prepend, isNormKids, isNormNode, isText, headIsText, h.1.1, h.1.2]

mutual
theorem isNorm_normNode : ∀ (n : Node), isElem n = true → isNormNode (normNode n) = true
  | .text _ _, h => by simp [isElem] at h
  | .elem t a ks, _ => by
    rw [normNode_elem]; simp only [isNormNode]; exact isNorm_mergeNorm ks
theorem isNorm_mergeNorm : ∀ (ks : List Node), isNormKids (mergeText (normKids ks)) = true
  | [] => by simp [normKids, mergeText, isNormKids]
  | .text b s :: ks => by
    simp only [normKids, normNode_text, mergeText_text]
    exact isNorm_prepend s _ (isNorm_mergeNorm ks)
  | .elem t a ks' :: ks => by
    have h1 := isNorm_normNode (.elem t a ks') rfl
    rw [normNode_elem] at h1
    simp only [normKids, normNode_elem, mergeText_elem, isNormKids, h1, isNorm_mergeNorm ks, isText]
    simp
end

theorem normNode_idem : ∀ (n : Node), normNode (normNode n) = normNode n
  | .text _ _ => by simp [normNode]
  | .elem t a ks => normNode_of_isNorm _ (isNorm_normNode (.elem t a ks) rfl)

theorem isText_normText (k : Node) : isText (normText k) = isText k := by
  cases k <;> simp [normText, isText]

theorem headIsText_normTextKids (ks : List Node) : headIsText (normTextKids ks) = headIsText ks := by
  cases ks <;> simp [normTextKids, headIsText, isText_normText]

mutual
theorem isNorm_normText : ∀ (n : Node), isNormNode n = true → isNormNode (normText n) = true
  | .text b s, h => by simpa [normText, isNormNode, normEol_isEmpty] using h
  | .elem t a ks, h => by
    simp only [isNormNode, normText] at h ⊢
    exact isNorm_normTextKids ks h
theorem isNorm_normTextKids : ∀ (ks : List Node), isNormKids ks = true → isNormKids (normTextKids ks) = true
  | [], _ => by simp [normTextKids, isNormKids]
  | k :: ks, h => by
    simp only [isNormKids, Bool.and_eq_true] at h
    simp only [normTextKids, isNormKids, isText_normText, headIsText_normTextKids, Bool.and_eq_true]
    exact ⟨⟨isNorm_normText k h.1.1, isNorm_normTextKids ks h.1.2⟩, h.2⟩
end

theorem parseDoc_root (doc pad post : Str) (c : Char) (R : Str) (n : Node)
    (hdecl : skipDecl doc = some (pad ++ '<' :: c :: R)) (hpad : padOk pad = true) (hpost : padOk post = true)
    (hb : c ≠ '!') (hq : c ≠ '?') (he : isElem n = true)
    (hnode : pNode (doc.length + 2) ('<' :: c :: R) = some (some n, post)) :
    parseDoc doc = some (normNode n) := by
  cases n with
  | text _ _ => simp [isElem] at he
  | elem t a ks =>
    unfold parseDoc
    simp only [hdecl, skipMisc_pad_elem (doc.length + 1) pad c R hpad hb hq, hnode,
      skipMisc_pad_nil (doc.length + 1) post hpost]
    split
    · rename_i heq; simp at heq; exact absurd heq.1 hb
    · rfl

/-- `parseDoc` applies `normNode` to the root it read; that root is already in normal form (`hfix`) -/
theorem parseDoc_render (n : Node) (hwf : n.WFLax = true) (he : isElem n = true) (pre add nl : Str)
    (hpre : padOk pre = true) (hadd : padOk add = true) (hnl : padOk nl = true) :
    parseDoc (xmlDecl ++ (pre ++ render [] add nl n)) =
      some (normText (normNode (layout [] add nl (normAttrs n)))) := by
  cases n with
  | text _ _ => simp [isElem] at he
  | elem t a ks =>
    obtain ⟨ht, _, _, _⟩ := WFLax_elem hwf
    obtain ⟨c, r, hcr, _, hb, hq⟩ := core_head [] add nl t a ks nl ht
    have hna : normAttrs (.elem t a ks) = .elem t (normAttrList a) (normAttrsKids ks) := by
      simp only [normAttrs]
    obtain ⟨ks', hl⟩ := layout_elem [] add nl t (normAttrList a) (normAttrsKids ks)
    have hcost := cost_le_length [] add nl (.elem t a ks)
    rw [render_elem] at hcost
    have hp := rt_elem (.elem t a ks) hwf rfl [] add nl nl
      ((xmlDecl ++ (pre ++ render [] add nl (.elem t a ks))).length + 2) padOk_nil hadd hnl
      (by rw [render_elem]; simp only [List.length_append, List.nil_append] at hcost ⊢; omega)
    rw [hna, hl, normNode_elem] at hp
    simp only [normText] at hp
    have hfix : normNode (.elem t (normAttrList a) (normTextKids (mergeText (normKids ks')))) =
        .elem t (normAttrList a) (normTextKids (mergeText (normKids ks'))) :=
      normNode_of_isNorm _ (by
        simp only [isNormNode]
        exact isNorm_normTextKids _ (isNorm_mergeNorm ks'))
    rw [hna, hl, normNode_elem]
    simp only [normText]
    refine Eq.trans ?_ (congrArg some hfix)
    rw [render_elem, List.nil_append, hcr] at hp ⊢
    exact parseDoc_root _ pre nl c r _ (skipDecl_xmlDecl _) hpre hnl hb hq rfl hp

def realText : Node → Bool
  | .text _ s => !isWsOnly s
  | .elem _ _ _ => false

def stripCond (ks : List Node) : Bool := (ks.any fun k => !isText k) && !(ks.any realText)

theorem stripWs_elem (t : Str) (a : List (Str × Str)) (ks : List Node) :
    stripWs (.elem t a ks) =
      if stripCond ks then .elem t a ((stripWsKids ks).filter fun k => !isText k)
      else .elem t a (stripWsKids ks) := by
  -- the model writes `realText` as an inline `fun k => match k with …`: equal by `funext`, not syntactically
  have key : ∀ (F : Node → Bool), (∀ k, F k = realText k) →
      (if ((ks.any fun k => !isText k) && !ks.any F) = true then
          Node.elem t a ((stripWsKids ks).filter fun k => !isText k)
        else Node.elem t a (stripWsKids ks)) =
      if stripCond ks then .elem t a ((stripWsKids ks).filter fun k => !isText k)
      else .elem t a (stripWsKids ks) := by
    intro F hF
    have : F = realText := funext hF
    subst this
    rfl
  simp only [stripWs]
  exact key _ (fun k => by cases k <;> rfl)

theorem isText_stripWs (k : Node) : isText (stripWs k) = isText k := by
  cases k with
  | text b s => simp [stripWs]
  | elem t a ks => simp only [stripWs]; split <;> rfl

theorem stripWsKids_filter (L : List Node) :
    (stripWsKids L).filter (fun k => !isText k) = stripWsKids (L.filter fun k => !isText k) := by
  simp only [stripWsKids_eq, List.filter_map, Function.comp_def, isText_stripWs]

theorem filter_prepend (w : Str) (L : List Node) :
    (prepend w L).filter (fun k => !isText k) = L.filter fun k => !isText k := by
  cases w with
  | nil => rfl
  | cons c w =>
    cases L with
    | nil => simp [prepend, isText]
    | cons n r => cases n <;> simp [prepend, isText]

theorem filter_textIf (w : Str) : (textIfNonempty w).filter (fun k => !isText k) = [] := by
  cases w <;> simp [textIfNonempty, isText]

theorem isText_norm_layout (ind add nl t : Str) (a : List (Str × Str)) (ks : List Node) :
    isText (normNode (layout ind add nl (.elem t a ks))) = false := by
  rw [isText_eq_not_isElem, isElem_norm_layout]
  rfl

theorem filter_K (ind add nl : Str) (ks : List Node) (post : Str) :
    (K ind add nl ks post).filter (fun k => !isText k) =
      (ks.filter fun k => !isText k).map fun k => normNode (layout ind add nl k) := by
  induction ks with
  | nil => simp [K_nil, filter_textIf]
  | cons k ks ih =>
    cases k with
    | text b s =>
      have h : isText (Node.text b s) = true := rfl
      simp [K_text, filter_prepend, ih, h]
    | elem t a ks' =>
      have h : isText (Node.elem t a ks') = false := rfl
      simp [K_elem, filter_prepend, ih, h, filter_textIf, isText_norm_layout]

theorem isWsOnly_pad {s : Str} (h : padOk s = true) : isWsOnly s = true := by
  simp only [padOk, isWsOnly, List.all_eq_true, Bool.and_eq_true] at h ⊢
  exact fun c hc => (h c hc).1

theorem noRealText_textIf {s : Str} {L : List Node} (hs : isWsOnly s = true) (hL : L.any realText = false) :
    (textIfNonempty s ++ L).any realText = false := by
  cases s <;> simp_all [textIfNonempty, realText]

theorem noRealText_prepend {w : Str} {L : List Node} (hw : isWsOnly w = true) (hL : L.any realText = false) :
    (prepend w L).any realText = false := by
  cases w with
  | nil => exact hL
  | cons c w =>
    cases L with
    | nil => simp_all [prepend, realText]
    | cons n r => cases n <;> simp_all [prepend, realText, isWsOnly, List.all_append]

theorem noRealText_K (ind add nl : Str) (ks : List Node) (post : Str) (hks : ks.any isText = false)
    (hi : padOk ind = true) (hnl : padOk nl = true) (hp : padOk post = true) :
    (K ind add nl ks post).any realText = false := by
  induction ks with
  | nil =>
    rw [K_nil]
    simpa using noRealText_textIf (L := []) (isWsOnly_pad hp) rfl
  | cons k ks ih =>
    simp only [List.any_cons, Bool.or_eq_false_iff] at hks
    cases k with
    | text b s => simp [isText] at hks
    | elem t a ks' =>
      obtain ⟨ks'', h⟩ := layout_elem ind add nl t a ks'
      rw [K_elem, h, normNode_elem]
      refine noRealText_textIf (isWsOnly_pad hi) ?_
      simpa [realText] using noRealText_prepend (isWsOnly_pad hnl) (ih hks.2)

theorem any_of_filter_cons {p : Node → Bool} {L : List Node} {x : Node} {r : List Node}
    (h : L.filter p = x :: r) : L.any p = true :=
  List.any_eq_true.mpr ⟨x, mem_of_filter_eq_cons h⟩

theorem filter_nonText_self {ks : List Node} (h : ks.any isText = false) :
    ks.filter (fun k => !isText k) = ks := by
  rw [List.filter_eq_self]
  intro k hk
  rw [List.any_eq_false] at h
  simpa using h k hk

/-- an element-only child list between pad texts strips to its normalised elements -/
theorem stripWs_block_layout (ind' ind add nl t : Str) (a : List (Str × Str)) (k : Node) (ks : List Node)
    (h : (k :: ks).any isText = false)
    (hi' : padOk ind' = true) (hi : padOk ind = true) (hnl : padOk nl = true) :
    stripWs (.elem t a (prepend nl (K ind' add nl (k :: ks) ind))) =
      .elem t a (stripWsKids ((k :: ks).map fun k => normNode (layout ind' add nl k))) := by
  have hf : (prepend nl (K ind' add nl (k :: ks) ind)).filter (fun k => !isText k) =
      (k :: ks).map fun k => normNode (layout ind' add nl k) := by
    rw [filter_prepend, filter_K, filter_nonText_self h]
  have hc : stripCond (prepend nl (K ind' add nl (k :: ks) ind)) = true := by
    rw [stripCond, any_of_filter_cons (by rw [hf]; rfl),
      noRealText_prepend (isWsOnly_pad hnl) (noRealText_K ind' add nl (k :: ks) ind h hi' hnl hi)]
    rfl
  rw [stripWs_elem, hc, if_pos rfl, stripWsKids_filter, hf]

mutual
theorem strip_layout : ∀ (n : Node) (ind add nl : Str), padOk ind = true → padOk add = true →
    padOk nl = true →
    stripWs (normNode (layout ind add nl n)) = stripWs (normNode (layout [] [] [] n))
  | .text _ _, _, _, _, _, _, _ => by simp [layout]
  | .elem t a [], _, _, _, _, _, _ => by simp [layout]
  | .elem t a (k :: ks), ind, add, nl, hi, ha, hnl => by
    rw [normNode_layout_cons, normNode_layout_cons]
    cases h : (k :: ks).any isText with
    | true => simp
    | false =>
      simp only [Bool.false_eq_true, if_false]
      rw [stripWs_block_layout (ind ++ add) ind add nl t a k ks h (padOk_append hi ha) hi hnl,
        stripWs_block_layout ([] ++ []) [] [] [] t a k ks h padOk_nil padOk_nil padOk_nil,
        strip_layout_kids (k :: ks) (ind ++ add) add nl (padOk_append hi ha) ha hnl]
      rfl
theorem strip_layout_kids : ∀ (ks : List Node) (ind add nl : Str), padOk ind = true → padOk add = true →
    padOk nl = true →
    stripWsKids (ks.map fun k => normNode (layout ind add nl k)) =
      stripWsKids (ks.map fun k => normNode (layout [] [] [] k))
  | [], _, _, _, _, _, _ => rfl
  | k :: ks, ind, add, nl, hi, ha, hnl => by
    simp only [List.map_cons, stripWsKids, strip_layout k ind add nl hi ha hnl,
      strip_layout_kids ks ind add nl hi ha hnl]
end

/-! ## trees without CR are not changed by `normText` -/

theorem noCR_text (b : Bool) (s : Str) : noCR (.text b s) = s.all (fun c => c != '\r') := by
  simp [noCR]

theorem padOk_allNoCR {s : Str} (h : padOk s = true) : s.all (fun c => c != '\r') = true := by
  simp only [padOk, List.all_eq_true, Bool.and_eq_true, bne_iff_ne] at h ⊢
  exact fun c hc => (h c hc).2

theorem noCRKids_prepend (a : Str) (L : List Node) (ha : a.all (fun c => c != '\r') = true)
    (hL : noCRKids L = true) : noCRKids (prepend a L) = true := by
  cases a with
  | nil => exact hL
  | cons c a =>
    cases L with
    | nil => simpa [prepend, noCRKids, noCR] using ha
    | cons n r =>
      cases n with
      | text b x =>
        simp only [noCRKids, noCR, Bool.and_eq_true] at hL
        simp only [List.all_cons, Bool.and_eq_true] at ha
        simp [prepend, noCRKids, noCR, List.all_append, ha.1, ha.2, hL.1, hL.2]
      | elem t a' ks =>
        simp only [noCRKids, noCR, Bool.and_eq_true] at hL
        simp only [List.all_cons, Bool.and_eq_true] at ha
        simp [prepend, noCRKids, noCR, ha.1, ha.2, hL.1, hL.2]

theorem noCRKids_mergeText (L : List Node) (hL : noCRKids L = true) : noCRKids (mergeText L) = true := by
  induction L with
  | nil => simpa [mergeText] using hL
  | cons n r ih =>
    simp only [noCRKids, Bool.and_eq_true] at hL
    cases n with
    | text b s =>
      rw [mergeText_text]
      exact noCRKids_prepend s _ (by simpa [noCR] using hL.1) (ih hL.2)
    | elem t a ks =>
      rw [mergeText_elem]
      simp [noCRKids, hL.1, ih hL.2]

mutual
theorem noCR_normNode : ∀ (n : Node), noCR n = true → noCR (normNode n) = true
  | .text b s, h => by simpa [normNode_text, noCR] using h
  | .elem t a ks, h => by
    simp only [noCR] at h
    rw [normNode_elem]; simp only [noCR]
    exact noCRKids_mergeText _ (noCRKids_normKids ks h)
theorem noCRKids_normKids : ∀ (ks : List Node), noCRKids ks = true → noCRKids (normKids ks) = true
  | [], _ => by simp [normKids, noCRKids]
  | k :: ks, h => by
    simp only [noCRKids, Bool.and_eq_true] at h
    simp [normKids, noCRKids, noCR_normNode k h.1, noCRKids_normKids ks h.2]
end

mutual
theorem noCR_layout : ∀ (n : Node) (ind add nl : Str), padOk ind = true → padOk add = true →
    padOk nl = true → noCR n = true → noCR (layout ind add nl n) = true
  | .text _ _, _, _, _, _, _, _, h => by simpa [layout] using h
  | .elem t a [], _, _, _, _, _, _, _ => by simp [layout, noCR, noCRKids]
  | .elem t a (k :: ks), ind, add, nl, hi, ha, hnl, h => by
    simp only [noCR] at h
    simp only [layout, noCR]
    split
    · simp [noCRKids, noCRKids_append, noCR, padOk_allNoCR (padOk_leadSp (k :: ks)),
        padOk_allNoCR (padOk_trailSp (k :: ks)),
        noCRKids_layoutKids (k :: ks) [] [] [] padOk_nil padOk_nil padOk_nil h]
    · simp [noCRKids, noCRKids_append, noCR, padOk_allNoCR hnl, padOk_allNoCR hi,
        noCRKids_layoutKids (k :: ks) (ind ++ add) add nl (padOk_append hi ha) ha hnl h]
theorem noCRKids_layoutKids : ∀ (ks : List Node) (ind add nl : Str), padOk ind = true → padOk add = true →
    padOk nl = true → noCRKids ks = true → noCRKids (layoutKids ind add nl ks) = true
  | [], _, _, _, _, _, _, _ => by simp [layoutKids, noCRKids]
  | k :: ks, ind, add, nl, hi, ha, hnl, h => by
    simp only [noCRKids, Bool.and_eq_true] at h
    simp [layoutKids, noCRKids, noCR, padOk_allNoCR hi, padOk_allNoCR hnl,
      noCR_layout k ind add nl hi ha hnl h.1, noCRKids_layoutKids ks ind add nl hi ha hnl h.2]
end

mutual
theorem normText_of_noCR : ∀ (n : Node), noCR n = true → normText n = n
  | .text b s, h => by
    simp only [noCR, List.all_eq_true, bne_iff_ne] at h
    simp [normText, normEol_of_noCR s h]
  | .elem t a ks, h => by
    simp only [noCR] at h
    simp [normText, normTextKids_of_noCR ks h]
theorem normTextKids_of_noCR : ∀ (ks : List Node), noCRKids ks = true → normTextKids ks = ks
  | [], _ => rfl
  | k :: ks, h => by
    simp only [noCRKids, Bool.and_eq_true] at h
    simp [normTextKids, normText_of_noCR k h.1, normTextKids_of_noCR ks h.2]
end

mutual
theorem noCR_normAttrs : ∀ (n : Node), noCR (normAttrs n) = noCR n
  | .text _ _ => by simp [normAttrs]
  | .elem t a ks => by simp [normAttrs, noCR, noCRKids_normAttrsKids ks]
theorem noCRKids_normAttrsKids : ∀ (ks : List Node), noCRKids (normAttrsKids ks) = noCRKids ks
  | [] => by simp [normAttrsKids]
  | k :: ks => by simp [normAttrsKids, noCRKids, noCR_normAttrs k, noCRKids_normAttrsKids ks]
end

mutual
theorem noCR_of_WF : ∀ (n : Node), n.WF = true → noCR n = true
  | .text _ s, h => by
    simp only [Node.WF, List.all_eq_true, textCharOk, Bool.and_eq_true] at h
    simp only [noCR, List.all_eq_true]
    exact fun c hc => (h c hc).2
  | .elem t a ks, h => by
    simp only [Node.WF, Bool.and_eq_true] at h
    simp only [noCR]; exact noCRKids_of_WFKids ks h.2
theorem noCRKids_of_WFKids : ∀ (ks : List Node), WFKids ks = true → noCRKids ks = true
  | [], _ => rfl
  | k :: ks, h => by
    simp only [WFKids, Bool.and_eq_true] at h
    simp [noCRKids, noCR_of_WF k h.1, noCRKids_of_WFKids ks h.2]
end

theorem normText_norm_layout (n : Node) (ind add nl : Str) (hi : padOk ind = true) (ha : padOk add = true)
    (hnl : padOk nl = true) (h : noCR n = true) :
    normText (normNode (layout ind add nl n)) = normNode (layout ind add nl n) :=
  normText_of_noCR _ (noCR_normNode _ (noCR_layout n ind add nl hi ha hnl h))


/-! ## `stripWs` commutes with `normText` -/

theorem isWsOnly_normEol (s : Str) : isWsOnly (normEol s) = isWsOnly s := by
  have h1 : isWs '\r' = true := by decide
  have h2 : isWs '\n' = true := by decide
  induction s using normEol.induct with
  | case1 => rfl
  | case2 s ih =>
    rw [normEol_cr_lf]
    simpa only [isWsOnly, List.all_cons, h1, h2, Bool.true_and] using ih
  | case3 c s hc ih =>
    rw [normEol.eq_3 c s hc]
    simp only [isWsOnly] at ih
    by_cases hcr : c = '\r'
    · subst hcr
      simp [isWsOnly, h1, h2, ih]
    · simp [isWsOnly, hcr, ih]

theorem realText_normText (k : Node) : realText (normText k) = realText k := by
  cases k with
  | text b s => simp [normText, realText, isWsOnly_normEol s]
  | elem _ _ _ => simp [normText, realText]

theorem stripCond_normTextKids (ks : List Node) : stripCond (normTextKids ks) = stripCond ks := by
  simp only [stripCond, normTextKids_eq, List.any_map, Function.comp_def, realText_normText, isText_normText]

theorem filter_normTextKids (ks : List Node) :
    (normTextKids ks).filter (fun k => !isText k) = normTextKids (ks.filter fun k => !isText k) := by
  simp only [normTextKids_eq, List.filter_map, Function.comp_def, isText_normText]

mutual
theorem stripWs_normText : ∀ (n : Node), stripWs (normText n) = normText (stripWs n)
  | .text _ _ => by simp [normText, stripWs]
  | .elem t a ks => by
    simp only [normText, stripWs_elem, stripCond_normTextKids, stripWsKids_normTextKids ks]
    split <;> simp [normText, filter_normTextKids]
theorem stripWsKids_normTextKids : ∀ (ks : List Node),
    stripWsKids (normTextKids ks) = normTextKids (stripWsKids ks)
  | [] => rfl
  | k :: ks => by
    simp [normTextKids, stripWsKids, stripWs_normText k, stripWsKids_normTextKids ks]
end

end Pyxv.Xml
